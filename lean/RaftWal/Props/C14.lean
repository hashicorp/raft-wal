/-
  C14 — Close is safe, idempotent and final.
  Models: Model/Conc.lean (small-step: readers, the writer's queued state changes, Close; one shared-memory access
  per step; schedules are arbitrary lists of thread ids) and, for the write path, Model/ConcW.lean.  Facts tying the
  models' configurations to wal.go are regenerated on every run (Generated/Conc.lean).  Forced schedules on the real
  code are compared with these models by the conc suite.
-/
import RaftWal.Generated.Conc
import RaftWal.Proofs.ConcProps
import RaftWal.Proofs.ConcWProps
import RaftWal.Props.C06
namespace RaftWal.C14
open RaftWal RaftWal.Conc

/-- T1: the guards of the source that the configurations `Conc.fixed` (the first) and `ConcW.fixed` (the other three) stand for -/
theorem readers_check_empty_state : Generated.readersCheckEmptyState = true := by decide
theorem writers_recheck_closed_under_lock : Generated.writersRecheckClosedUnderLock = true := by decide
theorem close_wakes_rotation_waiter : Generated.closeWakesRotationWaiter = true := by decide
theorem rotation_rechecks_closed : Generated.rotationRechecksClosed = true := by decide

/-- the model configuration is the one read from the source -/
theorem cfg_from_source : ({ readersCheckEmpty := Generated.readersCheckEmptyState } : Cfg) = Conc.fixed := by decide

/-- **no panic under any schedule** -/
theorem no_panic (files wants : List FileId) (muts : List Mutation) (s : Sys) (h : Reachable files wants muts s) :
    ∀ r ∈ s.readers, r.pc ≠ .done .panic ∧ ∀ sid, r.pc ≠ .finished sid .panic :=
  Conc.no_panic files wants muts s h

/-- non-vacuity of the repair: the pinned code's reader (no empty-state test) does panic under a 7-step schedule -/
theorem panic_witness_unfixed :
    ∃ sched, ∃ r ∈ (run { readersCheckEmpty := false } (init [1] [1] []) sched).readers, r.pc = .done .panic :=
  Conc.panic_witness_unfixed

/-- **Close is final**: a call starting after the flag is set returns ErrClosed -/
theorem closed_is_final (s : Sys) (i : Nat) (r : Reader) (hr : s.readers[i]? = some r) (hpc : r.pc = .start)
    (hcl : s.closed = true) : ((stepReader fixed s i).readers[i]?.map (·.pc)) = some (.done .errClosed) :=
  Conc.closed_is_final s i r hr hpc hcl

/-- **every handle is released, once, after the last reader**: when Close, the writer and all readers are done,
    every file any state ever referenced is closed, and no handle was closed twice on the way -/
theorem close_releases_all (files wants : List FileId) (muts : List Mutation) (hwf : InitWF files muts) (s : Sys)
    (h : Reachable files wants muts s) (hc : s.cpc = .done) (hw : s.wpc = .idle)
    (hr : ∀ r ∈ s.readers, ∃ res, r.pc = .done res) (hclosed : s.closed = true) :
    (∀ sid, sid < s.objs.length → ∀ f ∈ (s.obj sid).files, s.isOpen f = false) ∧ s.doubleClose = false :=
  ⟨Conc.close_releases_all files wants muts hwf s h hc hw hr hclosed, Conc.no_double_close files wants muts hwf s h⟩

/-! ## the write path: StoreLogs / DeleteRange against Close and the background rotation (Model/ConcW.lean).
    The three guards of the code are the model's configuration, read from wal.go on every run. -/

/-- the model configuration is the one read from the source -/
theorem cfgW_from_source :
    ({ recheckAfterAwait := Generated.writersRecheckClosedUnderLock, closeWakes := Generated.closeWakesRotationWaiter,
       rotatorRechecks := Generated.rotationRechecksClosed } : ConcW.Cfg) = ConcW.fixed := by decide

/-- **no write call and no rotation panics** under any schedule of any number of write calls, the rotation goroutine and
    Close — with appends issued one at a time (hashicorp/raft's single appender; DeleteRange and Close at any time) -/
theorem write_path_no_panic (seals : List Bool) (s : ConcW.Sys) (h : ConcW.Reachable1 seals s) :
    s.bad = false ∧ ∀ w ∈ s.writers, w.pc ≠ .done .panic :=
  ConcW.no_runtime_panic_corrected seals s h

/-- writers themselves never panic under ANY schedule, also with concurrent appenders -/
theorem writers_never_panic (seals : List Bool) (s : ConcW.Sys) (h : ConcW.Reachable seals s) :
    ∀ w ∈ s.writers, w.pc ≠ .done .panic :=
  ConcW.no_runtime_panic_writers seals s h

/-- **every write call returns a result or ErrClosed** (any schedule) -/
theorem write_results (seals : List Bool) (s : ConcW.Sys) (h : ConcW.Reachable seals s) (w : ConcW.Writer)
    (hw : w ∈ s.writers) (r : ConcW.WRes) (hr : w.pc = .done r) : r = .ok ∨ r = .errClosed :=
  ConcW.results seals s h w hw r hr

/-- **no write uses the state once Close has returned**, and **nothing runs after Close**: no rotation (meta commit,
    file creation) is performed after Close returned (any schedule) -/
theorem nothing_after_close (seals : List Bool) (s : ConcW.Sys) (h : ConcW.Reachable seals s) :
    s.ioAfterClose = false ∧ (s.cpc = .done → ∀ w ∈ s.writers, w.pc ≠ .use) :=
  ⟨ConcW.no_io_after_close seals s h, ConcW.no_use_after_close seals s h⟩

/-- **no deadlock**: while a write call has not returned or Close is under way, some thread can move (single appender) -/
theorem write_path_no_deadlock (seals : List Bool) (s : ConcW.Sys) (h : ConcW.Reachable1 seals s)
    (hp : (∃ w ∈ s.writers, ∀ r, w.pc ≠ .done r) ∨ s.cpc = .flagged ∨ s.cpc = .locked) :
    ∃ t, ConcW.step1 ConcW.fixed s t ≠ s :=
  ConcW.no_deadlock_corrected seals s h hp

/-- the write lock is held by at most one thread (any schedule) -/
theorem write_lock_exclusive (seals : List Bool) (s : ConcW.Sys) (h : ConcW.Reachable seals s) :
    ConcW.holders s = (if s.lock then 1 else 0) :=
  ConcW.mutual_exclusion seals s h

/-- two of the three write-path guards are needed: switching one off yields a panic (the third, `closeWakes`, guards against a
    deadlock, which this statement does not cover) -/
theorem guards_needed :
    (∃ seals sched, (ConcW.run { ConcW.fixed with recheckAfterAwait := false } (ConcW.init seals) sched).bad = true) ∧
    (∃ seals sched, (ConcW.run { ConcW.fixed with rotatorRechecks := false } (ConcW.init seals) sched).bad = true) :=
  ⟨ConcW.panic_without_recheck, ConcW.panic_without_rotator_recheck⟩

/-- OBSERVATION (not covered by the single-writer discipline the properties assume): with three or more CONCURRENT
    filling appends the single `if` in awaitRotationLocked lets a woken writer overwrite a pending rotation channel —
    the unrestricted statements are false, with concrete schedules -/
theorem concurrent_appenders_can_break : ¬ ConcW.no_runtime_panic_stmt ∧ ¬ ConcW.no_deadlock_stmt :=
  ⟨ConcW.no_runtime_panic_refuted, ConcW.no_deadlock_refuted⟩

/-- every reference a call takes on the current state is given back exactly once (read from the source on every run: each
    `acquireState()` site declares fresh variables and defers the release in the next statement) — the discipline the
    readers of `Model.Conc` follow and `refcount_exact` / `no_double_close` / the reclaim theorems rest on -/
theorem every_acquire_is_released_once : Generated.everyAcquireHasDeferredRelease = true :=
  C06.every_acquire_is_released_once

/-- the reference count of a state is touched by `acquire` and `release` only (read from the source): every decrement goes
    through `release`, which runs the finalizer at zero — the step `Model.Conc` takes -/
theorem refcount_only_through_acquire_release :
    Generated.refCountTouchedBy = ["state.acquire", "state.release"] :=
  C06.refcount_only_through_acquire_release

end RaftWal.C14
