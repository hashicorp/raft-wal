/-
  C01 — Acknowledged appends survive any crash.
  Byte level (one segment file): every acknowledged batch survives recovery from any torn later write and any chain
  of tears, recoveries and restarts.  WAL level: the I/O-action model Model/Crash.lean, tied to wal.go by the crash suite.
-/
import RaftWal.Generated.WalLogic
import RaftWal.Proofs.WalDecide
import RaftWal.Proofs.SegmentTorn
import RaftWal.Proofs.SegmentChain
import RaftWal.Proofs.SegmentL1Run
import RaftWal.Proofs.CrashCorollaries
namespace RaftWal.C01
open RaftWal

/-- **acknowledged entries survive a clean restart**: recovery of the file a run of acknowledged appends left
    behind yields a writer that reports exactly those entries (same offsets, same commit index) -/
theorem acked_survive_restart (info : SegInfo) (bs : List (List Bytes)) (hwf : RunWF info bs)
    (w : Writer) (file : Bytes)
    (hrun : (freshSegment info).1.appendAll (freshSegment info).2 info.base bs = some (w, file)) :
    ((recoverTail info file).toOption.map (fun p => p.1.obs)) = some w.obs :=
  (RaftWal.recover_untorn info bs hwf w file hrun).1

/-- **acknowledged entries survive any torn later write** (L1 `recover_acked_prefix`): after a run of
    acknowledged appends `bs` (at least one) and an in-flight batch torn in any way, recovery succeeds and the
    recovered writer reports (`obs`) exactly what the writer reported before the in-flight append, or after it -/
theorem acked_survive_torn_write (info : SegInfo) (bs : List (List Bytes)) (b : List Bytes) (hne : bs ≠ [])
    (hwf : RunWF info (bs ++ [b])) (w : Writer) (file : Bytes)
    (hrun : (freshSegment info).1.appendAll (freshSegment info).2 info.base bs = some (w, file))
    (w' : Writer) (file' : Bytes)
    (happ : w.append file (indexBatch (info.base + bs.flatten.length) b) .none = (none, w', file'))
    (mask : Nat → Bool) :
    let img := tearImage file file' w.writeOffset (w'.writeOffset - w.writeOffset) mask
    ∃ wr img', recoverTail info img = .ok (wr, img') ∧ (wr.obs = w.obs ∨ wr.obs = w'.obs) := by
  intro img
  obtain ⟨wr, img', h, hc⟩ := recover_torn_atomic_partial info bs b hne hwf w file hrun w' file' happ mask
  exact ⟨wr, img', h, hc.elim (fun h => .inl h.1) (fun h => .inr h.1)⟩

/-- **acknowledged batches survive every chain of tears, recoveries and restarts on a segment file** (byte level,
    any number of cycles; `ChainEv`, `chainRun`, `chainSpec`: Proofs/SegmentChain.lean, described in Props/C02): each batch whose append
    returned is in the file the last recovery leaves, readable at its index (`ChainResult.readable`), and nothing the file
    holds was not submitted. The only alternative is an explicit CRC-32C collision of a torn image. -/
theorem acked_survive_any_chain (info : SegInfo) (evs : List ChainEv) (hwf : ChainWF info evs) :
    ChainCollision info evs ∨ ∃ w file bs, ChainResult info evs w file bs ∧ (∀ b, ChainEv.append b ∈ evs → b ∈ bs)
      ∧ (∀ b ∈ bs, b ∈ chainBatches evs) :=
  RaftWal.chain_acked_survive info evs hwf

/-- the writer makes an entry visible (`commitIdx`) only in the same step that records the fsync'd batch:
    a fault-free append sets the commit index to the last index of the batch it just flushed and synced -/
theorem visible_only_after_sync (w : Writer) (file : Bytes) (es : List (Nat × Bytes)) (w' : Writer) (file' : Bytes)
    (h : w.append file es .none = (none, w', file')) (hne : es.isEmpty = false) :
    w'.commitIdx = ((es.getLast?.map (·.1)).getD 0) := by
  unfold Writer.append at h
  simp only [hne, Bool.false_eq_true, if_false] at h
  split at h
  · simp at h
  · split at h
    · simp at h
    · split at h
      · simp at h
      · split at h
        · simp at h
        · simp only [Prod.mk.injEq, true_and] at h
          rw [← h.1]

/-! ## WAL level: the durability protocol (Model/Crash.lean — meta commits, file creation, rotation, truncation, Open,
    tied to wal.go by the crash suite's action-by-action and image-by-image correspondence).  `Crash.QuiescentS` is
    the invariant of a live process between calls; it holds after Open on an empty directory, after every completed
    call and after every recovery (`Crash.init_quiescentS`, `Crash.call_refines_corrected`, `Crash.crash_safe_corrected`). -/

/-- **every entry in the log survives every crash of every later call that does not delete it** — appends (with
    rotation or base reset), truncations, stable writes, cut at any I/O boundary by a process crash or by a power loss
    with any choice of surviving un-fsynced batches and directory entries, recovered by any number of Opens that are
    themselves cut -/
theorem entries_survive_any_crash (d : Crash.Disk) (hq : Crash.QuiescentS d) (op : Crash.Op) (hok : op.ok d) (k : Nat)
    (c : Crash.CrashKind) (d1 d' : Crash.Disk) (hr : Crash.ReachRec (Crash.crashAfter d (Crash.prog d op) k c) d1)
    (ho : Crash.openResult d1 = some d') (p : Nat × Crash.Entry) (hp : p ∈ Crash.absLog d)
    (hnr : op.removes p.1 = false) : p ∈ Crash.absLog d' :=
  Crash.entries_survive d hq op hok k c d1 d' hr ho p hp hnr

/-- **once StoreLogs has returned** the log every recovery comes back with is the old log followed by exactly the
    appended entries, and the recovered state is again one from which all of this holds -/
theorem acked_append_survives_any_crash (d : Crash.Disk) (hq : Crash.QuiescentS d) (first : Nat) (es : List Crash.Entry)
    (s : Bool) (hok : (Crash.Op.store first es s).ok d) (k : Nat) (c : Crash.CrashKind) (d1 d' : Crash.Disk)
    (hr : Crash.ReachRec (Crash.crashAfter d (Crash.prog d (.store first es s)) k c) d1)
    (ho : Crash.openResult d1 = some d') (hack : Crash.ackPos (Crash.prog d (.store first es s)) < k) :
    Crash.absLog d' = Crash.absLog d ++ Crash.appended first es ∧ Crash.QuiescentS d' :=
  Crash.acked_append_survives d hq first es s hok k c d1 d' hr ho hack

/-- the hypotheses are met by the state Open leaves on an empty directory -/
theorem protocol_init : ∃ d, Crash.openResult Crash.emptyDisk = some d ∧ Crash.QuiescentS d ∧ Crash.absLog d = [] :=
  Crash.init_quiescentS

/-- which segments a truncation keeps, as wal.go decides it (read from the source on every run): a tail truncation keeps
    every segment whose first index is at or below the new last index; a head truncation keeps the tail if it holds the new
    first index and a sealed segment if its last index is at or above it -/
theorem truncation_scans_from_source (s : SegS) (stateLast newMin newMax : Nat) :
    (((¬ s.sealed ∧ stateLast ≥ newMin) ∨ (s.sealed ∧ s.max ≥ newMin)) ↔
        Generated.truncateHeadStopsAt s.sealed s.base s.min s.max stateLast newMin = true) ∧
    ((s.base ≤ newMax) ↔ Generated.truncateTailKeeps s.base s.min s.max newMax = true) :=
  ⟨RaftWal.truncateHead_stop_eq_source s stateLast newMin, RaftWal.truncateTail_keep_eq_source s newMax⟩

end RaftWal.C01
