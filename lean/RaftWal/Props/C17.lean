/-
  C17 — Verifier detects every divergence inside a verified range.
-/
import RaftWal.Proofs.VerifierDecide
import RaftWal.Proofs.VerifierReach
import RaftWal.Generated.Verifier
import RaftWal.Generated.Consts
import RaftWal.Props.C16
namespace RaftWal.C17
open RaftWal RaftWal.Verifier

/-- T1: the statements of `checksumLog` in the current source are the ones the model implements: the bootstrap
    carve-out, Index, Term, Type as 8 bytes each, Data, Extensions when non-empty, in that order -/
theorem checksumLog_source_shape : Generated.checksumLogStmts =
    [("if log.Index == 1 && log.Type == raft.LogConfiguration", "return 0;"),
     ("do", "sum = fnv1a.AddUint64(sum, log.Index)"),
     ("do", "sum = fnv1a.AddUint64(sum, log.Term)"),
     ("do", "sum = fnv1a.AddUint64(sum, uint64(log.Type))"),
     ("do", "sum = fnv1a.AddBytes64(sum, log.Data)"),
     ("if len(log.Extensions) > 0", "sum = fnv1a.AddBytes64(sum, log.Extensions);"),
     ("return", "sum")] := rfl

/-- T1: the checkpoint metadata layout (magic, start index, sum at offsets 0/8/16, little endian) -/
theorem checkpointMeta_layout :
    Generated.encodeCheckpointMetaLayout =
      [(0, 8, "put-le64", "ExtensionMagicPrefix"), (8, 16, "put-le64", "startIdx"), (16, 24, "put-le64", "sum")] ∧
    Generated.decodeCheckpointMetaLayout =
      [(0, 8, "get-le64-into", "magic"), (8, 16, "get-le64-into", "startIdx"), (16, 24, "get-le64-into", "sum")] ∧
    Generated.ver_ExtensionMagicPrefix = extensionMagic := ⟨rfl, rfl, rfl⟩

/-- **verdict table**: for a fresh report, ErrChecksumMismatch "in flight" is reported exactly when the node
    wrote a different non-zero sum than the leader; "at rest" exactly when — the written sum being absent or
    equal — the node holds the range and the chain over what its store returns differs from the leader's sum -/
theorem verdict_table (n : Node) (r : Report) (hopen : n.store.closed = false) (hfresh : r.err = .none) :
    ((n.verify r).2.err = .checksumInFlight ↔ (r.written ≠ 0 ∧ r.written ≠ r.expected)) ∧
    ((n.verify r).2.err = .checksumStorage ↔
        (¬ (r.written ≠ 0 ∧ r.written ≠ r.expected) ∧ n.store.firstIndex ≤ r.start ∧
         ∃ es, readRange n r.start (r.stop - r.start) = some es ∧ chain 0 es ≠ r.expected)) :=
  verify_verdict_fresh n r hopen hfresh

/-- **detects, up to collisions**: if the node holds the range, the entries its store returns chain to a value
    different from the leader's sum, then the delivered report carries a checksum mismatch -/
theorem detects_mod_collision (n : Node) (r : Report) (es : List Log) (hopen : n.store.closed = false)
    (hfresh : r.err = .none) (hfirst : n.store.firstIndex ≤ r.start)
    (hread : readRange n r.start (r.stop - r.start) = some es) (hne : chain 0 es ≠ r.expected) :
    (n.verify r).2.err = .checksumInFlight ∨ (n.verify r).2.err = .checksumStorage := by
  have h := verify_verdict_fresh n r hopen hfresh
  by_cases hw : r.written ≠ 0 ∧ r.written ≠ r.expected
  · exact .inl (h.1.mpr hw)
  · exact .inr (h.2.mpr ⟨hw, hfirst, es, hread, hne⟩)

/-- **single substitution is always detected** — no collision is possible: two FNV-1a inputs that differ in
    exactly one byte give different sums from any starting state -/
theorem single_substitution_always_detected (h : UInt64) (p t : Bytes) (a b : UInt8) (hab : a ≠ b) :
    fnvBytes h (p ++ a :: t) ≠ fnvBytes h (p ++ b :: t) :=
  fnvBytes_single_substitution h p t a b hab

/-- a one-byte change of Data changes the entry's checksum with certainty -/
theorem detects_data_byte (s : UInt64) (l : Log) (p t : Bytes) (a b : UInt8) (hab : a ≠ b)
    (hl : Hashed l) (hd : l.data = p ++ a :: t) :
    checksumLog s l ≠ checksumLog s { l with data := p ++ b :: t } :=
  checksumLog_detects_data_byte s l p t a b hab hl hd

/-- a change of Term confined to one of its 8 bytes changes the entry's checksum with certainty
    (Index and Type are hashed the same way) -/
theorem detects_term_byte (s : UInt64) (l : Log) (t' : Nat) (p q : Bytes) (a b : UInt8) (hab : a ≠ b)
    (hl : Hashed l) (h1 : putBE 8 l.term = p ++ a :: q) (h2 : putBE 8 t' = p ++ b :: q) :
    checksumLog s l ≠ checksumLog s { l with term := t' } :=
  checksumLog_detects_term_byte s l t' p q a b hab hl h1 h2

/-- **blame is sound**: an in-flight verdict means the node's written sum — which is its running checksum over
    what it passed to its store (C16.running_sum_invariant) — really differs from the leader's -/
theorem inflight_blame_sound (n : Node) (r : Report) (hopen : n.store.closed = false) (hfresh : r.err = .none)
    (h : (n.verify r).2.err = .checksumInFlight) : r.written ≠ 0 ∧ r.written ≠ r.expected :=
  (verify_verdict_fresh n r hopen hfresh).1.mp h

/-- documented carve-out: the bootstrap configuration entry at index 1 hashes to 0 whatever it contains -/
theorem bootstrap_entry_ignored (s : UInt64) (l : Log) (h : l.index = 1 ∧ l.typ = logConfiguration) :
    checksumLog s l = 0 := by
  simp [checksumLog, h]

/-- the running sum never covers a batch the store underneath refused: the code publishes it only after the store
    accepted the batch (fact), as `Node.storeLogs` does — so in-flight blame cannot stem from a rejected append -/
theorem sum_never_covers_rejected_batch : Generated.verifierPublishesAfterStore = true :=
  C16.sum_published_after_store

/-- in-flight corruption is blamed exactly when the node's written sum is set and differs from the leader's — the condition
    translated from `verify` on every run is the model's -/
theorem inflight_blame_condition_from_source (r : Verifier.Report) :
    (r.written ≠ 0 ∧ r.written ≠ r.expected) ↔
      Generated.verifyBlamesInFlight r.written.toNat r.expected.toNat = true :=
  Verifier.inflight_blame_eq_source r

/-! ### the systematic blind spot, stated exactly (recorded observation, DESIGN §0.6)

    `checksumLog` feeds Data and then Extensions to FNV-1a back to back, with no length or separator in between. Moving
    bytes across that boundary changes both fields and no sum: not a chance collision of the 64-bit hash but an identity
    of its input. Every other single- or multi-field difference changes `hashInput` (the fixed-width Index/Term/Type
    prefix and the concatenation). -/

theorem boundary_shift_undetected (s : UInt64) (l : Log) (d e : Bytes) (h : d ++ e = l.data ++ l.ext) :
    Verifier.checksumLog s { l with data := d, ext := e } = Verifier.checksumLog s l := by
  unfold Verifier.checksumLog Verifier.hashInput
  simp only [List.append_assoc]
  rw [h]

/-- concretely: Data = "ab", Extensions = "c" and Data = "a", Extensions = "bc" have the same sum from every start -/
example (s : UInt64) :
    Verifier.checksumLog s { index := 7, term := 2, typ := 0, data := [0x61, 0x62], ext := [0x63], time := none } =
    Verifier.checksumLog s { index := 7, term := 2, typ := 0, data := [0x61], ext := [0x62, 0x63], time := none } :=
  boundary_shift_undetected s { index := 7, term := 2, typ := 0, data := [0x61], ext := [0x62, 0x63], time := none }
    [0x61, 0x62] [0x63] rfl

end RaftWal.C17
