/-
  C10 — I/O errors never cost acknowledged data.
  Byte level: rollback of the writer.  WAL level: whole histories of calls, each under any fault plan, in Model/Fault.lean,
  tied to the code by the `faultmodel` suite.
-/
import RaftWal.Proofs.SegmentChainRepair
import RaftWal.Generated.SegWriter
import RaftWal.Proofs.SegmentChainFault
import RaftWal.Proofs.SegmentFaults
import RaftWal.Proofs.CrashCorollaries
import RaftWal.Proofs.FaultProps
namespace RaftWal.C10
open RaftWal

/-- a failed `Append` (write error after any prefix landed, or fsync error) leaves the in-memory writer exactly
    as it was — offsets, commit index, write offset, CRC, buffer — so nothing of the failed batch is visible to
    readers of the running process, and it reports an error -/
theorem failed_append_invisible (w : Writer) (file : Bytes) (es : List (Nat × Bytes)) (f : IoFault) (hf : f ≠ .none)
    (hne : es.isEmpty = false) :
    (w.append file es f).2.1 = w ∧ (w.indexStart = 0 → (w.append file es f).1.isSome) :=
  append_fault_rollback w file es f hf hne

/-- a failed `ForceSeal` leaves the writer as it was (not marked sealed) -/
theorem failed_forceSeal_rolled_back (w : Writer) (file : Bytes) (f : IoFault) (e : SegErr)
    (h : (w.forceSeal file f).1 = .error e) : (w.forceSeal file f).2.1 = w :=
  forceSeal_fault_rollback w file f e h

/-! ## WAL level (Model/Crash.lean): a failing call followed at once by a restart.
    An I/O error that stops a call after k of its actions leaves on disk exactly what a process crash at that point
    leaves (the in-memory roll-back is the byte-level theorem above).  Further calls on top of such a state before the
    restart are the histories of the next section, of which this is a special case. -/

/-- **clause (c) and (a) for an immediate restart**: whatever action the call fails at, the log every recovery comes back
    with is the log before the call or the log after it in full, entries the call does not delete are all there, and the
    recovered state is one from which every legal call behaves as specified -/
theorem failed_call_then_restart_partial (d : Crash.Disk) (hq : Crash.QuiescentS d) (op : Crash.Op) (hok : op.ok d)
    (k : Nat) (d1 d' : Crash.Disk) (hr : Crash.ReachRec (Crash.crashAfter d (Crash.prog d op) k .proc) d1)
    (ho : Crash.openResult d1 = some d') :
    Crash.QuiescentS d' ∧
    (Crash.absLog d' = Crash.absLog d ∨ Crash.absLog d' = Crash.specApply (Crash.absLog d) op) ∧
    (∀ p ∈ Crash.absLog d, op.removes p.1 = false → p ∈ Crash.absLog d') :=
  ⟨(Crash.crash_safe_corrected d hq op hok k .proc d1 d' hr ho).1,
   (Crash.crash_safe_corrected d hq op hok k .proc d1 d' hr ho).2.1,
   fun p hp hnr => Crash.entries_survive d hq op hok k .proc d1 d' hr ho p hp hnr⟩

/-! ## WAL level, whole histories (Model/Fault.lean): any sequence of calls, each under any fault plan — any number of its
    I/O actions failing (a write leaving nothing, part or all of its batch; an fsync; a create; a meta commit; a stable set;
    deletes; the background rotation's actions included), the calls that follow running on top of what the failed ones left.
    `Epoch p0 h p`: from the state `p0` an Open left, the calls of history `h` (each with its result) lead to `p`.
    The tie of `Model.Fault` to the code is the `faultmodel` suite: every call and every action of it failed in turn on the
    real WAL, result / readers' log / recovered log compared with the model, the invariant evaluated on every state. -/

/-- **(a) and (b) in the running process**: whatever failed, readers see exactly the calls that returned nil — no
    acknowledged entry is missing or altered, nothing of a failed call is visible -/
theorem readers_see_exactly_the_acknowledged_calls (p0 p : Fault.Proc) (h : Fault.Hist) (hf : Fault.Fresh p0)
    (he : Fault.Epoch p0 h p) : Fault.view p = Fault.replay (Fault.view p0) h :=
  Fault.epoch_view p0 h p hf he

/-- **(a) and (c) after a clean restart**: Open succeeds and leaves a state from which the same theorems apply again; the
    log it recovers is the history with every call that returned nil applied and each call that returned an error applied in
    full or not at all -/
theorem restart_applies_failed_calls_in_full_or_not_at_all (p0 p : Fault.Proc) (h : Fault.Hist) (hf : Fault.Fresh p0)
    (he : Fault.Epoch p0 h p) :
    ∃ p', Fault.restart p = some p' ∧ Fault.Fresh p' ∧
      ∃ c, Fault.Resolves h c ∧ Fault.view p' = Fault.replay (Fault.view p0) c :=
  Fault.epoch_restart p0 h p hf he

/-- one call: the readers' log changes exactly when the call returns nil, and then as specified -/
theorem failed_call_invisible_successful_call_applied (p : Fault.Proc) (hi : Fault.FInv p) (op : Crash.Op)
    (hok : Fault.OkV (Fault.view p) op) (pl : Fault.Plan) :
    Fault.view (Fault.runOp p op pl).1 =
      if (Fault.runOp p op pl).2 then Crash.specApply (Fault.view p) op else Fault.view p :=
  Fault.call_view p hi op hok pl

/-- the invariant the above rest on holds in every state of every history (it is executable: the correspondence
    harness evaluates it on every state the model reaches while shadowing the real code) -/
theorem fault_invariant_always (p0 p : Fault.Proc) (h : Fault.Hist) (hf : Fault.Fresh p0) (he : Fault.Epoch p0 h p) :
    Fault.FInvS p :=
  Fault.epoch_inv p0 h p hf he

/-- the process Open leaves on an empty directory is a legitimate start (non-vacuity) -/
theorem fault_model_starts : ∃ p, Fault.init = some p ∧ Fault.Fresh p ∧ Fault.view p = [] := Fault.init_fresh

/-- without a fault the fault model is the crash model: same actions, the call returns nil -/
theorem fault_model_extends_crash_model (p : Fault.Proc) (hf : Fault.Fresh p) (op : Crash.Op) (hok : op.ok p.disk)
    (pl : Fault.Plan) (hpl : pl.all (·.isNone) = true) :
    (Fault.runOp p op pl).1.disk = p.disk.applyAll (Crash.prog p.disk op) ∧ (Fault.runOp p op pl).2 = true ∧
    (Fault.runOp p op pl).1.frozen = none :=
  Fault.no_fault_agrees p hf op hok pl hpl

/-- the restart theorems as first stated (for the weaker invariant) are false: kept with their refutations -/
theorem restart_needs_the_stronger_invariant : ¬ Fault.restart_total_stmt0 ∧ ¬ Fault.restart_view_stmt0 :=
  ⟨Fault.restart_total_refuted, Fault.restart_view_refuted⟩

/-! ### chains with I/O faults: failed appends, whose bytes stay behind the tail (defect O21)

    `ChainEvF` adds `failed b fault` to the chain events: an append that fails on an injected write or fsync fault — the
    call returns an error, the writer is rolled back in memory, the file keeps what landed. `chain_atomic_faults_stmt` says
    of such chains what `chain_atomic` says of fault-free ones (every acknowledged batch present, anything else present is
    one whole submitted batch — the pending failed one included, as C10 allows —, nothing partial, nothing fabricated,
    modulo CRC-32C collisions). For the unrepaired writer (`Writer.append`: rollback in memory only) it is FALSE, as it was of the code
    before the repair; the repaired writer is `appendD` / `forceSealD` (Model/SegmentRepair.lean), which is what the segment
    suite compares the code with: -/

/-- the witness, evaluated by the kernel: an acknowledged append, an append whose fsync fails and whose single payload
    embeds an entry frame `[42]` and a commit frame with that frame's CRC-32C, a shorter acknowledged append, a restart —
    three entries are recovered and index 7 reads `[42]`, which nobody stored. No CRC collision is involved. The same
    input is run on the real code by the segment suite on every run (`seg-staleinject-*`: since the repair it must come back with
    the two acknowledged entries only). -/
theorem failed_append_stale_bytes_fabricate_an_entry : type_of% RaftWal.faultW3_outcome :=
  -- the statement (Proofs/SegmentChainFault.lean): `chainRunF faultInfo (freshSegment faultInfo) faultW3` is `.ok p` with
  -- `p.1.offsets.length = 3` and `p.1.getLog p.2 7 64 = .ok [42]`
  RaftWal.faultW3_outcome

theorem chain_atomic_with_faults_refuted : ¬ chain_atomic_faults_stmt := RaftWal.chain_atomic_faults_false

/-- what does hold (**partial**: fsync faults only, each failed append followed directly by a restart; `.write n` faults
    and appends over the stale bytes of a failed one are exactly where the refutation lives): such a chain behaves as the
    fault-free chain in which the failed batch was appended, and ends with a clean region behind the tail -/
theorem chain_atomic_faults_partial (info : SegInfo) (evs : List ChainEvF) (l : List ChainEv)
    (hp : plainOf evs = some l) (hwf : ChainWFF info evs) :
    ChainCollision info l
    ∨ ∃ w file bs, FaultResult info evs w file bs ∧ ChainResult info l w file bs
        ∧ (∀ x ∈ file.drop w.writeOffset, x = 0) :=
  RaftWal.chain_atomic_faults_partial info evs l hp hwf

/-! ### the repair of O21 (fix 2e58a17 in /repo), tied to the code by the fact `writer_clears_stale_tail_before_write` and by
    the segment suite, whose model side runs `appendD` / `forceSealD`

    `Model/SegmentRepair.lean`: the writer with a `dirty` flag (`WriterD`); `appendD` first zeroes and fsyncs what a failed
    append left behind the tail (`clearStale`; the step can itself be hit by the fault: fsync fails after the zeros were
    written, or only a prefix of the zeroing write lands), refuses the append if that fails, then appends as today. -/

/-- with the repair, the three witnesses of O21 no longer fabricate or half-apply anything (kernel-evaluated) -/
theorem repaired_witnesses : type_of% RaftWal.faultW3_repaired ∧ type_of% RaftWal.faultW1_repaired ∧ type_of% RaftWal.faultW2_repaired :=
  ⟨RaftWal.faultW3_repaired, RaftWal.faultW1_repaired, RaftWal.faultW2_repaired⟩

/-- **partial** (failed appends that fail on their fsync, any number, anywhere in the chain, several in a row): for the
    repaired writer the statement that O21 refutes holds — every acknowledged batch present and readable, anything else
    present is one whole submitted batch, nothing partial, nothing fabricated, zeros behind the tail whenever the flag is
    clear — or an explicit CRC-32C collision of a torn image. Missing: `.write n` faults (the ghost specification has to
    admit an earlier failed batch when a later failed append never got past the clearing step: `repairW4_no_result`). -/
theorem chain_atomic_repaired_sync (info : SegInfo) (evs : List ChainEvF) (hwf : ChainWFF info evs) (hsync : SyncOnly evs) :
    ChainCollisionD info evs ∨ ∃ s file bs, RepairResult info evs s file bs :=
  RaftWal.chain_atomic_repaired_sync info evs hwf hsync

/-- T1: `Writer.sync` clears what a failed write left behind the tail before the next write, and refuses the write if it
    cannot (read from segment/writer.go on every run) -/
theorem writer_clears_stale_tail_before_write : Generated.writerClearsStaleTailBeforeWrite = true := by decide

end RaftWal.C10
