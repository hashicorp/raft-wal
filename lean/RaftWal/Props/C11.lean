/-
  C11 — Damaged files yield errors, never panics, hangs or silent shortening.
-/
import RaftWal.Proofs.Codec
import RaftWal.Generated.Codec
import RaftWal.Proofs.Segment.Basic
import RaftWal.Proofs.OpenCheckProps
namespace RaftWal.C11

/-- T1: the decoder in the current source guards `binary.Uvarint`'s n (no `d.buf[n:]` with n < 0) -/
theorem decoder_guards_overflow : Generated.decodeCfg.overflowPanics = false := by decide

/-- **decoding never panics**: for every byte string the decoder of the current source returns a log or an error -/
theorem decode_no_panic (bs : Bytes) : decode Generated.decodeCfg bs ≠ .panic :=
  RaftWal.decode_no_panic Generated.decodeCfg decoder_guards_overflow bs

/-- the pinned version's defect, kept as a theorem about the unguarded configuration: 11 bytes panic it -/
theorem decode_panic_witness_unguarded :
    decode { overflowPanics := true, shortIsErr := false } [0xff,0xff,0xff,0xff,0xff,0xff,0xff,0xff,0xff,0xff,0x01] = .panic :=
  RaftWal.decode_panic_witness

/-- one step of the scan: it stops, or it reports a frame whose header lies inside the file and goes on behind it -/
theorem scanFrames_succ (file : Bytes) (fuel off : Nat) :
    scanFrames file (fuel + 1) off = [] ∨
    ∃ fh, off + 8 ≤ file.length ∧
      scanFrames file (fuel + 1) off = (fh, off) :: scanFrames file fuel (off + encodedFrameSize fh.len) := by
  by_cases hlen : (readAt file off frameHeaderLen).length < frameHeaderLen
  · exact .inl (by simp only [scanFrames, hlen, if_true])
  · cases hh : readFrameHeader (readAt file off frameHeaderLen) with
    | none => exact .inl (by simp only [scanFrames, hlen, hh, if_false])
    | some fh =>
      by_cases ht : fh.typ = frameInvalid
      · exact .inl (by simp only [scanFrames, hlen, hh, ht, if_false, if_true])
      · refine .inr ⟨fh, ?_, by simp only [scanFrames, hlen, hh, ht, if_false]⟩
        simp only [readAt, List.length_take, List.length_drop, frameHeaderLen] at hlen
        omega

/-- **no hang**: the recovery / dump scan visits at most `fuel` frames, and `scanFuel` is bounded by the file size;
    every step of the Go loop advances by at least one 8-byte frame header, which is what the fuel stands for -/
theorem scan_bounded (file : Bytes) (fuel off : Nat) : (scanFrames file fuel off).length ≤ fuel := by
  induction fuel generalizing off with
  | zero => exact Nat.le_of_eq rfl
  | succ n ih =>
    rcases scanFrames_succ file n off with h | ⟨fh, _, h⟩
    · rw [h]; exact Nat.zero_le _
    · rw [h]; exact Nat.succ_le_succ (ih _)

theorem scan_fuel_le_file (file : Bytes) : scanFuel file ≤ file.length / 8 + 1 := by simp [scanFuel]

/-- each scan step advances: the next offset is at least 8 bytes further -/
theorem scan_advances (n : Nat) : 8 ≤ encodedFrameSize n :=
  encodedFrameSize_eq n ▸ Nat.le_add_right 8 _

/-- every offset the scan reports lies inside the file (so nothing beyond the file is ever addressed) -/
theorem scan_offsets_in_file (file : Bytes) (fuel off : Nat) :
    ∀ f ∈ scanFrames file fuel off, f.2 + 8 ≤ file.length := by
  induction fuel generalizing off with
  | zero => nofun
  | succ n ih =>
    intro f hf
    rcases scanFrames_succ file n off with h | ⟨fh, hin, h⟩
    · rw [h] at hf; cases hf
    · rw [h] at hf
      rcases List.mem_cons.mp hf with rfl | hf'
      · exact hin
      · exact ih _ f hf'

/-- **allocation bound**: the only data-dependent allocation on the read path happens after the length field was
    checked against `MaxEntrySize`; a frame whose header claims more is rejected as corrupt before allocating -/
theorem readFrame_rejects_oversize (file : Bytes) (off bufSize : Nat) (fh : FrameHeader)
    (hbuf : ¬ ((readAt file off bufSize).length < bufSize ∧ (readAt file off bufSize).length < frameHeaderLen))
    (hh : readFrameHeader (readAt file off bufSize) = some fh)
    (hbig : fh.len > maxEntrySize) (hshort : ¬ frameHeaderLen + fh.len ≤ (readAt file off bufSize).length) :
    readFrame file off bufSize = .error .corrupt := by
  unfold readFrame
  simp only [hbuf, if_false, hh, hshort, hbig, if_true]

/-! ## "When a segment that metadata lists as sealed is missing, truncated below its header or carries the header of a
    different segment, Open fails"

    `Model/OpenCheck.lean`: the walk of `wal.Open` over the segment records of the meta store on a directory of byte
    strings — `Filer.Open` for sealed segments (file present, 32 bytes readable, magic/version, BaseIndex, ID and codec equal
    to the record's), the model's `recoverTail` for the tail, the create path for a missing tail; each branch mapped to
    file:line of the source in that file. Tied to the real Open by the opendamage suite: on every damaged directory the
    model's answer (from the same bytes and records) is ok exactly when Open's is. -/

theorem open_fails_on_missing_sealed (dir : OpenCheck.Dir) (segs : List SegInfo) (codec : Nat) (s : SegInfo)
    (hmem : s ∈ segs) (hsealed : s.sealed = true) (hmissing : ∀ bytes, (OpenCheck.segName s, bytes) ∉ dir) :
    ∀ r, OpenCheck.walOpenCheck dir segs codec ≠ .ok r :=
  OpenCheck.open_fails_on_missing_sealed dir segs codec s hmem hsealed hmissing

theorem open_fails_on_short_sealed (dir : OpenCheck.Dir) (segs : List SegInfo) (codec : Nat) (s : SegInfo) (bytes : Bytes)
    (hmem : s ∈ segs) (hsealed : s.sealed = true) (hfile : dir.lookup (OpenCheck.segName s) = some bytes)
    (hshort : bytes.length < fileHeaderLen) : ∀ r, OpenCheck.walOpenCheck dir segs codec ≠ .ok r :=
  OpenCheck.open_fails_on_short_sealed dir segs codec s bytes hmem hsealed hfile hshort

theorem open_fails_on_foreign_header (dir : OpenCheck.Dir) (segs : List SegInfo) (codec : Nat) (s : SegInfo) (bytes : Bytes)
    (hdr : HdrInfo) (hmem : s ∈ segs) (hsealed : s.sealed = true) (hfile : dir.lookup (OpenCheck.segName s) = some bytes)
    (hwell : readFileHeader (bytes.take fileHeaderLen) = some hdr)
    (hforeign : hdr.base ≠ s.base ∨ hdr.id ≠ s.id) : ∀ r, OpenCheck.walOpenCheck dir segs codec ≠ .ok r :=
  OpenCheck.open_fails_on_foreign_header dir segs codec s bytes hdr hmem hsealed hfile hwell hforeign

/-- the three cases in one: whenever the walk succeeds, every sealed segment of the record list has its file, of at least
    header length, whose header is exactly the record's -/
theorem open_ok_characterised (dir : OpenCheck.Dir) (segs : List SegInfo) (codec : Nat) (r : OpenCheck.TailRes)
    (h : OpenCheck.walOpenCheck dir segs codec = .ok r) :
    ∀ s ∈ segs, s.sealed = true → s.codec = codec ∧
      ∃ bytes, dir.lookup (OpenCheck.segName s) = some bytes ∧ (OpenCheck.segName s, bytes) ∈ dir ∧
        bytes.length ≥ fileHeaderLen ∧
        readFileHeader (bytes.take fileHeaderLen) = some { base := s.base, id := s.id, codec := s.codec } :=
  OpenCheck.open_ok_characterised dir segs codec r h

/-- the walk is total: whatever the bytes, it answers ok or an error -/
theorem open_total (dir : OpenCheck.Dir) (segs : List SegInfo) (codec : Nat) :
    (∃ r, OpenCheck.walOpenCheck dir segs codec = .ok r) ∨ (∃ e, OpenCheck.walOpenCheck dir segs codec = .error e) :=
  OpenCheck.open_total dir segs codec

end RaftWal.C11
