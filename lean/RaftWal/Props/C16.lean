/-
  C16 — Verifier raises no false alarms.
-/
import RaftWal.Proofs.VerifierDecide
import RaftWal.Proofs.VerifierReach
import RaftWal.Proofs.VerifierCluster
import RaftWal.Generated.Verifier
namespace RaftWal.C16
open RaftWal RaftWal.Verifier

/-- T1: the current source resets the running checksum in `LogStore.DeleteRange` (the model's `resetOnDelete`) -/
theorem delete_resets_sum : Generated.verifierDeleteResets = true := by decide

/-- the code publishes the running sum (and hands reports over) only after the store underneath accepted the batch — the
    order of `Node.storeLogs`, whose error branch returns the node unchanged (`C18.failed_store_changes_nothing`) -/
theorem sum_published_after_store : Generated.verifierPublishesAfterStore = true := by decide

/-- **batch independence**: the running sum over a sequence of entries does not depend on how the entries
    were split into StoreLogs batches -/
theorem batch_independent (s : UInt64) (a b : List Log) : chain s (a ++ b) = chain (chain s a) b :=
  chain_append s a b

/-- **running_sum_invariant**: on every node, after *any* sequence of middleware operations (appends in any
    batching, with or without checkpoints, leader or follower; head or tail truncations; report deliveries;
    middleware restarts), whenever a running sum exists it is exactly the FNV chain over the entries the node's
    store holds from the sum's start index to the end of its log; with no start index the sum is 0. -/
theorem running_sum_invariant (ops : List NodeOp) :
    let n := ({ resetOnDelete := Generated.verifierDeleteResets } : Node).run ops
    SumInv n ∧ StoreWF n :=
  -- `Generated.verifierDeleteResets` unfolds to `true` (`delete_resets_sum`), the configuration `reach_init` starts from
  have h := reach_run ops { resetOnDelete := true } reach_init
  ⟨h.sum, h.wf⟩

/-- every report the middleware hands to the verifier starts without an error and without a read sum -/
theorem fresh_report (l l' : Log) (cs cs' : UInt64) (st st' : Nat) (r : Report)
    (h : updateVerifyState l cs st = some (l', cs', st', some r)) : r.err = .none ∧ r.read = 0 :=
  uvs_report_err l l' cs cs' st st' r h

/-- the written sum a follower's report carries is either absent (0) or the node's running checksum, and it is
    present only when the node's sum started exactly where the leader's did -/
theorem written_sum_is_running_sum (l l' : Log) (cs cs' : UInt64) (st st' : Nat) (r : Report)
    (h : updateVerifyState l cs st = some (l', cs', st', some r)) (hf : l.ext.length ≠ 0) :
    r.written = 0 ∨ (r.written = cs ∧ r.start = (if st = 0 then l.index else st)) := by
  -- only the follower's branch (a checkpoint that carries Extensions) produces such a report
  rcases uvs_cases h with ⟨_, _, _, _, hr⟩ | ⟨_, hext, _⟩ | ⟨_, _, _, _, _, a, _, _, hr⟩
  · cases hr
  · exact absurd (congrArg List.length hext) hf
  · cases hr
    by_cases hs : a = if st = 0 then l.index else st
    · exact .inr ⟨if_neg (fun hn => hn hs), hs⟩
    · exact .inl (if_pos hs)

/-- **no false alarm**: when the node wrote what the leader summed (or carries no written sum), holds the whole
    range, and its store returns for every index of the range exactly the entries `es` whose chain is the
    leader's expected sum, the delivered report carries no error — in particular no ErrChecksumMismatch — and
    its read sum equals the expected sum. -/
theorem no_false_alarm (n : Node) (r : Report) (es : List Log) (hopen : n.store.closed = false)
    (hfresh : r.err = .none)
    (hw : r.written = 0 ∨ r.written = r.expected) (hfirst : n.store.firstIndex ≤ r.start)
    (hread : readRange n r.start (r.stop - r.start) = some es) (hexp : r.expected = chain 0 es) :
    (n.verify r).2.err = .none ∧ (n.verify r).2.read = r.expected :=
  verify_clean n r es hopen hfresh hw hfirst hread hexp

/-- **range mismatch is not corruption**: a node that lacks the beginning of the range reports
    ErrRangeMismatch -/
theorem range_mismatch_not_corruption (n : Node) (r : Report) (hopen : n.store.closed = false)
    (hw : r.written = 0 ∨ r.written = r.expected) (hfirst : n.store.firstIndex > r.start) :
    (n.verify r).2.err = .rangeMismatch :=
  verify_range_mismatch n r hopen hw hfirst

/-! ## two nodes, any histories: the per-node invariant and the verdict theorem composed -/

/-- what a leader reached by ANY history writes into a new checkpoint: the range start is where its running sum starts
    and the expected sum is the FNV chain over the entries it holds from there -/
theorem leader_checkpoint_is_chain (opsL : List NodeOp) (cp cp' : Log) (cs : UInt64) (st : Nat) (rL : Report)
    (hext : cp.ext = [])
    (h : updateVerifyState cp (node0.run opsL).checksum (node0.run opsL).sumStartIdx = some (cp', cs, st, some rL)) :
    let L := node0.run opsL
    rL.stop = cp.index ∧
    rL.start = (if L.sumStartIdx = 0 then cp.index else L.sumStartIdx) ∧
    rL.expected = chain 0 (if L.sumStartIdx = 0 then [] else storeFrom L L.sumStartIdx) ∧
    cp'.ext = encodeMeta rL.start rL.expected ∧ cp'.index = cp.index :=
  leader_stamp opsL cp cp' cs st rL hext h

/-- **no false alarm, leader and follower reached by arbitrary histories** (any batching, any truncations, restarts and
    report deliveries before the checkpoint — leadership changes are such histories): if the follower wrote, from the
    range start on, what the leader's sum covers, and reads the range back unchanged, its report carries no error and its
    read sum is the leader's -/
theorem cluster_no_false_alarm (opsL opsF : List NodeOp) (cp cp' l2 : Log) (csL csF : UInt64) (stL stF : Nat)
    (rL r : Report) (Fv : Node)
    (hext : cp.ext = []) (hidx : cp.index < 2 ^ 64)
    (hstart : (node0.run opsL).sumStartIdx < 2 ^ 64)
    (hL : updateVerifyState cp (node0.run opsL).checksum (node0.run opsL).sumStartIdx = some (cp', csL, stL, some rL))
    (hF : updateVerifyState cp' (node0.run opsF).checksum (node0.run opsF).sumStartIdx = some (l2, csF, stF, some r))
    (hw : (if (node0.run opsF).sumStartIdx = 0 then cp.index else (node0.run opsF).sumStartIdx) = rL.start →
          (if (node0.run opsF).sumStartIdx = 0 then [] else storeFrom (node0.run opsF) (node0.run opsF).sumStartIdx) =
          (if (node0.run opsL).sumStartIdx = 0 then [] else storeFrom (node0.run opsL) (node0.run opsL).sumStartIdx))
    (hopen : Fv.store.closed = false) (hfirst : Fv.store.firstIndex ≤ r.start)
    (hread : readRange Fv r.start (r.stop - r.start) =
          some (if (node0.run opsL).sumStartIdx = 0 then [] else storeFrom (node0.run opsL) (node0.run opsL).sumStartIdx)) :
    r.start = rL.start ∧ r.stop = rL.stop ∧ r.expected = rL.expected ∧
    (Fv.verify r).2.err = .none ∧ (Fv.verify r).2.read = rL.expected :=
  Verifier.cluster_no_false_alarm opsL opsF cp cp' l2 csL csF stL stF rL r Fv hext hidx hstart hL hF hw hopen hfirst hread

/-- … and a node that lacks the beginning of that range reports ErrRangeMismatch, never corruption -/
theorem cluster_range_mismatch (opsL opsF : List NodeOp) (cp cp' l2 : Log) (csL csF : UInt64) (stL stF : Nat)
    (rL r : Report) (Fv : Node)
    (hext : cp.ext = []) (hidx : cp.index < 2 ^ 64) (hstart : (node0.run opsL).sumStartIdx < 2 ^ 64)
    (hL : updateVerifyState cp (node0.run opsL).checksum (node0.run opsL).sumStartIdx = some (cp', csL, stL, some rL))
    (hF : updateVerifyState cp' (node0.run opsF).checksum (node0.run opsF).sumStartIdx = some (l2, csF, stF, some r))
    (hw : (if (node0.run opsF).sumStartIdx = 0 then cp.index else (node0.run opsF).sumStartIdx) = rL.start →
          (if (node0.run opsF).sumStartIdx = 0 then [] else storeFrom (node0.run opsF) (node0.run opsF).sumStartIdx) =
          (if (node0.run opsL).sumStartIdx = 0 then [] else storeFrom (node0.run opsL) (node0.run opsL).sumStartIdx))
    (hopen : Fv.store.closed = false) (hfirst : Fv.store.firstIndex > r.start) :
    (Fv.verify r).2.err = .rangeMismatch :=
  Verifier.cluster_range_mismatch opsL opsF cp cp' l2 csL csF stL stF rL r Fv hext hidx hstart hL hF hw hopen hfirst

/-- the hypotheses are met: a leader storing two entries in one batch and a follower storing them in two -/
theorem cluster_nonvacuous : ∃ (opsL opsF : List NodeOp) (cp cp' l2 : Log) (csL csF : UInt64) (stL stF : Nat) (rL r : Report),
    cp.ext = [] ∧
    updateVerifyState cp (node0.run opsL).checksum (node0.run opsL).sumStartIdx = some (cp', csL, stL, some rL) ∧
    updateVerifyState cp' (node0.run opsF).checksum (node0.run opsF).sumStartIdx = some (l2, csF, stF, some r) ∧
    r.written = r.expected ∧ r.written ≠ 0 :=
  Verifier.cluster_nonvacuous

-- non-vacuity: a concrete follower history reaches a state with a live running sum
example : ∃ ops : List NodeOp, (({ resetOnDelete := true } : Node).run ops).sumStartIdx ≠ 0 :=
  ⟨[.store [{ index := 5, term := 1, typ := 0, data := [1], ext := [], time := some WTime.zero }]], by decide⟩

/-! ### the conditions the clean-history argument hinges on, translated from the source on every run into Lean functions
    (Generated/VerifierDecide.lean) and proved to be the model's, for all arguments -/

/-- a truncation restarts the running sum exactly when it reaches into the summed range -/
theorem delete_reset_condition_from_source (n : Verifier.Node) (mx : Nat) :
    (n.sumStartIdx ≠ 0 ∧ mx ≥ n.sumStartIdx) ↔ Generated.verifierDeleteResetsSum n.sumStartIdx mx = true :=
  Verifier.delete_resets_eq_source n mx

/-- a node that no longer holds the start of the range answers ErrRangeMismatch, not corruption -/
theorem range_mismatch_condition_from_source (n : Verifier.Node) (r : Verifier.Report) :
    (n.store.firstIndex > r.start) ↔ Generated.verifyRangeMismatch n.store.firstIndex r.start = true :=
  Verifier.range_mismatch_eq_source n r

/-- a follower whose running sum does not start where the leader's did makes no in-flight claim -/
theorem written_sum_void_condition_from_source (cpStart startIdx : Nat) :
    (cpStart ≠ startIdx) ↔ Generated.followerSumNotComparable cpStart startIdx = true :=
  Verifier.written_void_eq_source cpStart startIdx

end RaftWal.C16
