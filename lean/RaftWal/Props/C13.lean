/-
  C13 — Disk space is reclaimed and segment identities are never reused.
  Sequential level (every run of calls, reopen included), crash level (`recovered_dir_exact_any_crash`: orphans left by
  an interrupted truncation or rotation are removed by Open) and under concurrency (Model/Conc.lean).
-/
import RaftWal.Generated.Conc
import RaftWal.Proofs.WalInv2
import RaftWal.Proofs.CrashCorollaries
import RaftWal.Proofs.ConcReclaim
import RaftWal.Props.C06
namespace RaftWal.C13
open RaftWal

/-- **dir_exact**: after every call of every run (appends with rotations, head/tail/whole-log truncations, base
    resets, Close/reopen, stable calls) the directory holds exactly the files of the live segments — same
    (id, base) pairs — with pairwise distinct ids, all below NextSegmentID: the files of every segment lying wholly
    inside a deleted range are gone as soon as the DeleteRange has returned (no reader pins the old state in a
    sequential run) -/
theorem dir_exact (cfg : WalCfg) (hcfg : cfg.newSegCodec = cfg.codecId) (w0 : Wal) (h0 : Wal.init cfg = some w0)
    (ops : List XOp) (hops : ∀ op ∈ ops, op.inRange) : DirExact (w0.xrunState ops) :=
  dirExact_run cfg hcfg w0 h0 ops hops

/-- **ids_unique**: from any state, a call never lowers NextSegmentID and every segment present afterwards either
    existed before (same id, same base index) or carries an id that was not yet handed out — so no two segments
    created during the lifetime of a directory share an id or a file name -/
theorem ids_never_reused (w : Wal) (op : XOp) :
    let w' := (w.xstep op).1
    w.nextID ≤ w'.nextID ∧
    ∀ s ∈ w'.segs, (∃ s0 ∈ w.segs, s0.1.id = s.1.id ∧ s0.1.base = s.1.base) ∨ w.nextID ≤ s.1.id :=
  ids_fresh_step w op

/-- **create_never_collides**: the exclusive create of a new segment file cannot meet an existing file: when every
    file in the directory has an id below NextSegmentID (part of `dir_exact`), the collision test `createNext`
    performs for the new segment — which gets exactly NextSegmentID — is false whatever the base index -/
theorem create_never_collides (w : Wal) (base : Nat) (hlt : ∀ f ∈ w.files, f.id < w.nextID) :
    (w.files.any (fun f => f.id = (w.newSeg w.nextID base).id ∧ f.base = (w.newSeg w.nextID base).base)) = false :=
  any_id_base_false hlt

/-! ## WAL level (Model/Crash.lean; what `Crash.QuiescentS` is and where it holds: Props/C01) -/

/-- **after every recovery the directory is exact**: it holds exactly the files of the segments the meta store lists —
    the orphans an interrupted truncation, rotation or base reset left are gone — and every identifier in use is below
    NextSegmentID -/
theorem recovered_dir_exact_any_crash (d : Crash.Disk) (hq : Crash.QuiescentS d) (op : Crash.Op) (hok : op.ok d) (k : Nat)
    (c : Crash.CrashKind) (d1 d' : Crash.Disk) (hr : Crash.ReachRec (Crash.crashAfter d (Crash.prog d op) k c) d1)
    (ho : Crash.openResult d1 = some d') :
    (∀ f ∈ d'.files, ∃ s ∈ d'.md.segs, s.id = f.id) ∧ (∀ s ∈ d'.md.segs, (d'.file? s.id).isSome) ∧
    (∀ s ∈ d'.md.segs, s.id < d'.md.nextID) :=
  Crash.recovered_dir_exact d hq op hok k c d1 d' hr ho

/-! ## under concurrency (Model/Conc.lean, every schedule): reclaimed exactly when the last holder lets go -/

/-- a replaced state that nobody holds any more has run its finalizer -/
theorem reclaimed_when_released (files wants : List Conc.FileId) (muts : List Conc.Mutation) (hwf : Conc.InitWF files muts)
    (s : Conc.Sys) (h : Conc.Reachable files wants muts s) (sid : Nat) (hs : sid < s.objs.length)
    (hfin : (s.obj sid).fin ≠ .unset) (h0 : (s.obj sid).refCount = 0) : (s.obj sid).fin = .taken :=
  Conc.reclaimed_when_released files wants muts hwf s h sid hs hfin h0

/-- … and has then closed (for truncations: deleted) every file it referenced and its successor does not -/
theorem dropped_files_closed (files wants : List Conc.FileId) (muts : List Conc.Mutation) (hwf : Conc.InitWF files muts)
    (s : Conc.Sys) (h : Conc.Reachable files wants muts s) (sid : Nat) (hs : sid + 1 < s.objs.length)
    (hfin : (s.obj sid).fin = .taken) :
    ∀ f ∈ (s.obj sid).files, f ∉ (s.obj (sid + 1)).files → s.isOpen f = false :=
  Conc.dropped_files_closed files wants muts hwf s h sid hs hfin

/-- nothing is closed early: only files a replaced, fully released state dropped; the current state has no finalizer -/
theorem closed_only_by_finalizer (files wants : List Conc.FileId) (muts : List Conc.Mutation) (hwf : Conc.InitWF files muts)
    (s : Conc.Sys) (h : Conc.Reachable files wants muts s) (f : Conc.FileId) (hc : s.isOpen f = false) :
    (∃ sid, sid + 1 < s.objs.length ∧ (s.obj sid).fin = .taken ∧ f ∈ (s.obj sid).files ∧ f ∉ (s.obj (sid + 1)).files) ∧
    (s.obj s.cur).fin = .unset :=
  ⟨Conc.closed_only_by_finalizer files wants muts hwf s h f hc, Conc.current_has_no_finalizer files wants muts hwf s h⟩

/-- every reference a call takes on the current state is given back exactly once (read from the source on every run: each
    `acquireState()` site declares fresh variables and defers the release in the next statement) — the discipline the
    readers of `Model.Conc` follow and `refcount_exact` / `no_double_close` / the reclaim theorems rest on -/
theorem every_acquire_is_released_once : Generated.everyAcquireHasDeferredRelease = true :=
  C06.every_acquire_is_released_once

/-- the reference count of a state is touched by `acquire` and `release` only (read from the source): every decrement goes
    through `release`, which runs the finalizer at zero — the step `Model.Conc` takes -/
theorem refcount_only_through_acquire_release :
    Generated.refCountTouchedBy = ["state.acquire", "state.release"] :=
  C06.refcount_only_through_acquire_release

end RaftWal.C13
