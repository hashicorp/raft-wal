/-
  C07 — Real filesystem layer honours the durability contract the WAL assumes.
  Theorems about the OS-level model of fs/ and metadb's init; the tie to the real layer is the `fsdur` suite, which
  runs the production packages under strace and compares the canonical system-call sequence of every VFS call with
  `Model.OsFs`, and evaluates the durability-contract monitor on whole WAL workloads.
-/
import RaftWal.Proofs.PropsSupportOsFs
import RaftWal.Generated.Fs
namespace RaftWal.C07
open RaftWal.OsFs

/-- **create_excl_zero**: `Create` is exclusive — it fails when the name exists — and otherwise yields a file that
    reads as `size` zero bytes, whose directory entry is not yet durable -/
theorem create_excl_zero (s : OState) (n : String) (size : Nat) (hpos : size > 0) :
    ((s.get n).exist = true → run s (fsCreate n size) = none) ∧
    ((s.get n).exist = false → (run s (fsCreate n size)).isSome = true ∧
      ∀ s', run s (fsCreate n size) = some s' → (s'.get n).exist = true ∧ (s'.get n).size = size ∧
        (s'.get n).entryDurable = false) := by
  have hc : fsCreate n size = [.openCreatExcl n, .fallocate n size] := by simp [fsCreate, hpos]
  rw [hc]
  constructor
  · intro h
    simp only [run_cons, exec_openCreatExcl, h, if_true, Option.bind_none]
  · intro h
    refine run_post (S := (s.set n { exist := true }).set n { exist := true, size := size }) ?_ ?_
    · simp only [run_cons, run_nil, exec_openCreatExcl, exec_fallocate, h, OState.get_set_self, Bool.false_eq_true,
        if_false, if_true, Option.bind_some]
    · simp only [OState.get_set_self, and_self]

/-- **fs_sync_refines_vfs_sync**: the first `Sync` on a handle from `Create` (or `OpenWriter`) makes both the
    file's data and its directory entry durable — exactly the post-condition the simulated VFS gives to `sync` -/
theorem first_sync_makes_durable (s : OState) (n : String) (h : (s.get n).exist = true) :
    (run s (fsFileSync n true)).isSome = true ∧
    ∀ s', run s (fsFileSync n true) = some s' → (s'.get n).dirty = false ∧ (s'.get n).entryDurable = true ∧
      (s'.get n).exist = true := by
  refine run_post (run_fsync_fsyncDir h) ?_
  simp only [OState.get_syncDir, OState.get_set_self, h, if_true, and_self]

/-- a later `Sync` makes the data durable (the entry already is) -/
theorem later_sync_makes_data_durable (s : OState) (n : String) (h : (s.get n).exist = true) :
    (run s (fsFileSync n false)).isSome = true ∧
    ∀ s', run s (fsFileSync n false) = some s' → (s'.get n).dirty = false := by
  refine run_post (run_fsync h) ?_
  simp only [OState.get_set_self]

/-- **fs_delete_durable**: after `Delete` the file is gone and no removal is left pending -/
theorem delete_durable (s : OState) (n : String) (h : (s.get n).exist = true) :
    (run s (fsDelete n)).isSome = true ∧
    ∀ s', run s (fsDelete n) = some s' → (s'.get n).exist = false ∧ s'.pendingUnlinks = [] :=
  run_post (run_unlink_fsyncDir h) ⟨get_unlink_syncDir s n _, rfl⟩

/-- every prefix of a call sequence (every crash point) -/
def prefixes {α} : List α → List (List α)
  | [] => [[]]
  | x :: xs => [] :: (prefixes xs).map (x :: ·)

theorem run_metaInit (tmp final : String) :
    run {} (metaInit tmp final) =
      some (((((({} : OState).set tmp { exist := true }).set tmp { exist := true, dirty := true }).set tmp
        { exist := true }).set final { exist := true }).set tmp {}).syncDir := by
  simp only [metaInit, run_cons, run_nil, exec_openCreat, exec_pwrite, exec_fsync, exec_rename, exec_fsyncDir,
    OState.get_empty, OState.get_set_self, Bool.false_eq_true, if_false, if_true, Option.bind_some]

/-- **metadb_init_atomic**: at every crash point of the init sequence (every prefix of its system calls) the final
    name is either absent, or present with its content already fsynced (not dirty) — never a half-written database
    under the final name; and after the whole sequence the final name is durable -/
theorem metadb_init_atomic (tmp final : String) (hne : tmp ≠ final) :
    (∀ p ∈ prefixes (metaInit tmp final), ∀ s', run {} p = some s' →
        (s'.get final).exist = false ∨ (s'.get final).dirty = false) ∧
    ((run {} (metaInit tmp final)).isSome = true ∧
      ∀ s', run {} (metaInit tmp final) = some s' → (s'.get final).exist = true ∧ (s'.get final).entryDurable = true ∧
        (s'.get final).dirty = false) := by
  have hne' : final ≠ tmp := fun h => hne h.symm
  refine ⟨?_, run_post (run_metaInit tmp final) ?_⟩
  · -- each of the six prefixes is run; only the rename touches `final`, and it moves a file that was just fsynced
    intro p hp s' hs
    simp only [metaInit, prefixes, List.map_cons, List.map_nil, List.mem_cons, List.mem_nil_iff, or_false] at hp
    rcases hp with h | h | h | h | h | h
    all_goals subst h
    all_goals simp only [run_cons, run_nil, exec_openCreat, exec_pwrite, exec_fsync, exec_rename, exec_fsyncDir,
      OState.get_empty, OState.get_set_self, Bool.false_eq_true, if_false, if_true, Option.bind_some,
      Option.some.injEq] at hs
    all_goals subst hs
    all_goals simp only [OState.get_syncDir, OState.get_set_self, OState.get_set_ne _ _ hne', OState.get_empty,
      if_true, true_or, or_true]
  · simp only [OState.get_syncDir, OState.get_set_self, OState.get_set_ne _ _ hne', if_true, and_self]

/-! ## fsync failures: an acknowledged Sync means the directory entry is durable, whatever failed before -/

/-- invariant of a handle on an existing file: once the `new` flag is cleared, the directory entry is durable -/
def HInv (s : OState) (h : Handle) : Prop :=
  (s.get h.name).exist = true ∧ (h.isNew = false → (s.get h.name).entryDurable = true)

/-- one call on the handle keeps the invariant, and a Sync that returns nil has made the entry durable and the data clean -/
theorem hstep_post (s : OState) (h : Handle) (op : HOp) (hi : HInv s h) :
    ∃ s' h' a, hstep .afterDirSync s h op = some (s', h', a) ∧ HInv s' h' ∧ h'.name = h.name ∧
      (a = some true → (s'.get h.name).entryDurable = true ∧ (s'.get h.name).dirty = false) := by
  obtain ⟨n, isNew⟩ := h
  obtain ⟨he, hd⟩ := hi
  change (s.get n).exist = true at he
  -- what a successful fsync of the file leaves: the file exists, is clean, and its entry is as durable as before
  have hsync : ((s.set n { s.get n with dirty := false }).get n).exist = true := by
    rw [OState.get_set_self]; exact he
  cases op with
  | write =>
    refine ⟨s.set n { s.get n with dirty := true }, _, none, ?_, ⟨?_, ?_⟩, rfl, nofun⟩
    · simp only [hstep, exec_pwrite, he, if_true, Option.map_some]
    · rw [OState.get_set_self]; exact he
    · intro hn; rw [OState.get_set_self]; exact hd hn
  | sync o =>
    obtain ⟨fo, dok⟩ := o
    cases fo
    · exact ⟨s, _, _, rfl, ⟨he, hd⟩, rfl, nofun⟩
    · cases isNew
      · refine ⟨_, _, _, congrArg (Option.map _) (run_fsync he), ⟨hsync, fun _ => ?_⟩, rfl, fun _ => ⟨?_, ?_⟩⟩
        · rw [OState.get_set_self]; exact hd rfl
        · rw [OState.get_set_self]; exact hd rfl
        · rw [OState.get_set_self]
      · cases dok
        · exact ⟨_, _, _, congrArg (Option.map _) (run_fsync he), ⟨hsync, nofun⟩, rfl, nofun⟩
        · refine ⟨_, _, _, congrArg (Option.map _) (run_fsync_fsyncDir he), ⟨?_, fun _ => ?_⟩, rfl, fun _ => ⟨?_, ?_⟩⟩
          all_goals simp only [OState.get_syncDir, OState.get_set_self, he, if_true]

/-- **acknowledged_sync_is_durable**: on a handle for an existing file, after ANY history of writes and Syncs in
    which either fsync may fail any number of times, a Sync that returns nil leaves the file's bytes fsynced and
    its directory entry durable.  (With the code's policy: the `new` flag is cleared only after the directory fsync
    succeeded.) -/
theorem acknowledged_sync_is_durable (ops : List HOp) (s : OState) (h : Handle) (hi : HInv s h) :
    ∃ s' h' a, hrun .afterDirSync s h ops = some (s', h', a) ∧ HInv s' h' ∧ h'.name = h.name ∧
      (a = some true → (s'.get h.name).entryDurable = true ∧ (s'.get h.name).dirty = false) := by
  induction ops generalizing s h with
  | nil => exact ⟨s, h, none, rfl, hi, rfl, by simp⟩
  | cons op ops ih =>
    obtain ⟨s1, h1, a1, e1, i1, n1, p1⟩ := hstep_post s h op hi
    cases ops with
    | nil => exact ⟨s1, h1, a1, by simp [hrun, e1], i1, n1, p1⟩
    | cons op2 rest =>
      obtain ⟨s2, h2, a2, e2, i2, n2, p2⟩ := ih s1 h1 i1
      refine ⟨s2, h2, a2, ?_, i2, n2.trans n1, ?_⟩
      · simp only [hrun, e1]; exact e2
      · intro ha; rw [← n1]; exact p2 ha

/-- a freshly created file meets the invariant (non-vacuity) -/
example : HInv ((({} : OState).set "a.wal" { exist := true })) { name := "a.wal" } :=
  ⟨rfl, nofun⟩

/-- clearing the flag before the directory fsync is known to have succeeded is NOT enough: the directory fsync fails
    once, the retried Sync returns nil, and the entry is still not durable -/
theorem flag_after_file_sync_refuted :
    ∃ s' h', hrun .afterFileSync (({} : OState).set "a.wal" { exist := true }) { name := "a.wal" }
        [.write, .sync ⟨true, false⟩, .sync ⟨true, true⟩] = some (s', h', some true) ∧
      (s'.get "a.wal").entryDurable = false :=
  ⟨_, _, rfl, rfl⟩

/-- nor is clearing it before the file's fsync: the file fsync fails once, the retry is acknowledged -/
theorem flag_before_file_sync_refuted :
    ∃ s' h', hrun .beforeFileSync (({} : OState).set "a.wal" { exist := true }) { name := "a.wal" }
        [.write, .sync ⟨false, true⟩, .sync ⟨true, true⟩] = some (s', h', some true) ∧
      (s'.get "a.wal").entryDurable = false :=
  ⟨_, _, rfl, rfl⟩

/-- the policy read from fs/file.go is the one the theorem is about -/
theorem flag_policy_from_source : FlagPolicy.ofCode Generated.fileSyncFlagPolicy = .afterDirSync := by decide

/-! ## a deletion reported done is durable, also when an earlier attempt failed half-way -/

theorem dstep_ack (s : OState) (n : String) (o : Bool) (s' : OState) (h : dstep s n o = some (s', true)) :
    s'.pendingUnlinks = [] ∧ (s'.get n).exist = false := by
  -- nil is returned only when the file was there and the directory fsync succeeded
  cases he : (s.get n).exist with
  | false =>
    simp only [dstep, fsDeleteF, he, Bool.not_false, if_true, run_nil, Option.map_some, Option.some.injEq,
      Prod.mk.injEq, Bool.false_eq_true, and_false] at h
  | true =>
    cases o with
    | false =>
      simp only [dstep, fsDeleteF, he, Bool.not_true, Bool.false_eq_true, if_false, run_unlink he, Option.map_some,
        Option.some.injEq, Prod.mk.injEq, and_false] at h
    | true =>
      simp only [dstep, fsDeleteF, he, Bool.not_true, Bool.false_eq_true, if_false, if_true, run_unlink_fsyncDir he,
        Option.map_some, Option.some.injEq, Prod.mk.injEq, and_true] at h
      subst h
      exact ⟨rfl, get_unlink_syncDir s n _⟩

/-- **acknowledged_delete_is_durable**: after ANY sequence of Delete calls for a name in which the directory fsync may
    fail any number of times, a call that returns nil leaves no removal pending (the unlink is followed by a successful
    fsync of the directory) and the name gone.  In particular a retry after "unlink done, directory fsync failed" does not
    report the deletion done: the name is gone and unlink's ENOENT is returned. -/
theorem acknowledged_delete_is_durable (os : List Bool) (s : OState) (n : String) (s' : OState)
    (h : drun s n os = some (s', some true)) : s'.pendingUnlinks = [] ∧ (s'.get n).exist = false := by
  induction os generalizing s with
  | nil => cases h
  | cons o os ih =>
    cases hd : dstep s n o with
    | none => cases os <;> simp [drun, hd] at h
    | some r =>
      obtain ⟨s1, a⟩ := r
      cases os with
      | nil =>
        rw [drun, hd] at h
        cases h
        exact dstep_ack s n o s1 hd
      | cons o2 rest =>
        simp only [drun, hd] at h
        exact ih s1 h

/-- the retry after a failed directory fsync answers with an error (non-vacuity: the history is executable) -/
example : ∃ s', drun (({} : OState).set "a.wal" { exist := true }) "a.wal" [false, true, true] = some (s', some false) :=
  ⟨_, rfl⟩

/-- a Delete that treated "already gone" as done would acknowledge a removal that is still pending -/
theorem delete_idempotent_refuted :
    ∃ s', run (({} : OState).set "a.wal" { exist := true }) [.unlink "a.wal"] = some s' ∧ s'.pendingUnlinks ≠ [] :=
  ⟨_, rfl, List.cons_ne_nil _ _⟩

end RaftWal.C07
