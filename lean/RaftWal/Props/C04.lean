/-
  C04 — Truncations are atomic and durable across crashes.
  Sequential level (what a completed DeleteRange means, identically before and after a reopen) and crash level
  (`truncation_atomic_any_crash`, on Model/Crash.lean, which the crash suite ties to the real code).
-/
import RaftWal.Generated.WalLogic
import RaftWal.Proofs.WalDecide
import RaftWal.Proofs.WalRefine
import RaftWal.Proofs.SpecLog
import RaftWal.Generated.Conc
import RaftWal.Proofs.CrashCorollaries
import RaftWal.Props.C01
namespace RaftWal.C04
open RaftWal

/-- a head truncation of the reference log moves FirstIndex to max+1 and leaves LastIndex alone -/
theorem spec_head_truncation (s : Spec.SLog) (mn mx : Nat) (hopen : s.closed = false) (hne : s.entries ≠ [])
    (h1 : mn ≤ s.firstIndex) (h2 : s.firstIndex ≤ mx) (h3 : mx < s.lastIndex) :
    (s.delete mn mx).2 = none ∧ (s.delete mn mx).1.firstIndex = mx + 1 ∧ (s.delete mn mx).1.lastIndex = s.lastIndex := by
  rw [Spec.SLog.firstIndex_of_ne hne] at h2
  rw [Spec.SLog.lastIndex_of_ne hne] at h3 ⊢
  -- the range ends at the `k`-th entry, `0 < k < length`
  obtain ⟨k, hk⟩ := Nat.exists_eq_add_of_le (Nat.le_add_right_of_le h2)
  have hk0 : 0 < k := Nat.lt_add_right_iff_pos.mp (hk ▸ Nat.lt_add_one_of_le h2)
  have hkn : k < s.entries.length := Nat.lt_of_add_lt_add_left (hk ▸ Nat.add_lt_of_lt_sub h3)
  have hd : s.entries.drop k ≠ [] :=
    List.ne_nil_of_length_pos (List.length_drop ▸ Nat.sub_pos_of_lt hkn)
  rw [Spec.SLog.delete_prefix hopen hne h1 hk hk0]
  refine ⟨rfl, Spec.SLog.firstIndex_of_ne hd, ?_⟩
  rw [Spec.SLog.lastIndex_of_ne hd]
  show mx + 1 + (s.entries.drop k).length - 1 = _
  rw [List.length_drop, hk, Nat.add_assoc, Nat.add_sub_cancel' (Nat.le_of_lt hkn)]

/-- a tail truncation of the reference log moves LastIndex to min-1 and leaves FirstIndex alone -/
theorem spec_tail_truncation (s : Spec.SLog) (mn mx : Nat) (hopen : s.closed = false) (hne : s.entries ≠ [])
    (h1 : s.firstIndex < mn) (h2 : mn ≤ s.lastIndex) (h3 : s.lastIndex ≤ mx) :
    (s.delete mn mx).2 = none ∧ (s.delete mn mx).1.firstIndex = s.firstIndex ∧ (s.delete mn mx).1.lastIndex = mn - 1 := by
  have h2' := h2
  rw [Spec.SLog.firstIndex_of_ne hne] at h1 ⊢
  rw [Spec.SLog.lastIndex_of_ne hne] at h2'
  -- the range starts at the `k`-th entry, `0 < k ≤ length`
  obtain ⟨k, hk⟩ := Nat.exists_eq_add_of_le (Nat.le_of_lt h1)
  have hk0 : 0 < k := Nat.lt_add_right_iff_pos.mp (hk ▸ h1)
  have hkn : k ≤ s.entries.length := Nat.le_of_add_le_add_left (Nat.le_trans (hk ▸ h2') (Nat.sub_le _ _))
  have ht : s.entries.take k ≠ [] :=
    List.ne_nil_of_length_pos (by rw [List.length_take, Nat.min_eq_left hkn]; exact hk0)
  rw [Spec.SLog.delete_suffix hopen hne hk hk0 h2 h3]
  refine ⟨rfl, Spec.SLog.firstIndex_of_ne ht, ?_⟩
  rw [Spec.SLog.lastIndex_of_ne ht]
  show s.first + (s.entries.take k).length - 1 = _
  rw [List.length_take, Nat.min_eq_left hkn, hk]

/-- **completed truncations mean the same before and after a reopen, and re-appended entries are the ones read
    back**: for every program (truncations at any (min,max), appends after them, reopen anywhere) the WAL model
    answers like the reference log — in particular an index removed by a tail truncation and written again
    returns the newer entry, never the older one, also after Close/reopen -/
theorem truncations_refine_spec (cfg : WalCfg) (hcfg : cfg.newSegCodec = cfg.codecId) (w0 : Wal)
    (h0 : Wal.init cfg = some w0) (ops : List Op) (hops : ∀ op ∈ ops, op.inRange) :
    w0.run ops = ({ first := 0, entries := [] } : Spec.SLog).run ops :=
  wal_refines_spec cfg hcfg w0 h0 ops hops

/-- T1: files of a truncated range are closed and deleted by a finalizer that `mutateStateLocked` attaches only after
    the meta commit succeeded and the new state is published — a truncation whose commit fails (or is cut by a
    crash) deletes nothing -/
theorem files_deleted_only_after_commit : Generated.finalizerAttachedAfterPublish = true := by decide

/-! ## WAL level (Model/Crash.lean; what `Crash.QuiescentS` is and where it holds: Props/C01) -/

/-- **a truncation cut by a crash leaves the old log or the truncated log**, and the truncated log — after every later
    restart — once DeleteRange has returned -/
theorem truncation_atomic_any_crash (d : Crash.Disk) (hq : Crash.QuiescentS d) (op : Crash.Op)
    (htr : (∃ m, op = .delHead m) ∨ (∃ m, op = .delTail m)) (hok : op.ok d) (k : Nat) (c : Crash.CrashKind)
    (d1 d' : Crash.Disk) (hr : Crash.ReachRec (Crash.crashAfter d (Crash.prog d op) k c) d1)
    (ho : Crash.openResult d1 = some d') :
    (Crash.absLog d' = Crash.absLog d ∨ Crash.absLog d' = Crash.specApply (Crash.absLog d) op) ∧
    (Crash.ackPos (Crash.prog d op) < k → Crash.absLog d' = Crash.specApply (Crash.absLog d) op) :=
  Crash.truncation_atomic d hq op htr hok k c d1 d' hr ho

/-- which segments a truncation keeps, as wal.go decides it (read from the source on every run): a tail truncation keeps
    every segment whose first index is at or below the new last index; a head truncation keeps the tail if it holds the new
    first index and a sealed segment if its last index is at or above it -/
theorem truncation_scans_from_source (s : SegS) (stateLast newMin newMax : Nat) :
    (((¬ s.sealed ∧ stateLast ≥ newMin) ∨ (s.sealed ∧ s.max ≥ newMin)) ↔
        Generated.truncateHeadStopsAt s.sealed s.base s.min s.max stateLast newMin = true) ∧
    ((s.base ≤ newMax) ↔ Generated.truncateTailKeeps s.base s.min s.max newMax = true) :=
  C01.truncation_scans_from_source s stateLast newMin newMax

end RaftWal.C04
