/-
  C02 — Recovery never fabricates, corrupts or half-applies log content.
  Byte level (one segment file) and WAL level (the I/O-action model Model/Crash.lean, tied to wal.go by the crash suite).
-/
import RaftWal.Proofs.SegmentChainFault
import RaftWal.Proofs.SegmentTorn
import RaftWal.Proofs.SegmentChain
import RaftWal.Proofs.SegmentL1Run
import RaftWal.Proofs.SegmentChainRec
import RaftWal.Proofs.L1L2Link
import RaftWal.Proofs.CrashCorollaries
namespace RaftWal.C02
open RaftWal

/-- **recover_untorn**: after any run of completed appends, recovery reproduces exactly the writer's state — same
    entry offsets (hence the same entries, none added, none dropped), write offset, commit index and seal state —
    and leaves the file bytes unchanged -/
theorem recover_untorn (info : SegInfo) (bs : List (List Bytes)) (hwf : RunWF info bs)
    (w : Writer) (file : Bytes)
    (hrun : (freshSegment info).1.appendAll (freshSegment info).2 info.base bs = some (w, file)) :
    ((recoverTail info file).toOption.map (fun p => p.1.obs)) = some w.obs ∧
    ((recoverTail info file).toOption.map (·.2)) = some file :=
  RaftWal.recover_untorn info bs hwf w file hrun

/-- **batch atomicity under every torn write**: whichever subset of the 8-byte chunks of an in-flight batch
    reached the disk, recovery yields the segment without the batch (file restored to what it was) or with the
    whole batch (and then the image is complete, or a CRC-32C collision of it); for the very first batch of a
    segment a collision that also damages the header is refused as corrupt instead. Nothing else is possible:
    no partial batch, no entry that was not submitted. -/
theorem batch_atomic_any_tear (info : SegInfo) (bs : List (List Bytes)) (b : List Bytes)
    (hwf : RunWF info (bs ++ [b])) (w : Writer) (file : Bytes)
    (hrun : (freshSegment info).1.appendAll (freshSegment info).2 info.base bs = some (w, file))
    (w' : Writer) (file' : Bytes)
    (happ : w.append file (indexBatch (info.base + bs.flatten.length) b) .none = (none, w', file'))
    (mask : Nat → Bool) :
    let img := tearImage file file' w.writeOffset (w'.writeOffset - w.writeOffset) mask
    (∃ wr img', recoverTail info img = .ok (wr, img') ∧
      ((wr.obs = w.obs ∧ img' = file ++ zeros (file'.length - file.length)) ∨
       (wr.obs = w'.obs ∧ img' = img ∧
          (img = file' ∨
           (batchRegion img w.writeOffset w'.writeOffset ≠ batchRegion file' w.writeOffset w'.writeOffset ∧
            crc32c (batchRegion img w.writeOffset w'.writeOffset) =
              crc32c (batchRegion file' w.writeOffset w'.writeOffset))))))
    ∨ (bs = [] ∧ recoverTail info img = .error .corrupt
        ∧ batchRegion img w.writeOffset w'.writeOffset ≠ batchRegion file' w.writeOffset w'.writeOffset
        ∧ crc32c (batchRegion img w.writeOffset w'.writeOffset) =
              crc32c (batchRegion file' w.writeOffset w'.writeOffset)) :=
  recover_torn_atomic_corrected info bs b hwf w file hrun w' file' happ mask

theorem clearStale_clean (file : Bytes) (wo : Nat) : ∀ b ∈ (clearStale file wo).drop wo, b = 0 := by
  intro b hb
  unfold clearStale at hb
  rw [List.drop_append, List.drop_eq_nil_of_le (List.length_take_le wo file), List.nil_append] at hb
  exact List.eq_of_mem_replicate (List.mem_of_mem_drop hb)

theorem recoverTail_file (info : SegInfo) (file : Bytes) (w : Writer) (file' : Bytes)
    (h : recoverTail info file = .ok (w, file')) : file' = clearStale file w.writeOffset := by
  cases hc : (scanFold file).commits.find? (commitValid file) with
  | none =>
    rw [recoverTail_none info file (scanFold file) rfl hc] at h
    cases h
    rfl
  | some c =>
    rw [recoverTail_some info file (scanFold file) c rfl hc] at h
    split at h
    · cases h
      rfl
    · cases h

/-- after recovery the region behind the recovered tail is clean again (this is what makes crash chains — tear,
    recover, append over the same region, tear again — an induction rather than a new case) -/
theorem recovery_leaves_clean_region (info : SegInfo) (file : Bytes) (w : Writer) (file' : Bytes)
    (h : recoverTail info file = .ok (w, file')) : ∀ b ∈ file'.drop w.writeOffset, b = 0 :=
  recoverTail_file info file w file' h ▸ clearStale_clean file w.writeOffset

/-! ## chains of crash / recover / append cycles on one segment file (byte level)

    `ChainEv`: an acknowledged append, a process restart (recovery of the file as it is), an append in flight torn by a
    power loss with ANY chunk mask and then recovered. `chainRun` executes a list of them on the fresh segment with the
    model's own writer and `recoverTail`. `chainSpec evs bs`: `bs` holds every acknowledged batch and each torn batch whole
    or not at all, in order. -/

/-- **chain_atomic**: after every chain of such events — any number of tears, the stale bytes of each left behind the
    tail for the next recovery to deal with — either some torn image along the way collides under CRC-32C with the
    complete batch (the explicit residual), or the chain runs without error and ends in exactly the state a run of completed
    appends of some `bs` allowed by `chainSpec` ends in: same writer, every entry of `bs` readable at its index with its
    payload, nothing above readable, the region behind the tail all zeros again. No half-applied batch, no entry of a
    discarded batch, no error that would make the segment unopenable (C03 at this level). -/
theorem chain_atomic (info : SegInfo) (evs : List ChainEv) (hwf : ChainWF info evs) :
    ChainCollision info evs ∨ ∃ w file bs, ChainResult info evs w file bs :=
  RaftWal.chain_atomic info evs hwf

/-- the same without any assumption on the segment size: the only further outcome is a chain that goes on appending to a
    segment one of its own events sealed — `ErrSealed`, with the full conclusion up to that point (the WAL rotates there) -/
theorem chain_atomic_any_size (info : SegInfo) (evs : List ChainEv) (hwf : ChainSizes info evs) :
    ChainCollision info evs ∨ (∃ w file bs, ChainResult info evs w file bs) ∨ ChainSealedStop info evs :=
  RaftWal.chain_atomic_gen info evs hwf

/-- the induction step for a tear, for any state satisfying the chain invariant (not only a fresh run) -/
theorem torn_step_any_state (info : SegInfo) (bs : List (List Bytes)) (b : List Bytes) (mask : Nat → Bool)
    (hwf : RunWF info (bs ++ [b])) (hmax : ∀ p ∈ b, p.length ≤ maxEntrySize)
    (w : Writer) (file : Bytes) (hI : ChainInv info w file bs) (hidx : w.indexStart = 0) :
    TornCollision info (w, file) b mask
    ∨ (∃ k, chainStep info (w, file) (.torn b mask) = .ok (w, file ++ zeros k)
          ∧ ChainInv info w (file ++ zeros k) bs)
    ∨ (∃ w' file', chainStep info (w, file) (.torn b mask) = .ok (w', file')
          ∧ w.append file (indexBatch (info.base + bs.flatten.length) b) .none = (none, w', file')
          ∧ ChainInv info w' file' (bs ++ [b])) :=
  RaftWal.chainStep_torn_inv info bs b mask hwf hmax w file hI hidx

/-! ### crashes inside recovery itself, nested to any depth

    `ChainEv2` adds to the events above a recovery whose own zeroing of the stale region (`clearStaleTail`: a write, then an
    fsync) is cut by a power loss — any subset of the 8-byte chunks of that write on disk — any number of times in a row
    (`zmasks`: one chunk mask per cut recovery), after a restart or right after a torn append. -/

/-- **chain_atomic_rec**: the conclusion of `chain_atomic` for chains that also contain cut recoveries — every acknowledged
    batch present, every torn batch whole or absent, all of it readable, nothing else, region behind the tail clean — or an
    explicit CRC-32C collision in one of the images a recovery was run on -/
theorem chain_atomic_rec (info : SegInfo) (evs : List ChainEv2) (hwf : ChainWF2 info evs) :
    ChainCollision2 info evs ∨ ∃ w file bs, ChainResult2 info evs w file bs :=
  RaftWal.chain_atomic_rec info evs hwf

theorem chain_atomic_rec_any_size (info : SegInfo) (evs : List ChainEv2) (hwf : ChainSizes2 info evs) :
    ChainCollision2 info evs ∨ (∃ w file bs, ChainResult2 info evs w file bs) ∨ ChainSealedStop2 info evs :=
  RaftWal.chain_atomic_rec_gen info evs hwf

/-! ### the two layers, linked by theorem: what the byte level can produce is what the protocol level allows, and vice versa

    `l2Run` plays a chain of byte-level events on a `Crash.Disk` with the protocol model's own functions: an
    acknowledged append is `.write` + `.fsync`; a restart is a process crash followed by `openResult`; a torn append is
    `.write`, a power loss whose `keepPending` choice for the file is the Boolean `keep` of that event, then `openResult`.
    `tag` maps payloads to the abstract entries of the protocol model. -/

/-- **every byte-level outcome is a protocol-level outcome**: for every chain, unless a torn image collides under CRC-32C,
    there is a choice `keep` of the protocol model's all-or-nothing power-loss outcomes under which its file holds
    (`content`) exactly the entries the byte level reads back, nothing is pending, and it is sealed iff the byte-level
    writer is. This is what `Model/Crash.lean` assumes of the byte level ("a torn batch is recovered
    as absent or whole"). -/
theorem byte_level_refines_protocol_file (tag : Bytes → Crash.Entry) (info : SegInfo) (evs : List ChainEv)
    (hwf : ChainWF info evs) :
    ChainCollision info evs ∨ ∃ (w : Writer) (file : Bytes) (bs : List (List Bytes)) (keep : List Bool),
        LinkResult info tag evs w file bs keep :=
  RaftWal.l1_refines_l2_file tag info evs hwf

/-- **every protocol-level power-loss choice is realised at byte level** (by the all-landed / nothing-landed masks): the
    protocol model allows nothing the bytes cannot do -/
theorem protocol_outcomes_realised_at_byte_level (tag : Bytes → Crash.Entry) (info : SegInfo) (evs : List ChainEv)
    (hwf : ChainWF info evs) (keep : List Bool) (hlen : keep.length = tornCount evs) :
    ∃ (w : Writer) (file : Bytes),
      LinkResult info tag (setMasks evs keep) w file (keptBatches evs keep) keep :=
  RaftWal.l2_outcomes_realised tag info evs hwf keep hlen

-- the hypotheses are satisfiable: a 7-event chain (append, tear recovered absent, restart, tear recovered whole, tear
-- recovered absent, sealing append, restart) — `chainEx_wf` in Proofs/SegmentChain.lean

/-! ## WAL level (Model/Crash.lean; what `Crash.QuiescentS` is and where it holds: Props/C01) -/

/-- **an append cut by a crash is recovered as absent or whole** — the log after recovery is the log before the call
    or that log followed by the whole batch; nothing else, whatever the crash point, crash kind and recovery history -/
theorem append_all_or_nothing_any_crash (d : Crash.Disk) (hq : Crash.QuiescentS d) (first : Nat) (es : List Crash.Entry)
    (s : Bool) (hok : (Crash.Op.store first es s).ok d) (k : Nat) (c : Crash.CrashKind) (d1 d' : Crash.Disk)
    (hr : Crash.ReachRec (Crash.crashAfter d (Crash.prog d (.store first es s)) k c) d1)
    (ho : Crash.openResult d1 = some d') :
    Crash.absLog d' = Crash.absLog d ∨ Crash.absLog d' = Crash.absLog d ++ Crash.appended first es :=
  Crash.append_all_or_nothing d hq first es s hok k c d1 d' hr ho

/-- for every call: the recovered log is the specification's log before or after the call (never fabricated, never
    half-applied) -/
theorem recovered_log_before_or_after (d : Crash.Disk) (hq : Crash.QuiescentS d) (op : Crash.Op) (hok : op.ok d) (k : Nat)
    (c : Crash.CrashKind) (d1 d' : Crash.Disk) (hr : Crash.ReachRec (Crash.crashAfter d (Crash.prog d op) k c) d1)
    (ho : Crash.openResult d1 = some d') :
    Crash.absLog d' = Crash.absLog d ∨ Crash.absLog d' = Crash.specApply (Crash.absLog d) op :=
  (Crash.crash_safe_corrected d hq op hok k c d1 d' hr ho).2.1

/-! ### chains with I/O faults: failed appends, whose bytes stay behind the tail (defect O21; `ChainEvF`,
    `chain_atomic_faults_stmt` and the repaired writer are described in Props/C10) -/

/-- the witness of the defect: a failed append's stale bytes are recovered as an entry nobody stored (input and outcome
    are described at `C10.failed_append_stale_bytes_fabricate_an_entry`) -/
theorem failed_append_stale_bytes_fabricate_an_entry : type_of% RaftWal.faultW3_outcome :=
  RaftWal.faultW3_outcome

theorem chain_atomic_with_faults_refuted : ¬ chain_atomic_faults_stmt := RaftWal.chain_atomic_faults_false

/-- what does hold of the unrepaired writer (**partial**: fsync faults only, each failed append followed directly by a
    restart; see `C10.chain_atomic_faults_partial`) -/
theorem chain_atomic_faults_partial (info : SegInfo) (evs : List ChainEvF) (l : List ChainEv)
    (hp : plainOf evs = some l) (hwf : ChainWFF info evs) :
    ChainCollision info l
    ∨ ∃ w file bs, FaultResult info evs w file bs ∧ ChainResult info l w file bs
        ∧ (∀ x ∈ file.drop w.writeOffset, x = 0) :=
  RaftWal.chain_atomic_faults_partial info evs l hp hwf

end RaftWal.C02
