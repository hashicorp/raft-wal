/-
  C19 — Migration copies the log and stable keys faithfully.
-/
import RaftWal.Proofs.MigrateProps
import RaftWal.Generated.Migrate
namespace RaftWal.C19
open RaftWal RaftWal.Migrate

/-- T1: the current source has the empty-source guard and copies exactly raft's standard keys -/
theorem source_facts : Generated.copyLogsEmptyGuard = true ∧
    Generated.knownIntKeys = ["CurrentTerm", "LastVoteTerm"] ∧ Generated.knownKeys = ["LastVoteCand"] := ⟨rfl, rfl, rfl⟩

/-- **copyLogs_exact**: for every source log (any first index, any length including 0, any entry sizes) and every
    batchBytes (0 and negative included), CopyLogs succeeds, the destination holds exactly the source's entries
    with the same FirstIndex and LastIndex, and the batches it was handed are non-empty and concatenate to the
    source -/
theorem copyLogs_exact (src : Src) (hwf : SrcWF src) (batchBytes : Int) :
    let out := copyLogs { emptyGuard := Generated.copyLogsEmptyGuard } src emptyDst batchBytes none
    out.res = .ok ∧ out.dst.entries = src.entries ∧ (src.entries ≠ [] → out.dst.first = src.first) ∧
    out.dst.firstIndex = src.firstIndex ∧ out.dst.lastIndex = src.last ∧
    out.batches.flatten = src.entries ∧ (∀ b ∈ out.batches, b ≠ []) := by
  have e : Generated.copyLogsEmptyGuard = true := source_facts.1
  rw [e]
  exact Migrate.copyLogs_exact src hwf batchBytes

/-- the pinned version's defect, as a theorem about the unguarded loop: an empty source fails -/
theorem empty_source_fails_unguarded (batchBytes : Int) :
    (copyLogs { emptyGuard := false } { first := 0, entries := [] } emptyDst batchBytes none).res = .otherErr :=
  copyLogs_empty_source_unguarded batchBytes

/-- **cancellation**: cancelled at iteration k, the destination holds a prefix of the source and the result is the
    context's error whenever the loop reaches iteration k -/
theorem copyLogs_cancel_prefix (src : Src) (hwf : SrcWF src) (batchBytes : Int) (k : Nat) :
    let out := copyLogs { emptyGuard := Generated.copyLogsEmptyGuard } src emptyDst batchBytes (some k)
    (∃ rest, out.dst.entries ++ rest = src.entries) ∧
    (k < src.entries.length → out.res = .ctxErr) ∧
    (src.entries.length ≤ k → out.res = .ok ∧ out.dst.entries = src.entries) := by
  have e : Generated.copyLogsEmptyGuard = true := source_facts.1
  rw [e]
  exact Migrate.copyLogs_cancel_prefix src hwf batchBytes k

/-- **copyStable**: every requested key that is readable on the source ends up on the destination with the
    source's answer -/
theorem copyStable_copies (knownInt known extraKeys extraIntKeys : List Bytes) (src dst : Stable)
    (hint : ∀ k ∈ knownInt ++ extraIntKeys, (src.getU k).isSome)
    (hkv : ∀ k ∈ known ++ extraKeys, (src.get k).isSome) :
    let (r, dst') := copyStable knownInt known src dst extraKeys extraIntKeys none
    r = .ok ∧ (∀ k ∈ knownInt ++ extraIntKeys, dst'.ints.find? (·.1 = k) = (src.getU k).map (fun v => (k, v))) ∧
    (∀ k ∈ known ++ extraKeys, dst'.kvs.find? (·.1 = k) = (src.get k).map (fun v => (k, v))) :=
  Migrate.copyStable_copies knownInt known extraKeys extraIntKeys src dst hint hkv

theorem copyStable_cancel (knownInt known extraKeys extraIntKeys : List Bytes) (src dst : Stable) (k : Nat)
    (hint : ∀ k ∈ knownInt ++ extraIntKeys, (src.getU k).isSome)
    (hkv : ∀ k ∈ known ++ extraKeys, (src.get k).isSome)
    (hk : k < (knownInt ++ extraIntKeys).length + (known ++ extraKeys).length) :
    (copyStable knownInt known src dst extraKeys extraIntKeys (some k)).1 = .ctxErr :=
  Migrate.copyStable_cancel knownInt known extraKeys extraIntKeys src dst k hint hkv hk

-- non-vacuity: a two-entry source starting at index 7 is well formed
example : SrcWF { first := 7, entries := [{ index := 7, term := 1, typ := 0, data := [], ext := [], time := some WTime.zero },
                                          { index := 8, term := 1, typ := 0, data := [1], ext := [], time := some WTime.zero }] } :=
  ⟨by intro _; decide, by intro k h; match k, h with | 0, _ => rfl | 1, _ => rfl, by intro l hl; simp at hl; rcases hl with h | h <;> subst h <;> rfl⟩

end RaftWal.C19
