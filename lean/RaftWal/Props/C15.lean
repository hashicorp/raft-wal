/-
  C15 — Entry-size boundaries: whatever is accepted is readable.
-/
import RaftWal.Proofs.SegmentL1Run
import RaftWal.Model.SizeLevel
namespace RaftWal.C15
open RaftWal

/-- **accepted_implies_readable**: if the writer acknowledged a run of batches, every entry of every batch — in
    every batch position, whatever its size relative to the read buffer (any buffer of at least one frame header,
    64 KiB in production), the segment size limit (an entry or batch larger than the whole segment is written,
    sealed and readable) or the 8-byte padding — is returned byte for byte. No size hypothesis: -/
theorem accepted_implies_readable (info : SegInfo) (bs : List (List Bytes)) (hwf : RunWF info bs)
    (hmin : info.min = info.base) (w : Writer) (file : Bytes)
    (hrun : (freshSegment info).1.appendAll (freshSegment info).2 info.base bs = some (w, file))
    (k : Nat) (hk : k < bs.flatten.length) (bufSize : Nat) (hbuf : 8 ≤ bufSize) :
    w.getLog file (info.base + k) bufSize = .ok (bs.flatten[k]'hk) :=
  RaftWal.accepted_implies_readable info bs hwf hmin w file hrun k hk bufSize hbuf

/-- … because acceptance itself implies every payload is within `MaxEntrySize` (64 MiB): an entry the reader
    could not read back is refused with an error, not acknowledged -/
theorem accepted_within_max (w : Writer) (file : Bytes) (next : Nat) (bs : List (List Bytes)) (w' : Writer) (file' : Bytes)
    (hrun : w.appendAll file next bs = some (w', file')) : ∀ b ∈ bs, ∀ p ∈ b, p.length ≤ maxEntrySize :=
  appendAll_payload_le w file next bs w' file' hrun

/-- an entry above the maximum is refused by `appendEntry` -/
theorem oversize_refused (w : Writer) (idx : Nat) (data : Bytes) (h : data.length > maxEntrySize) :
    w.appendEntry idx data = .error .other := by
  simp [Writer.appendEntry, h]

/-- the size-level acceptance function the `sizes` suite compares with the real code is the model's guard -/
theorem appendAcceptsSize_iff (n : Nat) : appendAcceptsSize n = true ↔ n ≤ maxEntrySize := by
  simp [appendAcceptsSize]

end RaftWal.C15
