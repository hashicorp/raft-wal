/-
  C08 — StableStore is a durable map, isolated from the log.
-/
import RaftWal.Proofs.WalInv2
import RaftWal.Proofs.CrashCorollaries
namespace RaftWal.C08
open RaftWal

/-- **stable_refines**: along any run mixing log calls (appends, rotations, truncations, Close/reopen) and
    StableStore calls, the WAL's stable map is exactly the reference map built from the Set/SetUint64 calls alone:
    log calls never alter stable keys, calls on a closed WAL change nothing, a clean reopen keeps every key -/
theorem stable_refines (cfg : WalCfg) (hcfg : cfg.newSegCodec = cfg.codecId) (w0 : Wal) (h0 : Wal.init cfg = some w0)
    (ops : List XOp) (hops : ∀ op ∈ ops, op.inRange) :
    (w0.xrunState ops).stable = (specStable ops).1 ∧ (w0.xrunState ops).closed = (specStable ops).2 :=
  RaftWal.stable_refines cfg hcfg w0 h0 ops hops

/-- Get returns the value of the latest Set for the key (nil when set to nil) -/
theorem get_after_set (m : SMap) (k : Bytes) (v : Option Bytes) : (m.set k v).get k = v := smap_get_set m k v

/-- … and a Set of another key does not disturb it -/
theorem get_after_set_other (m : SMap) (k k' : Bytes) (v : Option Bytes) (h : k' ≠ k) :
    (m.set k v).get k' = m.get k' := smap_get_set_other m k k' v h

/-- GetUint64 ∘ SetUint64 = id for every 64-bit value (8 bytes little endian) -/
theorem u64_roundtrip (w : Wal) (k : Bytes) (v : Nat) (hv : v < 2^64) (hopen : w.closed = false) :
    ((w.setUint64 k v).1.getUint64 k).2 = .ok v := RaftWal.u64_roundtrip w k v hv hopen

/-- GetUint64 of a key that was never set is 0 -/
theorem getUint64_unset_zero (w : Wal) (k : Bytes) (hopen : w.closed = false) (h : w.stable.find? (·.1 = k) = none) :
    (w.getUint64 k).2 = .ok 0 := RaftWal.getUint64_unset_zero w k hopen h

/-- stable calls never alter the log: segments, files, NextSegmentID and the closed flag are untouched -/
theorem stable_isolated (w : Wal) (k : Bytes) (v : Option Bytes) :
    let w' := (w.setStable k v).1
    w'.segs = w.segs ∧ w'.files = w.files ∧ w'.nextID = w.nextID ∧ w'.closed = w.closed :=
  stable_ops_leave_log w k v

/-! ## WAL level (Model/Crash.lean; the hypothesis here is the executable invariant `Crash.Quiescent`, which `QuiescentS` strengthens) -/

/-- **the stable store across crashes**: after recovery it is the store before the call or after it, the one after it
    once the call had returned; log calls never change it -/
theorem stable_any_crash (d : Crash.Disk) (hq : Crash.Quiescent d) (op : Crash.Op) (hok : op.ok d) (k : Nat)
    (c : Crash.CrashKind) (d1 d' : Crash.Disk) (hr : Crash.ReachRec (Crash.crashAfter d (Crash.prog d op) k c) d1)
    (ho : Crash.openResult d1 = some d') :
    (d'.md.stable = d.md.stable ∨ d'.md.stable = (d.applyAll (Crash.prog d op)).md.stable) ∧
    (Crash.ackPos (Crash.prog d op) < k → d'.md.stable = (d.applyAll (Crash.prog d op)).md.stable) :=
  Crash.stable_crash_safe d hq op hok k c d1 d' hr ho

end RaftWal.C08
