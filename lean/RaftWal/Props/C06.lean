/-
  C06 — Concurrent reads are linearizable against the single writer: readers are never blocked and see a consistent
  snapshot.
  Model: Model/Conc.lean.  "Never blocked" is structural in the model (a reader step never tests the write lock);
  on the real code it is exercised by the forced schedules of the conc suite (a reader completes while the writer
  is parked holding writeMu).
-/
import RaftWal.Generated.WalLogic
import RaftWal.Generated.Conc
import RaftWal.Proofs.ConcProps
import RaftWal.Props.C01
import RaftWal.Props.C04
namespace RaftWal.C06
open RaftWal RaftWal.Conc

/-- `release` neither reads nor writes the write lock -/
theorem release_setLock (s : Sys) (sid : Nat) (b : Bool) :
    Sys.release { s with lock := b } sid = { s.release sid with lock := b } := by
  rw [release_eq, release_eq]
  rfl

/-- a reader's step never depends on the write lock: readers are never blocked by the writer or by Close -/
theorem reader_ignores_lock (cfg : Cfg) (s : Sys) (i : Nat) (b : Bool) :
    stepReader cfg { s with lock := b } i = { stepReader cfg s i with lock := b } := by
  -- no branch reads `lock`: both sides are the same record once `start`'s test of `closed` is decided and, for
  -- `finished`, `release` is moved past the update
  unfold stepReader
  dsimp only
  cases s.readers[i]? with
  | none => rfl
  | some r =>
    dsimp only
    cases r.pc with
    | start => cases s.closed <;> rfl
    | checked => rfl
    | loaded sid => rfl
    | acquired sid => rfl
    | finished sid res =>
      exact congrArg (fun t : Sys => { t with readers := t.readers.set i { r with pc := .done res } })
        (release_setLock s sid b)
    | done _ => rfl

/-- **files of the current state are open** under every schedule, until Close swaps in the empty state -/
theorem current_files_open (files wants : List FileId) (muts : List Mutation) (hwf : InitWF files muts) (s : Sys)
    (h : Reachable files wants muts s) (hc : closePublished s = false) :
    ∀ f ∈ (s.obj s.cur).files, s.isOpen f = true :=
  Conc.current_files_open files wants muts hwf s h hc

/-- **a file error only for entries a state change removed** -/
theorem error_only_if_removed (files wants : List FileId) (muts : List Mutation) (hwf : InitWF files muts) (s : Sys)
    (h : Reachable files wants muts s) (i : Nat) (r : Reader) (hr : s.readers[i]? = some r) (sid : Nat)
    (hpc : r.pc = .acquired sid) (hc : closePublished s = false)
    (hres : ((stepReader fixed s i).readers[i]?.map (·.pc)) = some (.finished sid .errFile)) :
    r.want ∉ (s.obj s.cur).files :=
  Conc.error_only_if_removed files wants muts hwf s h i r hr sid hpc hc hres

/-- **an entry that stays in the log is read intact**, whatever truncations/rotations are in flight -/
theorem intact_if_stays (files wants : List FileId) (muts : List Mutation) (hwf : InitWF files muts) (s : Sys)
    (h : Reachable files wants muts s) (i : Nat) (r : Reader) (hr : s.readers[i]? = some r) (sid : Nat)
    (hpc : r.pc = .acquired sid) (hin : r.want ∈ (s.obj sid).files) (hempty : (s.obj sid).empty = false)
    (hcur : r.want ∈ (s.obj s.cur).files) (hc : closePublished s = false) :
    ((stepReader fixed s i).readers[i]?.map (·.pc)) = some (.finished sid .ok) :=
  Conc.intact_if_stays files wants muts hwf s h i r hr sid hpc hin hempty hcur hc

/-- **reference counts are exact** (count = number of threads holding the state) -/
theorem refcount_exact (files wants : List FileId) (muts : List Mutation) (s : Sys)
    (h : Reachable files wants muts s) (sid : Nat) (hs : sid < s.objs.length) :
    (s.obj sid).refCount = holders s sid :=
  Conc.refcount_exact files wants muts s h sid hs

/-- **finalizers run once**: no handle is ever closed twice -/
theorem no_double_close (files wants : List FileId) (muts : List Mutation) (hwf : InitWF files muts) (s : Sys)
    (h : Reachable files wants muts s) : s.doubleClose = false :=
  Conc.no_double_close files wants muts hwf s h

/-- **an entry becomes visible only once durable** (segment level): the commit index readers are gated on moves in
    the step that has flushed and fsynced the batch, and T1 checks `OffsetForFrame` is gated on it -/
theorem visible_only_after_sync (w : Writer) (file : Bytes) (es : List (Nat × Bytes)) (w' : Writer) (file' : Bytes)
    (h : w.append file es .none = (none, w', file')) (hne : es.isEmpty = false) :
    w'.commitIdx = ((es.getLast?.map (·.1)).getD 0) :=
  C01.visible_only_after_sync w file es w' file' h hne
theorem reads_gated_on_commit_index : Generated.readsGatedOnCommitIdx = true := by decide

/-- T1: the writer attaches the finalizer only after the meta commit and the publication of the successor — the
    order of the model's writer steps (`held → published → finSet`) -/
theorem finalizer_attached_after_publish : Generated.finalizerAttachedAfterPublish = true :=
  C04.files_deleted_only_after_commit

/-- StoreLogs and DeleteRange — every kind of DeleteRange — wait for a queued rotation after taking the write lock and
    before they look at the state (read from the source on every run): no call runs between a sealing append and its rotation -/
theorem writers_wait_for_queued_rotation : Generated.writersAwaitRotationFirst = true := by decide

/-- every reference a call takes on the current state is given back exactly once (read from the source on every run: each
    `acquireState()` site declares fresh variables and defers the release in the next statement) — the discipline the
    readers of `Model.Conc` follow and `refcount_exact` / `no_double_close` / the reclaim theorems rest on -/
theorem every_acquire_is_released_once : Generated.everyAcquireHasDeferredRelease = true := by decide

/-- the reference count of a state is touched by `acquire` and `release` only (read from the source): every decrement goes
    through `release`, which runs the finalizer at zero — the step `Model.Conc` takes -/
theorem refcount_only_through_acquire_release :
    Generated.refCountTouchedBy = ["state.acquire", "state.release"] := rfl

end RaftWal.C06
