/-
  C05 — Sequential behaviour equals a simple contiguous-log model.
-/
import RaftWal.Generated.WalLogic
import RaftWal.Proofs.WalDecide
import RaftWal.Proofs.WalDecideScans
import RaftWal.Proofs.WalRefine
import RaftWal.Proofs.SpecLog
import RaftWal.Generated.Codec
import RaftWal.Proofs.CrashSpecLink
namespace RaftWal.C05
open RaftWal

/-- T1: `newSegment` records the configured codec's ID, so a WAL reopened with the codec it was created with
    passes Open's codec check (the hypothesis `newSegCodec = codecId` of the refinement) -/
theorem newSegment_records_codec : Generated.newSegmentRecordsConfiguredCodec = true := by decide

/-- **wal_refines_spec**: for every operation sequence over StoreLogs, DeleteRange, GetLog, FirstIndex,
    LastIndex, Close and reopen — any batch shapes, any (min,max), any segment size down to one entry per
    segment, any start index — the answers of the WAL model equal those of the reference contiguous log:
    GetLog returns the stored entry exactly on [FirstIndex, LastIndex] and not-found elsewhere, identically
    before and after a reopen; non-contiguous or internally non-consecutive appends and strict-middle deletions
    are rejected and change nothing; an empty log accepts any start index ≥ 1. -/
theorem wal_refines_spec (cfg : WalCfg) (hcfg : cfg.newSegCodec = cfg.codecId) (w0 : Wal)
    (h0 : Wal.init cfg = some w0) (ops : List Op) (hops : ∀ op ∈ ops, op.inRange) :
    w0.run ops = ({ first := 0, entries := [] } : Spec.SLog).run ops :=
  RaftWal.wal_refines_spec cfg hcfg w0 h0 ops hops

/-- a new directory always opens -/
theorem init_succeeds (cfg : WalCfg) : (Wal.init cfg).isSome = true := by
  simp [Wal.init, Wal.reopen, Wal.reopen.build, Wal.createNext, Wal.tailSeg, Wal.newSeg, u64]

/-! ### what the reference log says (decision logic stated outright) -/

/-- a strict-middle range is rejected and changes nothing -/
theorem spec_delete_middle_rejected (s : Spec.SLog) (mn mx : Nat) (hopen : s.closed = false)
    (hne : s.entries ≠ []) (h1 : s.firstIndex < mn) (h2 : mn ≤ mx) (h3 : mx < s.lastIndex) :
    s.delete mn mx = (s, some .rejected) := by
  rw [Spec.SLog.delete_of_open hopen h2,
    if_neg (Spec.SLog.not_disjoint hne (Nat.le_trans (Nat.le_of_lt h1) h2) (Nat.le_trans h2 (Nat.le_of_lt h3))),
    if_neg (Nat.not_le.mpr h1), if_neg (Nat.not_le.mpr h3)]

/-- an empty inclusive range is a no-op -/
theorem spec_delete_empty_range (s : Spec.SLog) (mn mx : Nat) (hopen : s.closed = false) (h : mn > mx) :
    s.delete mn mx = (s, none) := by
  rw [Spec.SLog.delete_open hopen, if_pos h]

/-- a range entirely outside the log is a no-op -/
theorem spec_delete_disjoint (s : Spec.SLog) (mn mx : Nat) (hopen : s.closed = false) (hle : mn ≤ mx)
    (h : mx < s.firstIndex ∨ mn > s.lastIndex) : s.delete mn mx = (s, none) := by
  rw [Spec.SLog.delete_of_open hopen hle, if_pos (Or.inr h)]

/-- a rejected append changes nothing -/
theorem spec_store_rejected_unchanged (s : Spec.SLog) (logs : List Log) (h : (s.store logs).2 = some .rejected) :
    (s.store logs).1 = s := by
  cases hc : s.closed with
  | true => rw [Spec.SLog.store_of_closed hc]
  | false =>
    cases logs with
    | nil => rw [Spec.SLog.store_nil hc]
    | cons l ls =>
      rw [Spec.SLog.store_cons hc] at h ⊢
      cases ha : s.accepts (l :: ls) with
      | false => rfl
      | true =>
        rw [ha] at h
        cases h

/-- an empty log accepts any batch that is internally consecutive, encodable and starts at an index ≥ 1 -/
theorem spec_empty_accepts_any_start (s : Spec.SLog) (l : Log) (ls : List Log) (he : s.entries = [])
    (h1 : 1 ≤ l.index) (h2 : Spec.consecutiveFrom l.index (l :: ls) = true)
    (h3 : (l :: ls).all (fun l => (encode l).isSome) = true) : s.accepts (l :: ls) = true :=
  Spec.SLog.accepts_cons_iff.mpr ⟨h2, List.all_eq_true.mp h3, (if_pos he).mpr h1⟩

-- non-vacuity: a program with rotation, head and tail truncation and reopen meets the hypotheses
example : ∀ op ∈ ([.store [{ index := 7, term := 1, typ := 0, data := [1,2,3], ext := [], time := some WTime.zero }],
                   .del 7 7, .get 7, .reopen, .first, .last] : List Op), op.inRange := by
  intro op h
  simp only [List.mem_cons, List.mem_nil_iff, or_false] at h
  rcases h with h | h | h | h | h | h <;> subst h <;> simp [Op.inRange]

/-! ## one specification: the log the crash theorems (C01–C04) are stated against is this reference log -/

/-- an append the reference log accepts is a legal `store` of the crash model's specification with the same result -/
theorem crash_spec_store_is_reference (tag : Log → Crash.Entry) (s : Spec.SLog) (l : Log) (ls : List Log) (b : Bool)
    (hopen : s.closed = false) (hacc : s.accepts (l :: ls) = true) :
    Crash.view tag (s.store (l :: ls)).1 = Crash.specApply (Crash.view tag s) (.store l.index ((l :: ls).map tag) b) ∧
    (s.store (l :: ls)).2 = none :=
  Crash.store_link tag s l ls b hopen hacc

/-- a prefix DeleteRange of the reference log is the crash model's `delHead` (max clamped to LastIndex, as wal.go does) -/
theorem crash_spec_delHead_is_reference (tag : Log → Crash.Entry) (s : Spec.SLog) (mn mx : Nat) (hopen : s.closed = false)
    (hne : s.entries ≠ []) (h1 : mn ≤ mx) (h2 : mn ≤ s.firstIndex) (h3 : s.firstIndex ≤ mx) :
    Crash.view tag (s.delete mn mx).1 =
      Crash.specApply (Crash.view tag s) (.delHead ((if mx > s.lastIndex then s.lastIndex else mx) + 1)) ∧
    (s.delete mn mx).2 = none :=
  Crash.delHead_link tag s mn mx hopen hne h1 h2 h3

/-- a suffix DeleteRange of the reference log is the crash model's `delTail` -/
theorem crash_spec_delTail_is_reference (tag : Log → Crash.Entry) (s : Spec.SLog) (mn mx : Nat) (hopen : s.closed = false)
    (hne : s.entries ≠ []) (h2 : s.firstIndex < mn) (h3 : mn ≤ s.lastIndex) (h4 : s.lastIndex ≤ mx) :
    Crash.view tag (s.delete mn mx).1 = Crash.specApply (Crash.view tag s) (.delTail (mn - 1)) ∧ (s.delete mn mx).2 = none :=
  Crash.delTail_link tag s mn mx hopen hne h2 h3 h4

/-! ## the decision logic of wal.go, read from the source on every run (T1): the comparisons by which `DeleteRange`
    classifies a range, the truncation scans pick the segments to keep, and `StoreLogs` re-bases or refuses — the ones
    `Model.Wal.deleteRange` / `storeLogs` implement and `wal_refines_spec` is proved about -/

/-- the model's `DeleteRange` on an open log is "decide, then act" … -/
theorem deleteRange_is_decide_then_act (w : Wal) (min max : Nat) (hc : w.closed = false) :
    w.deleteRange min max = w.applyDel (w.delDecision min max) :=
  RaftWal.deleteRange_eq_decision w min max hc

/-- … and **the decision is the one wal.go takes**, for all uint64 arguments: `Generated.deleteRangeDecide` is
    `DeleteRange`'s empty-range return, its classification switch, the clamping of `max` and the wrapping `max+1` /
    `min-1` it hands to the truncations, translated from the source expression by expression on every run. A rewrite of
    wal.go that keeps the decision still proves; one that changes it for some (min, max, first, last) does not. -/
theorem deleteRange_decision_from_source (w : Wal) (min max : Nat) (hmin : min < 2^64) (hmax : max < 2^64)
    (hf : w.firstIndex < 2^64) (hl : w.lastIndex < 2^64) :
    w.delDecision min max = Generated.deleteRangeDecide min max w.firstIndex w.lastIndex :=
  RaftWal.delDecision_eq_source w min max hmin hmax hf hl

/-- **the model's DeleteRange is the code's decision applied with the code's scans**: `applyDelVia` runs the model's
    truncations with their scan conditions replaced by the predicates translated from wal.go (`truncateHeadVia
    Generated.truncateHeadStopsAt`, `truncateTailVia Generated.truncateTailKeeps` — copies of `Wal.truncateHead` /
    `Wal.truncateTail` that ask the translated predicate at every step of the scan) -/
theorem deleteRange_via_source (w : Wal) (min max : Nat) (hc : w.closed = false)
    (hmin : min < 2^64) (hmax : max < 2^64) (hf : w.firstIndex < 2^64) (hl : w.lastIndex < 2^64) :
    w.deleteRange min max = w.applyDelVia (Generated.deleteRangeDecide min max w.firstIndex w.lastIndex) :=
  RaftWal.deleteRange_via_source w min max hc hmin hmax hf hl

theorem truncateHead_is_source_scan (w : Wal) (n : Nat) :
    w.truncateHead n = w.truncateHeadVia Generated.truncateHeadStopsAt n := RaftWal.truncateHead_eq_via w n

theorem truncateTail_is_source_scan (w : Wal) (n : Nat) :
    w.truncateTail n = w.truncateTailVia Generated.truncateTailKeeps n := RaftWal.truncateTail_eq_via w n

/-- `StoreLogs` with the two guards translated from wal.go is the model's, for indexes below 2^64 − 1 (the bound is
    tight: `ScansCex.storeLogs_eq_via_needs_hypothesis_uint64`) -/
theorem storeLogs_is_source_guards (w : Wal) (logs : List Log)
    (h0 : w.lastIndex + 1 < 2^64) (h : ∀ l ∈ logs.dropLast, l.index + 1 < 2^64) :
    w.storeLogs logs = w.storeLogsVia Generated.storeRebases Generated.storeRefusesIndex logs :=
  RaftWal.storeLogs_eq_via w logs h0 h

/-- two boundary decisions, stated outright on the translated code: "everything up to MaxUint64" from at
    or below the first index is a head truncation to `last+1` (no wrap to 0), and a range touching only the first entry is
    a head truncation, not a no-op -/
theorem deleteRange_source_boundaries :
    (∀ first last, 0 < first → first ≤ last → last < 2^64 - 1 →
        Generated.deleteRangeDecide first (2^64 - 1) first last = .head (last + 1)) ∧
    (∀ first last mn, 0 < first → first ≤ last → last < 2^64 - 1 → mn ≤ first →
        Generated.deleteRangeDecide mn first first last = .head (first + 1)) := by
  -- both are the model's decision (`deleteRangeDecide_eq`, which does not depend on how wal.go writes its conditions),
  -- read off `DelCase`: a head truncation whose clamped `max + 1` does not wrap
  refine ⟨fun first last _ h1 h2 => ?_, fun first last mn _ h1 h2 h3 => ?_⟩
  · rw [deleteRangeDecide_eq _ _ _ _ (by omega)]
    refine delDecide_of_case ⟨⟨by omega, by omega, Nat.le_refl _⟩, ?_⟩
    rw [Nat.min_eq_right (by omega), u64, Nat.mod_eq_of_lt (by omega)]
  · rw [deleteRangeDecide_eq _ _ _ _ (by omega)]
    refine delDecide_of_case ⟨⟨by omega, by omega, h3⟩, ?_⟩
    rw [Nat.min_eq_left h1, u64, Nat.mod_eq_of_lt (by omega)]

/-- the truncation scans, as functions translated from the source, decide as the model's do -/
theorem truncation_scans_from_source (s : SegS) (stateLast newMin newMax : Nat) :
    (((¬ s.sealed ∧ stateLast ≥ newMin) ∨ (s.sealed ∧ s.max ≥ newMin)) ↔
        Generated.truncateHeadStopsAt s.sealed s.base s.min s.max stateLast newMin = true) ∧
    ((s.base ≤ newMax) ↔ Generated.truncateTailKeeps s.base s.min s.max newMax = true) :=
  ⟨RaftWal.truncateHead_stop_eq_source s stateLast newMin, RaftWal.truncateTail_keep_eq_source s newMax⟩

/-- and so do `StoreLogs`' two guards, for indexes below 2^64 − 1 -/
theorem storeLogs_guards_from_source (lastIdx firstNew tailBase idx : Nat) (h : lastIdx + 1 < 2^64) :
    ((lastIdx = 0 ∧ firstNew ≠ tailBase) ↔ Generated.storeRebases lastIdx firstNew tailBase = true) ∧
    ((lastIdx > 0 ∧ idx ≠ lastIdx + 1) ↔ Generated.storeRefusesIndex lastIdx idx = true) :=
  ⟨RaftWal.store_rebase_eq_source lastIdx firstNew tailBase, RaftWal.store_refuses_eq_source lastIdx idx h⟩

/-- at the very end of the index space the code's monotonicity check wraps (after 2^64−1 it would accept index 0):
    the reason `wal_refines_spec` is stated for indexes below 2^64−1 (`Op.inRange`) -/
theorem storeLogs_guard_wraps_at_max : Generated.storeRefusesIndex (2^64 - 1) 0 = false :=
  RaftWal.store_refuses_wraps

/-- both writers wait for a queued rotation before they look at the state (the model rotates inside the sealing append:
    no call ever sees a sealed tail that is still the tail) -/
theorem writers_wait_for_queued_rotation : Generated.writersAwaitRotationFirst = true := by decide

end RaftWal.C05
