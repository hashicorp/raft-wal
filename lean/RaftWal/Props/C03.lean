/-
  C03 — Recovery always restores a fully usable, writable WAL.
-/
import RaftWal.Proofs.SegmentTorn
import RaftWal.Proofs.SegmentChain
import RaftWal.Proofs.WalRefine
import RaftWal.Proofs.CrashCorollaries
namespace RaftWal.C03
open RaftWal

/-- **recovery never fails along a chain, and what it leaves takes the next append** (byte level, any number of
    tear / recover / restart / append cycles — `ChainEv`, described in Props/C02): the chain followed by one more acknowledged append
    runs without error and the file then holds that batch too; the alternative is an explicit CRC-32C collision -/
theorem recovery_total_and_writable_any_chain (info : SegInfo) (evs : List ChainEv) (b : List Bytes)
    (hwf : ChainWF info (evs ++ [.append b])) :
    ChainCollision info (evs ++ [.append b]) ∨
      ∃ w file bs, chainRun info (freshSegment info) (evs ++ [.append b]) = .ok (w, file) ∧ b ∈ bs
        ∧ ChainResult info (evs ++ [.append b]) w file bs :=
  RaftWal.chain_recovery_total info evs b hwf

/-- **tail recovery is total on crash images**: for every torn in-flight append after at least one acknowledged
    batch, `recoverTail` returns a writer (never an error) -/
theorem recover_total_on_torn (info : SegInfo) (bs : List (List Bytes)) (b : List Bytes) (hne : bs ≠ [])
    (hwf : RunWF info (bs ++ [b])) (w : Writer) (file : Bytes)
    (hrun : (freshSegment info).1.appendAll (freshSegment info).2 info.base bs = some (w, file))
    (w' : Writer) (file' : Bytes)
    (happ : w.append file (indexBatch (info.base + bs.flatten.length) b) .none = (none, w', file'))
    (mask : Nat → Bool) :
    ∃ wr img', recoverTail info (tearImage file file' w.writeOffset (w'.writeOffset - w.writeOffset) mask) = .ok (wr, img') := by
  obtain ⟨wr, img', h, _⟩ := recover_torn_atomic_partial info bs b hne hwf w file hrun w' file' happ mask
  exact ⟨wr, img', h⟩

/-- **a recovered tail is only sealed by a committed index frame**: a file without any valid commit recovers as an
    unsealed, empty writer -/
theorem recovered_empty_not_sealed (info : SegInfo) (file : Bytes) (w : Writer) (file' : Bytes)
    (h : recoverTail info file = .ok (w, file'))
    (hnone : ((readThroughSegment file).2.foldl recStep {}).commits.find? (commitValid file) = none) :
    w.indexStart = 0 ∧ w.offsets = [] ∧ w.writeOffset = 0 := by
  rw [recoverTail_none info file (scanFold file) rfl hnone] at h
  cases h
  exact ⟨rfl, rfl, rfl⟩

/-- after a clean restart the sequential model stays a refinement of the reference log (so StoreLogs at
    LastIndex+1, DeleteRange and further reopen cycles behave): `reopen` is one of the operations of C05's theorem -/
theorem usable_after_reopen (cfg : WalCfg) (hcfg : cfg.newSegCodec = cfg.codecId) (w0 : Wal)
    (h0 : Wal.init cfg = some w0) (ops : List Op) (hops : ∀ op ∈ ops, op.inRange) (more : List Op)
    (hmore : ∀ op ∈ more, op.inRange) :
    w0.run (ops ++ [.reopen] ++ more) = ({ first := 0, entries := [] } : Spec.SLog).run (ops ++ [.reopen] ++ more) := by
  apply wal_refines_spec cfg hcfg w0 h0
  intro op hop
  simp only [List.mem_append, List.mem_singleton] at hop
  rcases hop with (h | h) | h
  · exact hops op h
  · subst h; trivial
  · exact hmore op h

/-! ## WAL level (Model/Crash.lean; what `Crash.QuiescentS` is and where it holds: Props/C01) -/

/-- **recovery always terminates in a usable log**: from the image of any crash inside any call, after any number of
    recoveries cut short by further crashes, Open succeeds, and the state it leaves accepts every legal call with the
    specified effect (and is covered again by the crash theorems) -/
theorem recovery_usable_any_crash (d : Crash.Disk) (hq : Crash.QuiescentS d) (op : Crash.Op) (hok : op.ok d) (k : Nat)
    (c : Crash.CrashKind) (d1 : Crash.Disk) (hr : Crash.ReachRec (Crash.crashAfter d (Crash.prog d op) k c) d1) :
    ∃ d', Crash.openResult d1 = some d' ∧ Crash.QuiescentS d' ∧
      ∀ op', op'.ok d' → Crash.QuiescentS (d'.applyAll (Crash.prog d' op')) ∧
        Crash.absLog (d'.applyAll (Crash.prog d' op')) = Crash.specApply (Crash.absLog d') op' :=
  Crash.recovery_usable d hq op hok k c d1 hr

/-- the invariant the theorem needs is not vacuous: without it Open can fail (a state the executable invariant
    `quiescentB` alone admits; no run reaches it) -/
theorem open_can_fail_outside_invariant : ¬ Crash.open_never_fails_stmt := Crash.open_never_fails_refuted

end RaftWal.C03
