/-
  C20 — Metrics are declared and add up.  Static half: over the call-site table and the MetricDefinitions tables
  regenerated from the current source.  Dynamic half: `counters_exact`, over runs of the WAL model.
-/
import RaftWal.Generated.Metrics
import RaftWal.Proofs.WalInv2
import RaftWal.Proofs.WalInv2Counter
namespace RaftWal.C20
open RaftWal.Generated

def countersOf (pkg : String) : List String := if pkg = "wal" then walCounters else if pkg = "verifier" then verifierCounters else []
def gaugesOf (pkg : String) : List String := if pkg = "wal" then walGauges else if pkg = "verifier" then verifierGauges else []

/-- a call site is fine when its name is a string literal declared, with the right kind, by its own package -/
def siteOk (s : String × String × String × String × Bool) : Bool :=
  let (pkg, _, kind, name, lit) := s
  lit && (if kind = "counter" then (countersOf pkg).contains name else if kind = "gauge" then (gaugesOf pkg).contains name else false)

/-- the three checks of the name tables, evaluated in one go: comparing two string literals makes the kernel UTF-8-encode
    both, and it remembers an encoded literal only within one declaration -/
theorem tables_consistent :
    metricSites.all siteOk = true ∧
    ((walCounters ++ walGauges).Nodup ∧ (verifierCounters ++ verifierGauges).Nodup) ∧
    (walCounters ++ walGauges ++ verifierCounters ++ verifierGauges).all
      (fun n => metricSites.any (fun s => s.2.2.2.1 = n)) = true := by decide +kernel

/-- **every emitted metric name is declared** (so the bundled AtomicCollector never panics on an unknown name) -/
theorem emitted_subset_declared : metricSites.all siteOk = true := tables_consistent.1

/-- no duplicate names within a package's definitions (AtomicCollector panics on duplicates) -/
theorem definitions_nodup :
    (walCounters ++ walGauges).Nodup ∧ (verifierCounters ++ verifierGauges).Nodup := tables_consistent.2.1

/-- every declared counter and gauge, of both packages, is emitted somewhere (no dead definitions) -/
theorem declared_are_emitted :
    (walCounters ++ walGauges ++ verifierCounters ++ verifierGauges).all
      (fun n => metricSites.any (fun s => s.2.2.2.1 = n)) = true := tables_consistent.2.2

/-- the call sites the dynamic model (Model.Wal counters) assumes: one site per counter, in these functions -/
theorem wal_sites_as_modelled :
    (metricSites.filter (fun s => s.1 = "wal")).map (fun s => (s.2.1, s.2.2.2.1)) =
    [("GetLog", "log_entries_read"), ("GetLog", "log_entry_bytes_read"), ("StoreLogs", "log_appends"),
     ("StoreLogs", "log_entries_written"), ("StoreLogs", "log_entry_bytes_written"), ("Set", "stable_sets"),
     ("Get", "stable_gets"), ("rotateSegmentLocked", "last_segment_age_seconds"), ("rotateSegmentLocked", "segment_rotations"),
     ("truncateHeadLocked", "head_truncations"), ("truncateTailLocked", "tail_truncations")] := rfl

theorem verifier_sites_as_modelled :
    (metricSites.filter (fun s => s.1 = "verifier")).map (fun s => (s.2.1, s.2.2.2.1)) =
    [("StoreLogs", "checkpoints_written"), ("triggerVerify", "dropped_reports"), ("runVerifier", "ranges_verified"),
     ("verify", "write_checksum_failures"), ("verify", "read_checksum_failures")] := rfl

/-- **counters_exact**: after any run of log and StableStore calls the WAL's counters equal the true totals computed
    from the reference log alone — calls, entries and encoded bytes appended, reads and bytes read, stable gets and
    sets, and head/tail truncation counts equal to the number of entries actually removed (as long as fewer than
    2^64 entries were removed at each end: the counters are uint64) -/
theorem counters_exact (cfg : WalCfg) (hcfg : cfg.newSegCodec = cfg.codecId) (w0 : Wal) (h0 : Wal.init cfg = some w0)
    (ops : List XOp) (hops : ∀ op ∈ ops, op.inRange)
    (hhead : (specTotals ops).2.head < 2^64) (htail : (specTotals ops).2.tail < 2^64) :
    (w0.xrunState ops).ctr.totals = (specTotals ops).2 :=
  RaftWal.counters_exact cfg hcfg w0 h0 ops hops hhead htail

/-- unconditional form: the truncation counters equal the true totals modulo 2^64 -/
theorem counters_exact_mod (cfg : WalCfg) (hcfg : cfg.newSegCodec = cfg.codecId) (w0 : Wal) (h0 : Wal.init cfg = some w0)
    (ops : List XOp) (hops : ∀ op ∈ ops, op.inRange) :
    (w0.xrunState ops).ctr.totals =
      { (specTotals ops).2 with head := u64 (specTotals ops).2.head, tail := u64 (specTotals ops).2.tail } :=
  RaftWal.counters_exact_mod cfg hcfg w0 h0 ops hops

end RaftWal.C20
