/-
  C18 — Verifier is transparent and never blocks appends.
-/
import RaftWal.Proofs.VerifierDecide
import RaftWal.Proofs.VerifierReach
import RaftWal.Generated.Verifier
import RaftWal.Props.C16
namespace RaftWal.C18
open RaftWal RaftWal.Verifier

/-- **transparency of StoreLogs**: the underlying store receives the same entries, field for field, except that a
    leader's checkpoint (empty Extensions) gains the 24-byte verification metadata -/
theorem middleware_transparent (n : Node) (logs : List Log) :
    let (_, passed, _) := n.storeLogs logs
    passed.length ≤ logs.length ∧
    ∀ k (h1 : k < passed.length) (h2 : k < logs.length),
      let a := passed[k]'h1
      let b := logs[k]'h2
      a.index = b.index ∧ a.term = b.term ∧ a.typ = b.typ ∧ a.data = b.data ∧ a.time = b.time ∧
      (a.ext = b.ext ∨ (isCheckpoint b = .yes ∧ b.ext = [] ∧ a.ext.length = 24)) :=
  storeLogs_transparent n logs

/-- a checkpoint whose Extensions hold foreign data (not the verifier's metadata) is refused -/
theorem foreign_extensions_refused (l : Log) (cs : UInt64) (st : Nat)
    (hcp : isCheckpoint l = .yes) (hne : l.ext.length ≠ 0) (hbad : decodeMeta l.ext = none) :
    updateVerifyState l cs st = none := by
  rw [uvs_follower l cs st hcp (fun h => hne (congrArg List.length h)), hbad]
  rfl

/-- reads are literal delegation to the underlying store (when the store is not made to lie) -/
theorem getLog_delegates (n : Node) (i : Nat) (h : n.atRest = []) : n.getLog i = n.store.get i := by
  unfold Node.getLog
  cases n.store.get i <;> simp [h]

/-- **StoreLogs never blocks**: handing a report to the verifier is total and immediate in every channel state —
    it is taken, queued in the single slot, or dropped and counted; there is no waiting state -/
theorem trigger_total (n : Node) (r : Report) :
    (n.busy = none → (n.trigger r).busy.isSome) ∧
    (n.busy.isSome → n.queued = none → (n.trigger r).queued = some r ∧ (n.trigger r).dropped = n.dropped) ∧
    (n.busy.isSome → n.queued.isSome → (n.trigger r).dropped = n.dropped + 1 ∧ (n.trigger r).queued = n.queued) := by
  rcases trigger_cases n r with ⟨hb, ht⟩ | ⟨b, hb, hq, ht⟩ | ⟨b, q, hb, hq, ht⟩
  · rw [ht, hb]
    exact ⟨fun _ => (take_frame n r).2.2.2.2.1, nofun, nofun⟩
  · rw [ht, hb, hq]
    exact ⟨nofun, fun _ _ => ⟨rfl, rfl⟩, fun _ => nofun⟩
  · rw [ht, hb, hq]
    exact ⟨nofun, fun _ => nofun, fun _ _ => ⟨rfl, rfl⟩⟩

/-- **report_or_drop_once**: in every reachable state of a node (any interleaving of appends with checkpoints,
    truncations and report deliveries that take arbitrarily long) checkpoints written = reports delivered +
    drops counted + at most one queued + at most one being delivered -/
theorem report_or_drop_once (ops : List NodeOp) :
    let n := ({ resetOnDelete := true } : Node).run ops
    n.cpWritten = n.verified + n.dropped + outstanding n ∧ outstanding n ≤ 2 := by
  have h := (reach_run ops { resetOnDelete := true } reach_init).acct
  refine ⟨h.1, ?_⟩
  unfold outstanding; split <;> split <;> omega

/-- at quiescence (the verifier idle) every checkpoint is exactly one delivered report or one counted drop -/
theorem quiescent_exactly_once (ops : List NodeOp)
    (hq : (({ resetOnDelete := true } : Node).run ops).busy = none) :
    let n := ({ resetOnDelete := true } : Node).run ops
    n.cpWritten = n.verified + n.dropped :=
  quiescent_accounting _ (reach_run ops { resetOnDelete := true } reach_init).acct hq

/-- `verify` fills in the verdict and the read sum; what the report says was skipped is left alone -/
theorem verify_skipped (n : Node) (r : Report) : (n.verify r).2.skipped = r.skipped := by
  by_cases hw : r.written ≠ 0 ∧ r.written ≠ r.expected
  · rw [verify_inflight n r hw]
  cases hc : n.store.closed with
  | true => rw [verify_closed n r hw hc]
  | false =>
    by_cases hf : n.store.firstIndex > r.start
    · rw [verify_range n r hw hc hf]
    rw [verify_read n r hw hc (Nat.le_of_not_lt hf)]
    cases readRange n r.start (r.stop - r.start) with
    | none => rfl
    | some es =>
      by_cases he : chain 0 es ≠ r.expected
      · simp only [if_pos he]
      · simp only [if_neg he]

/-- **skipped range named**: when the verifier takes a report whose range does not start where the last taken
    one ended, the report names the gap `[end of the last taken, start of this)` -/
theorem skipped_range_named (n : Node) (r : Report) (h1 : n.lastCP > 0) (h2 : n.lastCP ≠ r.start) :
    ∃ r', (n.take r).busy = some r' ∧ r'.skipped = some (n.lastCP, r.start) := by
  unfold Node.take
  rw [if_pos ⟨h1, h2⟩]
  exact ⟨_, rfl, verify_skipped _ _⟩

/-! ## the store underneath refuses a call -/

/-- **a failed StoreLogs changes nothing**: when the call returns an error (the store underneath refused the batch, or
    the verifier itself refused it) the node is exactly as before — running sum, its start, counters, the hand-off
    channel.  (C16/C17: no phantom entries in the sum; C18: no report, no count for a batch that was not stored.) -/
theorem failed_store_changes_nothing (n : Node) (logs : List Log) (h : (n.storeLogs logs).2.2 = true) :
    (n.storeLogs logs).1 = n := by
  rcases storeLogs_cases n logs with ⟨b, hs⟩ | ⟨_, _, _, _, _, _, hs | ⟨_, hs⟩⟩
  · rw [hs]
  · rw [hs]
  · rw [hs] at h
    cases h

/-- whatever the reason, an error of the store underneath is the error of the call (and conversely, apart from the
    verifier's own refusals — a failing checkpoint predicate or foreign Extensions — which happen before the store is
    asked) -/
theorem store_error_is_returned (n : Node) (logs logs' : List Log) (cs : UInt64) (st : Nat) (rs : List Report)
    (hne : logs.isEmpty = false)
    (hu : Node.storeLogs.upd logs n.checksum n.sumStartIdx [] [] = some (logs', cs, st, rs)) :
    (n.storeLogs logs).2.2 = (n.store.store logs').2.isSome := by
  cases hs : n.store.store logs' with
  | mk store' e => cases e <;> simp [Node.storeLogs, hne, hu, hs]

theorem delete_error_iff (n : Node) (mn mx : Nat) :
    (n.deleteRange mn mx).2 = true ↔ (n.store.delete mn mx).2.isSome = true := by
  unfold Node.deleteRange
  cases hs : n.store.delete mn mx with
  | mk s' e => cases e <;> simp

theorem failed_delete_changes_nothing (n : Node) (mn mx : Nat) (h : (n.deleteRange mn mx).2 = true) :
    (n.deleteRange mn mx).1 = n := by
  unfold Node.deleteRange at h ⊢
  cases hs : n.store.delete mn mx with
  | mk s' e => cases e <;> simp [hs] at h ⊢

/-- the code asks the store underneath first and returns its error before anything else (`Node.deleteRange`'s order) -/
theorem delete_returns_underlying_error : Generated.verifierDeleteReturnsUnderlyingError = true := by decide

/-- and StoreLogs returns the store's error before publishing anything -/
theorem store_returns_underlying_error : Generated.verifierPublishesAfterStore = true :=
  C16.sum_published_after_store

/-- a report names a skipped range exactly when it does not start where the previous one ended — the condition translated
    from `runVerifier` on every run is the model's -/
theorem skipped_range_condition_from_source (n : Verifier.Node) (r : Verifier.Report) :
    (n.lastCP > 0 ∧ n.lastCP ≠ r.start) ↔ Generated.verifierNamesSkippedRange n.lastCP r.start = true :=
  Verifier.skipped_range_eq_source n r

end RaftWal.C18
