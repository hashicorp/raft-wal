/-
  C09 — On-disk format matches the documented layout and stays readable.
-/
import RaftWal.Generated.WalLogic
import RaftWal.Proofs.SegmentL1
import RaftWal.Generated.Layout
import RaftWal.Generated.Consts
import RaftWal.Props.C06
namespace RaftWal.C09
open RaftWal

/-! ### T1: the constants and straight-line layout code of the current source are the model's -/

theorem consts_gen_eq :
    Generated.seg_magic = magic ∧ Generated.seg_version = formatVersion ∧ Generated.seg_fileHeaderLen = fileHeaderLen ∧
    Generated.seg_frameHeaderLen = frameHeaderLen ∧ Generated.seg_MaxEntrySize = maxEntrySize ∧
    Generated.seg_minBufSize = minBufSize ∧ Generated.seg_FrameInvalid = frameInvalid ∧ Generated.seg_FrameEntry = frameEntry ∧
    Generated.seg_FrameIndex = frameIndex ∧ Generated.seg_FrameCommit = frameCommit ∧
    Generated.seg_segmentFileNamePattern = "%020d-%016x.wal" ∧ Generated.metadb_FileName = "wal-meta.db" :=
  ⟨rfl, rfl, rfl, rfl, rfl, rfl, rfl, rfl, rfl, rfl, rfl, rfl⟩

/-- `padLen` as written in format.go (`(8 - n % 8) & 7`) is the model's -/
theorem padLen_gen_eq (n : Nat) : Generated.padLen n = padLen n := by
  unfold Generated.padLen padLen frameHeaderLen
  have := Nat.and_two_pow_sub_one_eq_mod (8 - n % 8) 3
  simpa using this

theorem encodedFrameSize_gen_eq (n : Nat) : Generated.encodedFrameSize n = encodedFrameSize n := by
  unfold Generated.encodedFrameSize encodedFrameSize frameHeaderLen
  rw [padLen_gen_eq]

theorem indexFrameSize_gen_eq (n : Nat) : Generated.indexFrameSize n = indexFrameSize n := by
  unfold Generated.indexFrameSize indexFrameSize
  rw [encodedFrameSize_gen_eq]

/-- the byte ranges `writeFileHeader` / `readFileHeader` touch, as read from the source -/
theorem fileHeaderLayout_gen_eq :
    Generated.writeFileHeaderLayout =
      [(0, 4, "put-le32", "magic"), (4, 5, "put-byte", "0"), (5, 6, "put-byte", "0"), (6, 7, "put-byte", "0"),
       (7, 8, "put-byte", "version"), (8, 16, "put-le64", "info.BaseIndex"), (16, 24, "put-le64", "info.ID"),
       (24, 32, "put-le64", "info.Codec")] ∧
    Generated.readFileHeaderLayout =
      [(0, 8, "get-le64-into", "m"), (7, 8, "cmp-byte!=", "version"), (8, 16, "get-le64-into", "i.BaseIndex"),
       (16, 24, "get-le64-into", "i.ID"), (24, 32, "get-le64-into", "i.Codec")] := ⟨rfl, rfl⟩

theorem frameHeaderLayout_gen_eq :
    Generated.writeFrameHeaderLayout =
      [(0, 1, "put-byte", "h.typ"), (1, 2, "put-byte", "0"), (2, 3, "put-byte", "0"), (3, 4, "put-byte", "0"),
       (4, 8, "put-le32", "lOrCRC")] ∧
    Generated.readFrameHeaderLayout = [(4, 8, "get-le32-into", "h.len"), (4, 8, "get-le32-into", "h.crc")] ∧
    Generated.frameHeaderCommitUsesCRC = true := ⟨rfl, rfl, rfl⟩

/-! ### the writer produces exactly the README layout -/

/-- **writer_bytes_eq_spec**: for every segment info and every sequence of acknowledged batches (all payload
    lengths and residues mod 8, any number of batches, sealing or not) the bytes in the file up to the write
    offset are exactly what the independent README encoder lays out — 32-byte header, 8-byte aligned zero-padded
    entry frames, one commit frame per batch whose CRC-32C covers exactly the bytes since the previous commit (the
    header included for the first), an index frame before the last commit iff the segment sealed — and everything
    behind is still zero. -/
theorem writer_bytes_eq_spec (info : SegInfo) (bs : List (List Bytes)) (hwf : RunWF info bs)
    (w : Writer) (file : Bytes)
    (hrun : (freshSegment info).1.appendAll (freshSegment info).2 info.base bs = some (w, file)) (hne : bs ≠ []) :
    file.take w.writeOffset = Spec.layout info.base info.id info.codec (specBatches (w.indexStart > 0) bs)
    ∧ (∀ b ∈ file.drop w.writeOffset, b = 0) :=
  RaftWal.writer_bytes_eq_spec info bs hwf w file hrun hne

/-- **indexStart_is_payload_offset**: the `IndexStart` a sealed writer reports (and the WAL stores in meta) is the
    position README assigns to the index array -/
theorem indexStart_eq_spec (info : SegInfo) (bs : List (List Bytes)) (hwf : RunWF info bs)
    (w : Writer) (file : Bytes)
    (hrun : (freshSegment info).1.appendAll (freshSegment info).2 info.base bs = some (w, file))
    (hsealed : w.indexStart > 0) :
    w.indexStart = Spec.indexStart info.base info.id info.codec (specBatches true bs) :=
  writer_indexStart_eq_spec info bs hwf w file hrun hsealed

/-- **spec_decode_layout**: the independent README decoder reads back exactly the payloads that were appended -/
theorem spec_decode_writer (info : SegInfo) (bs : List (List Bytes)) (hwf : RunWF info bs)
    (w : Writer) (file : Bytes)
    (hrun : (freshSegment info).1.appendAll (freshSegment info).2 info.base bs = some (w, file)) :
    Spec.decode file = bs.flatten :=
  RaftWal.spec_decode_writer info bs hwf w file hrun

/-- **fileName_roundtrip**: `%020d-%016x.wal` is README's fixed-width naming for all 64-bit values -/
theorem fileName_eq_spec (base id : Nat) (hb : base < 2^64) (hi : id < 2^64) :
    fileName base id = Spec.fileName base id :=
  RaftWal.fileName_eq_spec base id hb hi

/-- frames are 8-byte aligned: every encoded frame size is a multiple of 8 -/
theorem frames_aligned (n : Nat) : encodedFrameSize n % 8 = 0 :=
  Nat.mod_eq_zero_of_dvd (encodedFrameSize_dvd n)

/-- StoreLogs and DeleteRange — every kind of DeleteRange — wait for a queued rotation after taking the write lock and
    before they look at the state (read from the source on every run): no call runs between a sealing append and its rotation -/
theorem writers_wait_for_queued_rotation : Generated.writersAwaitRotationFirst = true :=
  C06.writers_wait_for_queued_rotation

end RaftWal.C09
