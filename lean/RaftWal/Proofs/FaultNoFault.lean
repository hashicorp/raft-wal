/-
  Proofs/FaultNoFault.lean — without a fault, on a fresh state, `runOp` performs exactly `prog p.disk op` of the crash
  model and returns nil (`no_fault_agrees_stmt`).  Under a plan without a fault `runActs` performs all its actions with
  `applyF`, which is `Disk.apply` except on a write over a leftover batch; on a `NoPending` disk (nothing beyond any writer's
  offset) there is none, `vdisk` is the identity, and a disk stays clean under everything but a write, and under a write
  followed by the fsync of the same file — which is how every call writes.
-/
import RaftWal.Proofs.FaultStates
import RaftWal.Proofs.FaultRunActs
import RaftWal.Proofs.FaultStore
namespace RaftWal.Fault.E
open RaftWal.Crash

def isWrite : Act → Bool
  | .write _ _ _ => true
  | _ => false

/-- a list of actions without a pwrite -/
def NoWrite (as : List Act) : Prop := ∀ a ∈ as, isWrite a = false

theorem NoWrite.nil : NoWrite [] := by intro a ha; cases ha

theorem NoWrite.cons {a : Act} {as : List Act} (h1 : isWrite a = false) (h2 : NoWrite as) : NoWrite (a :: as) := by
  intro b hb
  rcases List.mem_cons.1 hb with rfl | hb
  · exact h1
  · exact h2 b hb

theorem NoWrite.append {as bs : List Act} (h1 : NoWrite as) (h2 : NoWrite bs) : NoWrite (as ++ bs) := by
  intro b hb
  rcases List.mem_append.1 hb with hb | hb
  · exact h1 b hb
  · exact h2 b hb

theorem NoWrite.filter {as : List Act} (h : NoWrite as) (q : Act → Bool) : NoWrite (as.filter q) := by
  intro b hb
  exact h b (List.mem_filter.1 hb).1

theorem NoWrite.deletesOf {α : Type} (l : List α) (g : α → Nat) : NoWrite (l.map (fun s => Act.delete (g s))) := by
  intro b hb
  obtain ⟨i, _, rfl⟩ := List.mem_map.1 hb
  rfl

theorem NoWrite.deletes (ids : List Nat) : NoWrite (ids.map .delete) := NoWrite.deletesOf ids id

theorem NoWrite.newTail (m : Meta) (segs : List Seg) (base : Nat) : NoWrite (newTailActs m segs base) :=
  NoWrite.cons rfl (NoWrite.cons rfl NoWrite.nil)

theorem NoWrite.rotate (d : Disk) : NoWrite (rotateActs d) := by
  unfold rotateActs
  split
  · exact NoWrite.nil
  · split
    · exact NoWrite.nil
    · exact NoWrite.newTail _ _ _

theorem NoWrite.delHead (d : Disk) (newMin : Nat) : NoWrite (delHeadProg d newMin) := by
  unfold delHeadProg
  simp only
  split
  · exact (NoWrite.append (NoWrite.append (NoWrite.newTail _ _ _) (NoWrite.deletesOf _ _))
      (NoWrite.cons (by rfl) NoWrite.nil))
  · exact (NoWrite.append (NoWrite.append (NoWrite.cons (by rfl) NoWrite.nil) (NoWrite.deletesOf _ _))
      (NoWrite.cons (by rfl) NoWrite.nil))

theorem applyF_of_not_write (d : Disk) {a : Act} (h : isWrite a = false) : applyF d a = d.apply a := by
  cases a <;> first | rfl | cases h

theorem foldl_applyF_nowrite (d : Disk) {as : List Act} (h : NoWrite as) : as.foldl applyF d = d.applyAll as := by
  induction as generalizing d with
  | nil => rfl
  | cons a as ih =>
    simp only [List.foldl_cons, applyAll_cons]
    rw [applyF_of_not_write d (h a (by simp)), ih _ (fun b hb => h b (by simp [hb]))]

/-! ### plans without a fault -/

/-- a fault plan without a fault (in particular the empty plan) -/
def AllNone (pl : Plan) : Prop := pl.all (·.isNone) = true

theorem AllNone.nil : AllNone [] := rfl

theorem AllNone.tail {o : Option WriteFail} {pl : Plan} (h : AllNone (o :: pl)) : AllNone pl := by
  unfold AllNone at *
  simp only [List.all_cons, Bool.and_eq_true] at h
  exact h.2

theorem AllNone.head {o : Option WriteFail} {pl : Plan} (h : AllNone (o :: pl)) : o = none := by
  unfold AllNone at h
  simp only [List.all_cons, Bool.and_eq_true] at h
  cases o with
  | none => rfl
  | some _ => exact absurd h.1 (by simp)

theorem AllNone.drop {pl : Plan} (h : AllNone pl) (n : Nat) : AllNone (pl.drop n) := by
  unfold AllNone at *
  rw [List.all_eq_true] at *
  intro x hx
  exact h x (List.mem_of_mem_drop hx)

/-- under a plan without a fault the actions are all performed; what is left of the plan is again without a fault -/
theorem runActs_none (d : Disk) (as : List Act) {pl : Plan} (h : AllNone pl) :
    runActs d as pl = (as.foldl applyF d, none, pl.drop as.length) := by
  induction as generalizing d pl with
  | nil => rfl
  | cons a as ih =>
    cases pl with
    | nil => rw [B.runActs_cons_nil, ih _ AllNone.nil, List.drop_nil, List.drop_nil]; rfl
    | cons o pl =>
      have := h.head
      subst this
      rw [B.runActs_cons_none, ih _ h.tail]; rfl

theorem runActs_none_nowrite (d : Disk) {as : List Act} (hn : NoWrite as) {pl : Plan} (h : AllNone pl) :
    runActs d as pl = (d.applyAll as, none, pl.drop as.length) := by
  rw [runActs_none d as h, foldl_applyF_nowrite d hn]

/-! ### disks with nothing beyond any writer's offset -/

def NoPendingF (f : File) : Prop := f.pending = [] ∧ f.sealedP = false

def NoPending (d : Disk) : Prop := ∀ f ∈ d.files, NoPendingF f

theorem vdisk_of_noPending {d : Disk} (h : NoPending d) : vdisk d = d := by
  have : d.files.map vfile = d.files := by
    rw [List.map_congr_left (g := id), List.map_id]
    intro f hf
    obtain ⟨h1, h2⟩ := h f hf
    cases f
    simp only at h1 h2
    simp [vfile, h1, h2]
  simp only [vdisk, this]

/-- every file of a `QS` disk is the file of a segment: nothing pending on it -/
theorem noPending_of_QS {d : Disk} {P : List Seg} {t : Seg} {f : File} (h : QS d P t f) : NoPending d := by
  intro g hg
  have hgf := file?_of_mem h.base.nodupF hg
  obtain ⟨s, hs, e⟩ := List.mem_map.1 (h.sub g.id (List.mem_map.2 ⟨g, hg, rfl⟩))
  simp only [List.mem_append, List.mem_cons, List.not_mem_nil, or_false] at hs
  rcases hs with hs | rfl
  · obtain ⟨f', hf', hsf⟩ := h.base.sealed s hs
    rw [e, hgf] at hf'; cases hf'
    exact ⟨hsf.pend, hsf.sp⟩
  · have := h.tf
    rw [e, hgf] at this; cases this
    exact ⟨h.qt.pend, h.qt.sp⟩

/-- on a clean disk a pwrite at the writer's offset is an append -/
theorem applyF_noPending {d : Disk} (hc : NoPending d) (a : Act) : applyF d a = d.apply a := by
  cases a with
  | write id es sl =>
    simp only [applyF, Disk.apply, updFile]
    congr 1
    apply List.map_congr_left
    intro f hf
    obtain ⟨h1, h2⟩ := hc f hf
    simp [h1, h2]
  | _ => rfl

theorem noPending_map {fs : List File} (h : ∀ f ∈ fs, NoPendingF f) {g : File → File} (hg : ∀ f, NoPendingF f → NoPendingF (g f)) :
    ∀ f ∈ fs.map g, NoPendingF f := by
  intro f hf
  obtain ⟨f0, h0, rfl⟩ := List.mem_map.1 hf
  exact hg f0 (h f0 h0)

/-- the fsync of `id` leaves nothing pending on `id`, whatever was there -/
theorem noPending_fsync_of {d : Disk} {id : Nat} (hc : ∀ f ∈ d.files, f.id ≠ id → NoPendingF f) : NoPending (d.apply (.fsync id)) := by
  have h1 : ∀ f ∈ updFile d.files id File.fs, NoPendingF f := by
    intro f hf
    obtain ⟨f0, h0, rfl⟩ := List.mem_map.1 hf
    by_cases e : f0.id = id
    · rw [if_pos e]; exact ⟨rfl, rfl⟩
    · rw [if_neg e]; exact hc f0 h0 e
  show ∀ f ∈ (if dirSync d id then (updFile d.files id File.fs).map File.lk else updFile d.files id File.fs), NoPendingF f
  split
  · exact noPending_map h1 (fun _ hf => hf)
  · exact h1

theorem noPending_apply_nowrite {d : Disk} (hc : NoPending d) {a : Act} (h : isWrite a = false) : NoPending (d.apply a) := by
  cases a with
  | write _ _ _ => cases h
  | fsync id => exact noPending_fsync_of (fun f hf _ => hc f hf)
  | create id base =>
    intro f hf
    simp only [Disk.apply] at hf
    split at hf
    · exact hc f hf
    · rcases List.mem_append.1 hf with hf | hf
      · exact hc f hf
      · rw [List.mem_singleton.1 hf]; exact ⟨rfl, rfl⟩
  | commit m => exact hc
  | delete id => exact fun f hf => hc f (List.mem_filter.1 hf).1
  | ack => exact hc

theorem noPending_applyAll_nowrite {d : Disk} (hc : NoPending d) {as : List Act} (h : NoWrite as) : NoPending (d.applyAll as) := by
  induction as generalizing d with
  | nil => exact hc
  | cons a as ih =>
    rw [applyAll_cons]
    exact ih (noPending_apply_nowrite hc (h a (by simp))) (fun b hb => h b (by simp [hb]))

/-- the append of a call — a write to the tail, then its fsync — without a fault, from a clean disk -/
theorem runActs_none_append {d : Disk} (hc : NoPending d) (id : Nat) (es : List Entry) (sl : Bool) {pl : Plan}
    (h : AllNone pl) :
    runActs d [.write id es sl, .fsync id] pl = (d.applyAll [.write id es sl, .fsync id], none, pl.drop 2) ∧
      NoPending (d.applyAll [.write id es sl, .fsync id]) := by
  constructor
  · rw [runActs_none _ _ h]
    simp only [List.foldl_cons, List.foldl_nil, applyAll_cons, applyAll_nil]
    rw [applyF_noPending hc]
    rfl
  · apply noPending_fsync_of
    intro f hf hne
    obtain ⟨f0, h0, rfl⟩ := List.mem_map.1 hf
    by_cases e : f0.id = id
    · rw [if_pos e] at hne; exact absurd e hne
    · rw [if_neg e]; exact hc f0 h0

/-- the acknowledgement is no I/O -/
theorem applyAll_filter_ack (d : Disk) (as : List Act) : d.applyAll (as.filter (· != .ack)) = d.applyAll as := by
  induction as generalizing d with
  | nil => rfl
  | cons a as ih =>
    by_cases e : a = .ack
    · subst e
      simp only [applyAll_cons, apply_ack]
      rw [← ih d]
      rfl
    · rw [List.filter_cons_of_pos (by simpa using e), applyAll_cons, applyAll_cons, ih]

/-! ### set, head truncation -/

theorem no_fault_set (p : Proc) (key val : Nat) {pl : Plan} (h : AllNone pl) :
    runOp p (.set key val) pl = ({ p with disk := p.disk.applyAll (prog p.disk (.set key val)) }, true) := by
  simp only [runOp, prog, setProg]
  rw [runActs_none_nowrite _ (NoWrite.cons (by rfl) NoWrite.nil) h]
  rfl

theorem no_fault_delHead {d : Disk} (hc : NoPending d) (newMin : Nat) {pl : Plan} (h : AllNone pl) :
    runOp { disk := d } (.delHead newMin) pl = ({ disk := d.applyAll (prog d (.delHead newMin)) }, true) := by
  simp only [runOp, Option.isSome_none, Bool.false_eq_true, ↓reduceIte, vdisk_of_noPending hc, prog]
  rw [runActs_none_nowrite _ ((NoWrite.delHead _ _).filter _) h, applyAll_filter_ack]

/-! ### tail truncation -/

theorem unsealed_is_tail {d : Disk} {P : List Seg} {t : Seg} {f : File} (h : QS d P t f) {s : Seg}
    (hs : s ∈ d.md.segs) (hu : s.sealed = false) : s = t := by
  rw [h.base.segs] at hs
  simp only [List.mem_append, List.mem_cons, List.not_mem_nil, or_false] at hs
  rcases hs with hs | rfl
  · obtain ⟨f', _, hsf⟩ := h.base.sealed s hs
    rw [hsf.sl] at hu; cases hu
  · rfl

/-- ForceSeal (or not), then actions without a pwrite: the shape of every truncation -/
theorem runActs_none_force {d : Disk} (hc : NoPending d) (c : Prop) [Decidable c] (id : Nat) (es : List Entry) (sl : Bool)
    {rest : List Act} (hr : NoWrite rest) {pl : Plan} (h : AllNone pl) :
    ∃ pl', runActs d ((if c then [] else [.write id es sl, .fsync id]) ++ rest) pl =
      (d.applyAll ((if c then [] else [.write id es sl, .fsync id]) ++ rest), none, pl') := by
  split
  · exact ⟨_, runActs_none_nowrite _ hr h⟩
  · rw [B.runActs_append, (runActs_none_append hc id es sl h).1, applyAll_append]
    exact ⟨_, runActs_none_nowrite _ hr (h.drop 2)⟩

theorem applyAll_snoc_ack (d : Disk) (as : List Act) : d.applyAll (as ++ [.ack]) = d.applyAll as := by
  rw [applyAll_append]; rfl

/-- on a `QS` disk the process's truncation is the crash model's: ForceSeal is skipped only on a sealed segment -/
theorem delTailProg_QS {d : Disk} {P : List Seg} {t : Seg} {f : File} (h : QS d P t f) (newMax : Nat) :
    d.applyAll (delTailProg d newMax) = d.applyAll (delTailActs d newMax) := by
  unfold delTailProg delTailActs
  simp only
  cases hk : (d.md.segs.filter (fun s => decide (s.base ≤ newMax))).getLast? with
  | none => rfl
  | some s =>
    have hs : s ∈ d.md.segs := (List.mem_filter.1 (List.mem_of_getLast? hk)).1
    simp only
    cases hu : s.sealed with
    | true =>
      simp only [Bool.true_or]
      exact applyAll_snoc_ack _ _
    | false =>
      have := unsealed_is_tail h hs hu
      subst this
      simp only [h.tf, h.qt.ss, Bool.or_false]
      exact applyAll_snoc_ack _ _

theorem no_fault_delTail {d : Disk} (hq : QuiescentS d) (newMax : Nat) {pl : Plan} (h : AllNone pl) :
    runOp { disk := d } (.delTail newMax) pl = ({ disk := d.applyAll (prog d (.delTail newMax)) }, true) := by
  obtain ⟨P, t, f, hq⟩ := (quiescentS_iff d).1 hq
  have hc := noPending_of_QS hq
  obtain ⟨pl', hr⟩ : ∃ pl', runActs d (delTailActs d newMax) pl = (d.applyAll (delTailActs d newMax), none, pl') := by
    unfold delTailActs
    simp only
    cases (d.md.segs.filter (fun s => decide (s.base ≤ newMax))).getLast? with
    | none => exact ⟨_, rfl⟩
    | some s =>
      simp only
      rw [List.append_assoc]
      exact runActs_none_force hc _ _ _ _ (NoWrite.append (NoWrite.newTail _ _ _) (NoWrite.deletesOf _ _)) h
  rw [C.runOp_delTail, vdisk_of_noPending hc, hr, prog, delTailProg_QS hq]
  rfl

/-! ### StoreLogs -/

/-- StoreLogs without a fault, from a clean disk on which the (possibly replaced) tail's writer is not sealed -/
theorem store_agrees {d : Disk} (hc : NoPending d) (first : Nat) (es : List Entry) (seals : Bool)
    {pl : Plan} (hpl : AllNone pl) {a1 del : List Act} (hr : resetActs d first = (a1, del)) (h1 : NoWrite a1)
    (h2 : NoWrite del) {t : Seg} (ht : (d.applyAll a1).md.segs.getLast? = some t)
    (hs : tailSealedMem (d.applyAll a1) = false) :
    runOp { disk := d } (.store first es seals) pl =
      ({ disk := d.applyAll (prog d (.store first es seals)) }, true) := by
  have hc1 : NoPending (d.applyAll a1) := noPending_applyAll_nowrite hc h1
  obtain ⟨hw, hc2⟩ := runActs_none_append hc1 t.id es seals (hpl.drop a1.length)
  have hc3 : NoPending (((d.applyAll a1).applyAll [.write t.id es seals, .fsync t.id]).applyAll del) :=
    noPending_applyAll_nowrite hc2 h2
  -- the state when the call returns, before the rotation if there is one
  generalize hd3 : ((d.applyAll a1).applyAll [.write t.id es seals, .fsync t.id]).applyAll del = d3 at hc3
  have hprog : d.applyAll (prog d (.store first es seals)) =
      if seals = true then d3.applyAll (rotateActs d3) else d3 := by
    have e3 : (d.applyAll a1).applyAll ([.write t.id es seals, .fsync t.id] ++ del ++ [.ack]) = d3 := by
      rw [applyAll_append, applyAll_append, hd3]; rfl
    simp only [prog, storeProg, hr, ht]
    rw [applyAll_append, applyAll_append, e3]
    split
    · rfl
    · rfl
  have hrun : runOp { disk := d } (.store first es seals) pl =
      ({ disk := if seals = true then d3.applyAll (rotateActs d3) else d3 }, true) := by
    rw [A.runOp_store, vdisk_of_noPending hc, hr]
    unfold A.storeFrom
    simp only [runActs_none_nowrite _ h1 hpl]
    unfold A.appendPhase
    simp only [vdisk_of_noPending hc1, ht, hs, Bool.false_eq_true, ↓reduceIte]
    unfold A.afterWrite
    simp only [hw, runActs_none_nowrite _ h2 ((hpl.drop _).drop _), hd3, Option.isSome_none, Bool.false_eq_true,
      ↓reduceIte]
    cases seals with
    | false => rfl
    | true =>
      unfold A.rotPhase
      simp only [↓reduceIte, vdisk_of_noPending hc3, runActs_none_nowrite _ (NoWrite.rotate _) (((hpl.drop _).drop _).drop _)]
  rw [hrun, hprog]

theorem tailSealedMem_QS {d : Disk} {P : List Seg} {t : Seg} {f : File} (h : QS d P t f) : tailSealedMem d = false := by
  rw [← vdisk_of_noPending (noPending_of_QS h), A.tailSealedMem_vdisk (run_of_QS h), h.qt.ss]

/-- the tail a base-index reset installs: its writer is not sealed -/
theorem reset_tail {d : Disk} {P : List Seg} {t : Seg} (hb : Base d P t) (segs : List Seg) (first : Nat) :
    (d.applyAll (newTailActs d.md segs first)).md.segs.getLast? = some (newSeg d.md.nextID first) ∧
    tailSealedMem (d.applyAll (newTailActs d.md segs first)) = false := by
  have hn : (d.apply (.commit { d.md with nextID := d.md.nextID + 1, segs := segs ++ [newSeg d.md.nextID first] })).file?
      d.md.nextID = none := hb.fresh_none
  have hl : (d.applyAll (newTailActs d.md segs first)).md.segs.getLast? = some (newSeg d.md.nextID first) := by
    simp only [newTailActs, applyAll_cons, applyAll_nil, apply_create_md, apply_commit_md, List.getLast?_append,
      List.getLast?_singleton, Option.some_or]
  refine ⟨hl, ?_⟩
  unfold tailSealedMem
  rw [hl]
  simp only [newTailActs, applyAll_cons, applyAll_nil]
  rw [apply_create_file? _ _ _ hn]
  simp [newSeg, File.fresh]

theorem no_fault_store {d : Disk} (hq : QuiescentS d) (first : Nat) (es : List Entry) (seals : Bool) {pl : Plan}
    (hpl : AllNone pl) :
    runOp { disk := d } (.store first es seals) pl = ({ disk := d.applyAll (prog d (.store first es seals)) }, true) := by
  obtain ⟨P, t, f, hq⟩ := (quiescentS_iff d).1 hq
  have hc := noPending_of_QS hq
  have hl := (run_of_QS hq).last
  by_cases hcond : (absLog d).isEmpty ∧ t.base ≠ first
  · obtain ⟨h1, h2⟩ := reset_tail hq.base P first
    exact store_agrees hc first es seals hpl (resetActs_yes hq.base.segs hcond) (NoWrite.newTail _ _ _)
      (NoWrite.cons (by rfl) NoWrite.nil) h1 h2
  · exact store_agrees hc first es seals hpl (resetActs_no hq.base.segs hcond) NoWrite.nil NoWrite.nil hl
      (tailSealedMem_QS hq)

/-! ### every call -/

/-- without a fault, on a fresh state, a call does exactly what Model.Crash says it does, and returns nil (legality of
    the call is not needed) -/
theorem no_fault_run {p : Proc} (hp : Fresh p) (op : Op) {pl : Plan} (hpl : AllNone pl) :
    runOp p op pl = ({ disk := p.disk.applyAll (prog p.disk op) }, true) := by
  obtain ⟨d, _⟩ := p
  obtain ⟨hq, rfl⟩ := hp
  cases op with
  | store first es seals => exact no_fault_store hq first es seals hpl
  | delHead newMin =>
    obtain ⟨P, t, f, hq⟩ := (quiescentS_iff d).1 hq
    exact no_fault_delHead (noPending_of_QS hq) newMin hpl
  | delTail newMax => exact no_fault_delTail hq newMax hpl
  | set k v => exact no_fault_set _ k v hpl

theorem no_fault_agrees' {p : Proc} (hp : Fresh p) (op : Op) {pl : Plan} (hpl : AllNone pl) :
    (runOp p op pl).1.disk = p.disk.applyAll (prog p.disk op) ∧ (runOp p op pl).2 = true ∧
    (runOp p op pl).1.frozen = none := by
  rw [no_fault_run hp op hpl]
  exact ⟨rfl, rfl, rfl⟩

theorem no_fault_agrees : no_fault_agrees_stmt := fun _ hp op _ _ hpl => no_fault_agrees' hp op hpl

/-- … so the call leaves a fresh state whose log (and readers' view) is the specification's -/
theorem no_fault_fresh {p : Proc} (hp : Fresh p) (op : Op) (hok : OkV (view p) op) {pl : Plan} (hpl : AllNone pl) :
    Fresh (runOp p op pl).1 ∧ view (runOp p op pl).1 = specApply (view p) op := by
  have hok' := (fresh_okV_iff hp op).1 hok
  obtain ⟨h1, _, h3⟩ := no_fault_agrees' hp op hpl
  obtain ⟨hq, hl⟩ := call_refines_corrected p.disk hp.1 op hok'
  have hf : Fresh (runOp p op pl).1 := ⟨by rw [h1]; exact hq, h3⟩
  refine ⟨hf, ?_⟩
  rw [fresh_view _ hf, fresh_view _ hp, h1, hl]

end RaftWal.Fault.E
