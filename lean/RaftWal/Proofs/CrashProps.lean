/-
  Proofs/CrashProps.lean — crash safety of the WAL's durability protocol (Model/Crash.lean), for EVERY quiescent
  state, EVERY legal call, EVERY crash point inside it, EVERY kind of crash (process crash; power loss with any
  choice of which un-fsynced batches and which un-fsynced directory entries survive), and EVERY sequence of
  recoveries that are themselves cut by further crashes.

  The executable invariant `Quiescent` alone is not inductive: it admits two kinds of states no run of the model
  reaches (`cexA`, `cexB`), and from them `call_refines_stmt`, `open_never_fails_stmt`, `crash_safe_stmt` fail
  (`…_refuted`, evaluated by `decide`).  The theorems (`…_corrected`) are stated for `QuiescentS` = `Quiescent` plus
    (H1) every file whose handle has completed a Sync has a durable directory entry, and
    (H2) a non-empty tail file shows at least its last entry.
  `QuiescentS` holds after Open on the empty directory (`init_quiescentS`), after every completed legal call
  (`call_refines_corrected`) and after every recovery (`crash_safe_corrected`, `restart_identity_S`).
  Both facts are needed: `crash_safe_refuted` drops H1, `crash_safe_refuted'` drops H2.
-/
import RaftWal.Proofs.CrashOpen
import RaftWal.Proofs.CrashStore
import RaftWal.Proofs.CrashDelHead
import RaftWal.Proofs.CrashDelTail
import RaftWal.Proofs.CrashStable
import RaftWal.Proofs.CrashRestart
namespace RaftWal.Crash

theorem call_res {d : Disk} {P : List Seg} {t : Seg} {f : File} (h : QS d P t f) (op : Op) (hok : op.ok d) :
    ∃ pre post, CallRes d op pre post := by
  cases op with
  | store first es sl => exact store_res h hok
  | delHead newMin => exact delHead_res h hok
  | delTail newMax => exact delTail_res h hok
  | set k v => exact ⟨_, _, set_res h k v⟩

theorem ackPos_eq {pre post : List Act} (h : ∀ a ∈ pre, a ≠ .ack) : ackPos (pre ++ .ack :: post) = pre.length := by
  unfold ackPos
  induction pre with
  | nil => simp [List.findIdx_cons]
  | cons a l ih =>
    have ha : (a == Act.ack) = false := by simpa using h a List.mem_cons_self
    rw [List.cons_append, List.findIdx_cons, ha, cond_false, List.length_cons,
      ih (fun b hb => h b (List.mem_cons_of_mem _ hb))]

/-- the admissible logs after a crash at position `k` of the call -/
def Adm (d : Disk) (op : Op) (k : Nat) : Log → Prop :=
  fun l => (l = absLog d ∨ l = specApply (absLog d) op) ∧ (ackPos (prog d op) < k → l = specApply (absLog d) op)

theorem call_image {d : Disk} {P : List Seg} {t : Seg} {f : File} (h : QS d P t f) (op : Op) (hok : op.ok d)
    (k : Nat) : RecE (Adm d op k) (d.applyAll ((prog d op).take k)) := by
  obtain ⟨pre, post, hc⟩ := call_res h op hok
  have hack : ackPos (prog d op) = pre.length := by rw [hc.shape]; exact ackPos_eq hc.noack
  rw [hc.shape]
  by_cases hk : k ≤ pre.length
  · rw [List.take_append_of_le_length hk]
    obtain ⟨P', t', hr⟩ := hc.before k
    exact ⟨P', t', hr.mono fun l hl => ⟨hl, fun hlt => absurd (hack ▸ hlt) (Nat.not_lt.2 hk)⟩⟩
  · obtain ⟨j, rfl⟩ := Nat.exists_eq_add_of_lt (Nat.lt_of_not_le hk)
    rw [Nat.add_assoc, List.take_append, List.take_of_length_le (Nat.le_add_right _ _), applyAll_append,
      Nat.add_sub_cancel_left, List.take_succ_cons, applyAll_cons, apply_ack]
    obtain ⟨P', t', hr⟩ := hc.after j
    exact ⟨P', t', hr.mono fun l hl => ⟨Or.inr hl, fun _ => hl⟩⟩

theorem crash_reach {d : Disk} {P : List Seg} {t : Seg} {f : File} (h : QS d P t f) (op : Op) (hok : op.ok d)
    (k : Nat) (c : CrashKind) {d1 : Disk} (hr : ReachRec (crashAfter d (prog d op) k c) d1) :
    RecE (Adm d op k) d1 := by
  obtain ⟨P', t', hi⟩ := call_image h op hok k
  exact reach_rec ⟨P', t', hi.crash c⟩ hr

instance (d : Disk) : Decidable (Quiescent d) := by unfold Quiescent; infer_instance
instance (d : Disk) (op : Op) : Decidable (op.ok d) := by cases op <;> unfold Op.ok <;> infer_instance

theorem tailVisB_iff (t : Seg) (f : File) :
    tailVisB t f = true ↔ (f.synced ≠ [] → t.min < f.base + f.synced.length) := by
  unfold tailVisB
  by_cases h : f.synced = []
  · simp [h]
  · simp [h]

theorem quiescentSB_iff (d : Disk) : quiescentSB d = true ↔ QuiescentS d := by
  unfold quiescentSB QuiescentS Quiescent
  simp only [Bool.and_eq_true, List.all_eq_true, Bool.or_eq_true, Bool.not_eq_eq_eq_not, Bool.not_true]
  constructor
  · rintro ⟨⟨h1, h2⟩, h3⟩
    refine ⟨h1, ?_, ?_⟩
    · intro f hf hh
      rcases h2 f hf with h | h
      · rw [hh] at h; cases h
      · exact h
    · intro t f ht hf
      rw [ht] at h3
      simp only [hf] at h3
      exact (tailVisB_iff t f).1 h3
  · rintro ⟨h1, h2, h3⟩
    refine ⟨⟨h1, ?_⟩, ?_⟩
    · intro f hf
      cases hh : f.hsynced with
      | false => exact Or.inl rfl
      | true => exact Or.inr (h2 f hf hh)
    · cases ht : d.md.segs.getLast? with
      | none => rfl
      | some t =>
        cases hf : d.file? t.id with
        | none => simp only [hf]
        | some f => simp only [hf]; exact (tailVisB_iff t f).2 (h3 t f ht hf)

/-- the state Open leaves on an empty directory -/
def disk0 : Disk :=
  { md := { nextID := 1, segs := [newSeg 0 1], stable := [] },
    files := [{ id := 0, base := 1, synced := [], pending := [], sealedS := false, sealedP := false, linked := false,
                hsynced := false }] }

theorem open_empty : openResult emptyDisk = some disk0 := by decide

theorem init_quiescent : ∃ d, openResult emptyDisk = some d ∧ Quiescent d ∧ absLog d = [] :=
  ⟨disk0, open_empty, by decide, by decide⟩

theorem init_quiescentS : ∃ d, openResult emptyDisk = some d ∧ QuiescentS d ∧ absLog d = [] :=
  ⟨disk0, open_empty, ⟨by decide, by decide, by
    intro t f ht hf
    cases ht
    cases hf
    intro hc; exact absurd rfl hc⟩, by decide⟩

/-- **functional correctness of a completed call** for plain `Quiescent`: it leaves a quiescent state whose log is
    the specification's.  False, see `call_refines_refuted`. -/
def call_refines_stmt : Prop :=
  ∀ (d : Disk) (_hq : Quiescent d) (op : Op) (_hok : op.ok d),
    Quiescent (d.applyAll (prog d op)) ∧ absLog (d.applyAll (prog d op)) = specApply (absLog d) op

/-- counterexample without H1: an empty tail file whose directory entry is not durable although its handle claims a
    completed Sync (no run produces this: the first Sync of a handle fsyncs the directory) -/
def cexA : Disk :=
  { md := { nextID := 1, segs := [newSeg 0 1], stable := [] },
    files := [{ id := 0, base := 1, synced := [], pending := [], sealedS := false, sealedP := false, linked := false,
                hsynced := true }] }

/-- counterexample without H2: a single tail segment whose `min` hides everything its non-empty file holds (no run
    produces this: a head truncation that removes everything replaces the tail) -/
def cexB : Disk :=
  { md := { nextID := 1, segs := [{ id := 0, base := 1, min := 2, max := 0, sealed := false }], stable := [] },
    files := [{ id := 0, base := 1, synced := [5], pending := [], sealedS := false, sealedP := false, linked := true,
                hsynced := false }] }

theorem cexA_quiescent : Quiescent cexA := by decide
theorem cexB_quiescent : Quiescent cexB := by decide

/-- from `cexA`, StoreLogs(1,[7]) ends in a state that is not quiescent (acknowledged entries in a file whose
    directory entry is not durable) -/
theorem call_refines_refuted : ¬ call_refines_stmt := by
  intro h
  have := (h cexA (by decide) (.store 1 [7] false) (by decide)).1
  revert this; decide

/-- from `cexB`, StoreLogs(1,[7]) yields the log [(2,7)] instead of [(1,7)] -/
theorem call_refines_refuted' : ¬ call_refines_stmt := by
  intro h
  have := (h cexB (by decide) (.store 1 [7] false) (by decide)).2
  revert this; decide

/-- **functional correctness of a completed call** (corrected): from a `QuiescentS` state it leaves a `QuiescentS`
    state whose log is the specification's -/
theorem call_refines_corrected (d : Disk) (hq : QuiescentS d) (op : Op) (hok : op.ok d) :
    QuiescentS (d.applyAll (prog d op)) ∧ absLog (d.applyAll (prog d op)) = specApply (absLog d) op := by
  obtain ⟨P, t, f, h⟩ := (quiescentS_iff d).1 hq
  obtain ⟨pre, post, hc⟩ := call_res h op hok
  exact ⟨(quiescentS_iff _).2 hc.final, hc.log⟩

/-- **C03 at the protocol level — recovery never fails** for plain `Quiescent`.  False. -/
def open_never_fails_stmt : Prop :=
  ∀ (d : Disk) (_hq : Quiescent d) (op : Op) (_hok : op.ok d) (k : Nat) (c : CrashKind)
    (d1 : Disk) (_hr : ReachRec (crashAfter d (prog d op) k c) d1), (openProg d1).isSome

/-- from `cexA`, a sealing StoreLogs(1,[7]), power loss right after the rotation's meta commit (4 actions), the not
    durable directory entry lost: the meta store lists a sealed segment whose file is gone, Open refuses -/
theorem open_never_fails_refuted : ¬ open_never_fails_stmt := by
  intro h
  have := h cexA (by decide) (.store 1 [7] true) (by decide) 4 (.power (fun _ => false) (fun _ => false)) _
    (ReachRec.refl _)
  revert this; decide

/-- **recovery never fails** (corrected): from the image of any crash inside any legal call on a `QuiescentS` state
    (k = 0: a crash between calls), after any number of recoveries cut short by further crashes, Open succeeds -/
theorem open_never_fails_corrected (d : Disk) (hq : QuiescentS d) (op : Op) (hok : op.ok d) (k : Nat) (c : CrashKind)
    (d1 : Disk) (hr : ReachRec (crashAfter d (prog d op) k c) d1) : (openProg d1).isSome := by
  obtain ⟨P, t, f, h⟩ := (quiescentS_iff d).1 hq
  exact open_isSome (crash_reach h op hok k c hr)

/-- **C01/C02/C04 at the protocol level — crash atomicity and durability** for plain `Quiescent`.  False. -/
def crash_safe_stmt : Prop :=
  ∀ (d : Disk) (_hq : Quiescent d) (op : Op) (_hok : op.ok d) (k : Nat) (c : CrashKind)
    (d1 d' : Disk) (_hr : ReachRec (crashAfter d (prog d op) k c) d1) (_ho : openResult d1 = some d'),
    Quiescent d' ∧
    (absLog d' = absLog d ∨ absLog d' = specApply (absLog d) op) ∧
    (ackPos (prog d op) < k → absLog d' = specApply (absLog d) op)

/-- without H1 an acknowledged append is lost: after `cexA`, StoreLogs(1,[7]) run to completion (3 actions) and a power
    loss that loses the not durable directory entry, Open leaves `disk0`, an empty log -/
theorem crash_safe_refuted : ¬ crash_safe_stmt := by
  intro h
  have := (h cexA (by decide) (.store 1 [7] false) (by decide) 3 (.power (fun _ => false) (fun _ => false)) _ disk0
    (ReachRec.refl _) (by decide)).2.2
  revert this; decide

/-- what Open leaves after `cexB`, StoreLogs(1,[7]) run to completion, process crash -/
def cexB' : Disk :=
  { md := { nextID := 1, segs := [{ id := 0, base := 1, min := 2, max := 0, sealed := false }], stable := [] },
    files := [{ id := 0, base := 1, synced := [5, 7], pending := [], sealedS := false, sealedP := false, linked := true,
                hsynced := true }] }

/-- without H2 the recovered log, [(2,7)], is neither the log before the call nor the log after it -/
theorem crash_safe_refuted' : ¬ crash_safe_stmt := by
  intro h
  have := (h cexB (by decide) (.store 1 [7] false) (by decide) 3 .proc _ cexB' (ReachRec.refl _) (by decide)).2.1
  revert this; decide

/-- **crash atomicity and durability** (corrected): whatever the crash point, the crash kind and the recovery
    history, the state the completing Open leaves is `QuiescentS` (so the log is usable and further calls and crashes
    are covered by the same theorems), its log is the log before the call or the log after it — never anything else —
    and it is the log after the call once the call had returned -/
theorem crash_safe_corrected (d : Disk) (hq : QuiescentS d) (op : Op) (hok : op.ok d) (k : Nat) (c : CrashKind)
    (d1 d' : Disk) (hr : ReachRec (crashAfter d (prog d op) k c) d1) (ho : openResult d1 = some d') :
    QuiescentS d' ∧
    (absLog d' = absLog d ∨ absLog d' = specApply (absLog d) op) ∧
    (ackPos (prog d op) < k → absLog d' = specApply (absLog d) op) := by
  obtain ⟨P, t, f, h⟩ := (quiescentS_iff d).1 hq
  obtain ⟨hqs, ha, _⟩ := open_final (crash_reach h op hok k c hr) ho
  exact ⟨(quiescentS_iff _).2 hqs, ha.1, ha.2⟩

theorem crash_safe_corrected_quiescent (d : Disk) (hq : QuiescentS d) (op : Op) (hok : op.ok d) (k : Nat)
    (c : CrashKind) (d1 d' : Disk) (hr : ReachRec (crashAfter d (prog d op) k c) d1) (ho : openResult d1 = some d') :
    Quiescent d' :=
  (crash_safe_corrected d hq op hok k c d1 d' hr ho).1.1

set_option linter.unusedVariables false in
/-- **C08 at the protocol level**: the stable store after recovery is the one before the call or the one after it,
    and the one after it once the call had returned; calls other than `set` never change it -/
theorem stable_crash_safe (d : Disk) (hq : Quiescent d) (op : Op) (hok : op.ok d) (k : Nat) (c : CrashKind)
    (d1 d' : Disk) (hr : ReachRec (crashAfter d (prog d op) k c) d1) (ho : openResult d1 = some d') :
    (d'.md.stable = d.md.stable ∨ d'.md.stable = (d.applyAll (prog d op)).md.stable) ∧
    (ackPos (prog d op) < k → d'.md.stable = (d.applyAll (prog d op)).md.stable) := by
  have e : d'.md.stable = (d.applyAll ((prog d op).take k)).md.stable := by
    rw [openResult_stable ho, reach_stable hr]
    unfold crashAfter
    rw [crash_md]
  rw [e]
  exact prog_stable d op k

theorem restart_identity_S (d : Disk) (hq : QuiescentS d) :
    ∃ d', openResult (d.crash .proc) = some d' ∧ QuiescentS d' ∧ absLog d' = absLog d ∧ d'.md.stable = d.md.stable := by
  obtain ⟨d', ho, _, hl, hs⟩ := restart_identity d hq.1
  have hr : ReachRec (crashAfter d (prog d (.set 0 0)) 0 .proc) (d.crash .proc) := ReachRec.refl _
  exact ⟨d', ho, (crash_safe_corrected d hq (.set 0 0) trivial 0 .proc _ d' hr ho).1, hl, hs⟩

/-- **C13 at the protocol level**: a quiescent state holds exactly the files of the segments the meta store lists,
    and every identifier in use is below NextSegmentID -/
theorem quiescent_dir_exact (d : Disk) (hq : Quiescent d) :
    (∀ f ∈ d.files, ∃ s ∈ d.md.segs, s.id = f.id) ∧ (∀ s ∈ d.md.segs, (d.file? s.id).isSome) ∧
    (∀ s ∈ d.md.segs, s.id < d.md.nextID) := by
  obtain ⟨P, t, h⟩ := (quiescent_iff d).1 hq
  rw [h.segs]
  refine ⟨h.sub, ?_, h.idlt⟩
  intro s hs
  simp only [List.mem_append, List.mem_cons, List.not_mem_nil, or_false] at hs
  rcases hs with hs | rfl
  · obtain ⟨f, hf, _⟩ := h.sealed s hs; simp [hf]
  · obtain ⟨f, hf, _⟩ := h.tail; simp [hf]

/-- after Open and one append the hypotheses hold again: the state is quiescent and a sealing append is legal -/
example : ∃ d0 d1, openResult emptyDisk = some d0 ∧ Quiescent d0 ∧ (Op.store 1 [7, 8] false).ok d0 ∧
    d1 = d0.applyAll (prog d0 (.store 1 [7, 8] false)) ∧ Quiescent d1 ∧ (Op.store 3 [9] true).ok d1 ∧
    absLog d1 = [(1, 7), (2, 8)] :=
  ⟨disk0, _, open_empty, by decide, by decide, rfl, by decide, by decide, by decide⟩

end RaftWal.Crash
