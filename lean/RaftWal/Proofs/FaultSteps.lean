/-
  Proofs/FaultSteps.lean — the steps of the calls that keep `FRun`: a batch put beyond the writer's offset or removed
  from there, the fsync of the tail, deletions of files no segment names, the commit and creation of a tail that
  replaces every segment; to and from the recovery invariant `Rec` of the crash development.
-/
import RaftWal.Proofs.FaultInv

namespace RaftWal.Fault.A
open RaftWal.Crash RaftWal.Fault.B

section
variable {d : Disk} {P : List Seg} {t : Seg} {f : File}

theorem FRun.putPend (h : FRun d P t f) (hss : f.sealedS = false) (x : List Entry) (b : Bool) :
    FRun (updT d t.id (setPend x b)) P t (setPend x b f) ∧ logP (updT d t.id (setPend x b)) P = logP d P := by
  have hb := base_updT h.base (setPend x b) (fun _ => rfl) (fun _ => rfl) (fun _ => rfl)
  refine ⟨⟨hb.1, ?_, ⟨h.ft.base, h.ft.lk, h.ft.mn, h.ft.vis, ?_⟩⟩, hb.2⟩
  · rw [updT_file? d t.id (setPend x b) (fun _ => rfl), if_pos rfl, h.tf]
    rfl
  · intro hc
    rw [show (setPend x b f).sealedS = f.sealedS from rfl, hss] at hc
    cases hc

theorem FRun.fsyncT (h : FRun d P t f) :
    ∃ f', FRun (d.apply (.fsync t.id)) P t f' ∧ logP (d.apply (.fsync t.id)) P = logP d P ∧ f'.base = f.base ∧
      f'.synced = f.synced ++ f.pending ∧ f'.pending = [] ∧ f'.sealedS = (f.sealedS || f.sealedP) ∧
      f'.sealedP = false := by
  have hb := h.base.fsync t.id h.base.tid_ne
  obtain ⟨f', hf', h1, h2, h3, h4, h5, h6, _⟩ := fsync_file h.base.hl h.tf
  have hmn := h.ft.mn
  have hlen : f'.synced.length = f.synced.length + f.pending.length := by rw [h2, List.length_append]
  refine ⟨f', ⟨hb.1, hf', ⟨h1.trans h.ft.base, Or.inl h6, ?_, ?_, fun _ => ⟨h3, h5⟩⟩⟩, hb.2, h1, h2, h3, h4, h5⟩
  · rw [h1, hlen]
    exact Nat.le_trans hmn (Nat.add_le_add_left (Nat.le_add_right _ _) _)
  · rw [h1, hlen]
    intro hne
    by_cases hx : f.synced = []
    · have hp : 0 < f.pending.length := List.length_pos_iff.2 (by intro hy; apply hne; rw [h2, hx, hy]; rfl)
      exact Nat.lt_of_le_of_lt hmn (Nat.add_lt_add_left (Nat.lt_add_of_pos_right hp) _)
    · exact Nat.lt_of_lt_of_le (h.ft.vis hx) (Nat.add_le_add_left (Nat.le_add_right _ _) _)

/-- files that no segment names go -/
theorem FRun.filter (h : FRun d P t f) (q : Nat → Bool) (hq : ∀ s ∈ P ++ [t], q s.id = true) :
    FRun { d with files := d.files.filter (fun f => q f.id) } P t f ∧
      logP { d with files := d.files.filter (fun f => q f.id) } P = logP d P := by
  have hb := base_filter h.base q (fun s hs => hq s (by simp [hs]))
  refine ⟨⟨hb.1, ?_, h.ft⟩, hb.2⟩
  rw [file?_eq_look, look_filter_id, hq t (by simp), if_pos rfl]
  exact h.tf

/-- deletions of files no segment names, any number of which may fail -/
theorem FRun.deletes (h : FRun d P t f) {ids : List Nat} (hids : ∀ s ∈ P ++ [t], s.id ∉ ids) (pl : Plan) :
    ∃ d' pl', runActs d (ids.map .delete) pl = (d', none, pl') ∧ FRun d' P t f ∧ logP d' P = logP d P := by
  obtain ⟨g, pl', hg, hr⟩ := runActs_deletes ids d pl
  exact ⟨_, pl', hr, h.filter g (fun s hs => hg _ (hids s hs))⟩

theorem FRun.of_rec {A : Log → Prop} (h : Rec A d P t) (hf : d.file? t.id = some f) : FRun d P t f := by
  have hr := h.tsome f hf
  refine ⟨h.base, hf, ⟨hr.base, ?_, hr.mn, hr.vis, fun hs => ⟨(hr.ss hs).1, (hr.ss hs).2.1⟩⟩⟩
  rcases hr.lk with h1 | h1
  · exact Or.inl h1
  · exact Or.inr h1.1

/-- a state of the invariant whose tail file, if it carries a seal, is not empty (the further conjunct of `FInvS`) is a
    state of the recovery invariant, for any set of logs that holds what readers see and what the disk stands for -/
theorem FRun.toRec {L : Log → Prop} (h : FRun d P t f) (hx : SealNonempty f) (h1 : L (absLog (vdisk d))) (h2 : L (absLog d)) :
    Rec L d P t := by
  -- a durably sealed tail has nothing pending, so it is `synced` that is not empty
  have hsyn : f.sealedS = true → f.synced ≠ [] := by
    intro hs hc
    exact hx (Or.inl hs) (by rw [hc, (h.ft.ss hs).1]; rfl)
  refine ⟨h.base, ?_, ?_⟩
  · intro g hg
    rw [h.tf] at hg; cases hg
    refine ⟨h.ft.base, ?_, h.ft.mn, h.ft.vis, fun hs => ⟨(h.ft.ss hs).1, (h.ft.ss hs).2, hsyn hs⟩,
      fun hs => hx (Or.inr hs), h.view_eq ▸ h1, h.log_eq ▸ h2⟩
    rcases h.ft.lk with h1 | h1
    · exact Or.inl h1
    · refine Or.inr ⟨h1, ?_⟩
      cases hs : f.sealedS with
      | false => rfl
      | true => exact absurd h1 (hsyn hs)
  · intro hn; rw [h.tf] at hn; cases hn

end

/-- commit and create of a tail that replaces every segment -/
theorem reset_run {d : Disk} {P : List Seg} {t : Seg} (hb : Base d P t) (b : Nat) (h1 : 1 ≤ b) :
    FRun ((d.apply (.commit ⟨d.md.nextID + 1, [newSeg d.md.nextID b], d.md.stable⟩)).apply (.create d.md.nextID b)) []
      (newSeg d.md.nextID b) (File.fresh d.md.nextID b) := by
  have hr : Rec (fun _ => True) (d.apply (.commit ⟨d.md.nextID + 1, [newSeg d.md.nextID b], d.md.stable⟩)) []
      (newSeg d.md.nextID b) :=
    Rec.fresh (A := fun _ => True) hb.nodupF d.md.nextID hb.fidlt hb.hl b h1 trivial d.md.stable
  have hnone : (d.apply (.commit ⟨d.md.nextID + 1, [newSeg d.md.nextID b], d.md.stable⟩)).file?
      (newSeg d.md.nextID b).id = none := hb.fresh_none
  apply FRun.of_rec (hr.create hnone)
  exact (apply_create_file? _ d.md.nextID b hnone d.md.nextID).trans (if_pos rfl)

/-- The commit of a new tail after the segments `P'` and the creation of its file, from a state of the invariant, when
    the commit leads to a `Rec` state whose one admissible log is `L'`: the commit fails and nothing happened; or the
    Create fails and the process stops, the disk standing for `L'`; or both go through and `rest` is run from a state of
    the invariant that readers and a restart take for `L'`. -/
theorem newTail_run {d : Disk} {P : List Seg} {t : Seg} {f : File} (h : FRun d P t f) {P' : List Seg} {b : Nat} {L' : Log}
    (h3 : Rec (fun l => l = L') (d.apply (.commit (tailMeta d P' b))) P' (newSeg d.md.nextID b))
    (rest : List Act) (pl : Plan) :
    (∃ pl', runActs d (newTailActs d.md P' b ++ rest) pl = (d, some (.commit (tailMeta d P' b)), pl')) ∨
    (∃ pl', runActs d (newTailActs d.md P' b ++ rest) pl =
        (d.apply (.commit (tailMeta d P' b)), some (.create d.md.nextID b), pl') ∧
      FInv ⟨d.apply (.commit (tailMeta d P' b)), some d.md.segs⟩ ∧
      view ⟨d.apply (.commit (tailMeta d P' b)), some d.md.segs⟩ = absLog (vdisk d) ∧
      absLog (d.apply (.commit (tailMeta d P' b))) = L' ∧
      fextraB ⟨d.apply (.commit (tailMeta d P' b)), some d.md.segs⟩ = true) ∨
    ∃ pl', runActs d (newTailActs d.md P' b ++ rest) pl =
        runActs ((d.apply (.commit (tailMeta d P' b))).apply (.create d.md.nextID b)) rest pl' ∧
      FRun ((d.apply (.commit (tailMeta d P' b))).apply (.create d.md.nextID b)) P' (newSeg d.md.nextID b)
        (File.fresh d.md.nextID b) ∧
      absLog (vdisk ((d.apply (.commit (tailMeta d P' b))).apply (.create d.md.nextID b))) = L' ∧
      absLog ((d.apply (.commit (tailMeta d P' b))).apply (.create d.md.nextID b)) = L' := by
  have hnone : (d.apply (.commit (tailMeta d P' b))).file? (newSeg d.md.nextID b).id = none := h.base.fresh_none
  rw [newTailActs_eq]
  rcases runActs_newTail d (tailMeta d P' b) d.md.nextID b rest pl with ⟨pl', hr⟩ | ⟨pl', hr⟩ | ⟨pl', hr⟩
  · exact Or.inl ⟨pl', hr⟩
  · obtain ⟨q1, q2, q3, q4⟩ := stop_of_base h h3.base rfl rfl rfl rfl
    exact Or.inr (Or.inl ⟨pl', hr, q1, q2, q3.trans ((logP_files rfl P').symm.trans (h3.tnone hnone).2), q4⟩)
  · have h4 : Rec (fun l => l = L') ((d.apply (.commit (tailMeta d P' b))).apply (.create d.md.nextID b)) P'
        (newSeg d.md.nextID b) := h3.create hnone
    have hf4 : ((d.apply (.commit (tailMeta d P' b))).apply (.create d.md.nextID b)).file? (newSeg d.md.nextID b).id =
        some (File.fresh d.md.nextID b) := (apply_create_file? _ d.md.nextID b hnone d.md.nextID).trans (if_pos rfl)
    have h5 := FRun.of_rec h4 hf4
    exact Or.inr (Or.inr ⟨pl', hr, h5, h5.view_eq.trans (h4.tsome _ hf4).a1, h5.log_eq.trans (h4.tsome _ hf4).a2⟩)

end RaftWal.Fault.A

namespace RaftWal.Fault.B
open RaftWal.Crash

/-- how a call made of one list of actions ends -/
def finish (d : Disk) (r : Disk × Option Act × Plan) : Proc × Bool :=
  let (d1, f, _) := r
  match f with
  | some a => if isCreate a then ({ disk := d1, frozen := some d.md.segs }, false) else ({ disk := d1 }, false)
  | none => ({ disk := d1 }, true)

end RaftWal.Fault.B
