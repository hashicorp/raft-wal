/-
  Proofs/WalStep.lean — `Open` on an existing directory (`reopen`), the initial state, and the
  one-step simulation for every operation.
-/
import RaftWal.Proofs.WalStore
import RaftWal.Proofs.WalDelete
namespace RaftWal

/-- the reader `Open` builds for a segment from its meta record -/
def rdOf (s : SegS) : Rdr := if s.sealed then Rdr.sealed s.min s.max s.indexStart else Rdr.writer s.min

theorem build_spec (w : Wal) (t : SegS) (r : Rdr) (hsl : t.sealed = false) (htc : t.codec = w.cfg.codecId) :
    ∀ (pre acc : List (SegS × Rdr)),
    (∀ c ∈ pre, c.1.sealed = true ∧ c.1.codec = w.cfg.codecId ∧
      ∃ f, w.files.find? (fun f => f.id = c.1.id ∧ f.base = c.1.base) = some f ∧ f.codec = c.1.codec ∧ f.wsize ≠ 0) →
    Wal.reopen.build w (pre ++ [(t, r)]) acc =
      some (acc.reverse ++ (pre ++ [(t, r)]).map (fun x => (x.1, rdOf x.1)), true) := by
  intro pre
  induction pre with
  | nil =>
    intro acc _
    simp [Wal.reopen.build, hsl, htc, rdOf]
  | cons a l ih =>
    intro acc hall
    obtain ⟨a1, a2⟩ := a
    obtain ⟨h1, h2, f, h3, h4, h5⟩ := hall (a1, a2) (by simp)
    simp only at h1 h2 h3 h4 h5
    simp only [List.cons_append]
    unfold Wal.reopen.build
    simp only [h2, ne_eq, not_true_eq_false, if_false, h1, h3, h4, h5, or_self]
    rw [ih _ (fun c hc => hall c (List.mem_cons_of_mem _ hc))]
    simp [rdOf, h1]

theorem Core.remap {cfg : WalCfg} {n : Nat} {segs : List (SegS × Rdr)} {files : List FileL} {F : Nat}
    {es : List Log} (h : Core cfg n segs files F es) :
    Core cfg n (segs.map (fun x => (x.1, rdOf x.1))) files F es := by
  refine ⟨h.cfgOK, h.fileIds, ?_, ?_, ?_, ?_, ?_, h.bound⟩
  · intro c r hm
    simp only [List.mem_map] at hm
    obtain ⟨x, hx, hxe⟩ := hm
    cases hxe
    obtain ⟨f, hf, hs⟩ := h.segOK x.1 x.2 hx
    refine ⟨f, hf, { hs with rdr := ?_ }⟩
    unfold rdOf
    cases hsl : x.1.sealed
    · simp [RdrOK]
    · have := hs.sealedOK hsl
      simp only [if_true, RdrOK]
      exact ⟨hsl, Nat.le_refl _, Or.inr (Nat.le_refl _), this.2.2.2⟩
  · rw [List.pairwise_map]
    exact h.sorted
  · obtain ⟨c0, hh, hF⟩ := h.headF
    refine ⟨(c0.1, rdOf c0.1), ?_, hF⟩
    rw [List.head?_map, hh]; rfl
  · obtain ⟨t, f, hl, hf, hhi⟩ := h.endE
    refine ⟨(t.1, rdOf t.1), f, ?_, hf, hhi⟩
    rw [List.getLast?_map, hl]; rfl
  · intro idx h1 h2
    obtain ⟨c, r, f, hm, hf, h3, h4⟩ := h.cover idx h1 h2
    exact ⟨c, rdOf c, f, List.mem_map.mpr ⟨(c, r), hm, rfl⟩, hf, h3, h4⟩

theorem TailOpen.remap {segs : List (SegS × Rdr)} {files : List FileL} (h : TailOpen segs files) :
    TailOpen (segs.map (fun x => (x.1, rdOf x.1))) files := by
  obtain ⟨t, r, f, hl, hsl, hf, hi0⟩ := h
  exact ⟨t, rdOf t, f, by rw [List.getLast?_map, hl]; rfl, hsl, hf, hi0⟩

theorem Rep.sweep {w : Wal} {F : Nat} {es : List Log} (h : Rep w F es) : Rep (sweep w) F es :=
  have hq : ∀ c r, (c, r) ∈ w.segs → (fun id => w.segs.any (fun s => s.1.id = id)) c.id = true :=
    fun c r hm => List.any_eq_true.mpr ⟨(c, r), hm, decide_eq_true rfl⟩
  ⟨h.1.filter (fun id => w.segs.any (fun s => s.1.id = id)) hq,
    h.2.filter (fun id => w.segs.any (fun s => s.1.id = id)) hq⟩

theorem reopen_rep (w : Wal) {F : Nat} {es : List Log} (h : Rep w F es) :
    ∃ w', w.reopen = some w' ∧ w'.closed = false ∧ Rep w' F es := by
  obtain ⟨hc, ht⟩ := h
  obtain ⟨pre, t, r, ft, hs, hsl, hfl, hi0, hseg, hEq, hpre⟩ := shape hc ht
  have hbuild := build_spec w t r hsl hseg.codec pre [] (by
    intro c hcm
    obtain ⟨f, hf, hsc⟩ := hc.segOK c.1 c.2 (hs ▸ List.mem_append_left _ hcm)
    have hsl' := (hpre c hcm).1
    exact ⟨hsl', hsc.codec, f, find_id_base hf hsc.fbase, hsc.fcodec, Nat.ne_of_gt (hsc.sealedOK hsl').2.2.1⟩)
  rw [← hs] at hbuild
  simp only [List.reverse_nil, List.nil_append] at hbuild
  have hlast : (w.segs.map (fun x => (x.1, rdOf x.1))).getLast? = some (t, rdOf t) := by
    rw [List.getLast?_map, hs, List.getLast?_concat]
    rfl
  have hany : w.files.any (fun f => f.id = t.id ∧ f.base = t.base) = true :=
    List.any_eq_true.mpr ⟨ft, fileOf_some_mem hfl, decide_eq_true ⟨fileOf_some_id hfl, hseg.fbase⟩⟩
  rw [reopen_eq, hbuild]
  simp only [addTail, Wal.tailSeg, hlast, hany, not_true_eq_false, and_false, if_false, if_true, Option.map_some]
  exact ⟨_, rfl, rfl, Rep.sweep (w := { w with segs := w.segs.map (fun x => (x.1, rdOf x.1)), closed := false })
    ⟨hc.remap, ht.remap⟩⟩

theorem sim_reopen {w : Wal} {s : Spec.SLog} (h : Sim w s) :
    (w.step .reopen).2 = (s.step .reopen).2 ∧ Sim (w.step .reopen).1 (s.step .reopen).1 := by
  obtain ⟨F, hc, ht, hcl, hf⟩ := h
  obtain ⟨w', hre, hcl', h'⟩ := reopen_rep w ⟨hc, ht⟩
  simp only [Wal.step, hre, Spec.SLog.step]
  exact ⟨trivial, F, h'.1, h'.2, hcl'.symm, hf⟩

theorem init_sim (cfg : WalCfg) (hcfg : cfg.newSegCodec = cfg.codecId) (w0 : Wal)
    (h0 : Wal.init cfg = some w0) : Sim w0 { first := 0, entries := [] } := by
  unfold Wal.init Wal.reopen at h0
  simp only [Wal.reopen.build, List.reverse_nil, Wal.tailSeg, List.getLast?_nil, Bool.false_eq_true,
    if_false] at h0
  obtain ⟨w1, b, hcn, g2, _, g5, _⟩ := createNext_empty
    { cfg := cfg, nextID := 0, segs := [], files := [], stable := [], ctr := {}, closed := false } 0 rfl hcfg
    (fun f hf => nomatch hf) (Nat.zero_le _)
  rw [hcn] at h0
  cases h0
  exact ⟨b, g5.sweep.1, g5.sweep.2, g2.symm, fun h => absurd rfl h⟩

theorem step_sim {w : Wal} {s : Spec.SLog} (h : Sim w s) (op : Op) (hop : op.inRange) :
    (w.step op).2 = (s.step op).2 ∧ Sim (w.step op).1 (s.step op).1 := by
  cases op with
  | store logs => exact sim_store h logs hop
  | del mn mx => exact sim_del h mn mx
  | get i => exact sim_get h i
  | first => exact sim_first h
  | last => exact sim_last h
  | close => exact sim_close h
  | reopen => exact sim_reopen h

theorem run_sim {w : Wal} {s : Spec.SLog} (h : Sim w s) (ops : List Op) (hops : ∀ op ∈ ops, op.inRange) :
    w.run ops = s.run ops := by
  induction ops generalizing w s with
  | nil => rfl
  | cons op ops ih =>
    obtain ⟨h1, h2⟩ := step_sim h op (hops op (by simp))
    simp only [Wal.run, Spec.SLog.run]
    rw [h1, ih h2 (fun o ho => hops o (List.mem_cons_of_mem _ ho))]

end RaftWal
