/-
  Proofs/SpecLog.lean — the reference log (Spec/Log.lean) case by case: its first and last index, `accepts` as a
  proposition, what `store` and `delete` return on a closed log, on an open one, and for each position of the range.
  The simulation, counter, verifier, crash-link and migrate proofs reason from these equations, not from the definitions.
-/
import RaftWal.Spec.Log
namespace RaftWal.Spec

/-! ## first and last index -/

theorem SLog.firstIndex_of_ne {s : SLog} (h : s.entries ≠ []) : s.firstIndex = s.first := by
  simp [SLog.firstIndex, h]

theorem SLog.lastIndex_of_ne {s : SLog} (h : s.entries ≠ []) : s.lastIndex = s.first + s.entries.length - 1 := by
  simp [SLog.lastIndex, h]

theorem SLog.firstIndex_of_nil {s : SLog} (h : s.entries = []) : s.firstIndex = 0 := by
  rw [SLog.firstIndex, h]
  rfl

theorem SLog.lastIndex_of_nil {s : SLog} (h : s.entries = []) : s.lastIndex = 0 := by
  rw [SLog.lastIndex, h]
  rfl

theorem SLog.firstIndex_le_lastIndex {s : SLog} (hne : s.entries ≠ []) : s.firstIndex ≤ s.lastIndex := by
  rw [firstIndex_of_ne hne, lastIndex_of_ne hne]
  exact Nat.le_sub_one_of_lt (Nat.lt_add_of_pos_right (List.length_pos_iff.mpr hne))

/-- one past the last index of a non-empty log -/
theorem SLog.lastIndex_succ {s : SLog} (hne : s.entries ≠ []) : s.lastIndex + 1 = s.first + s.entries.length := by
  rw [lastIndex_of_ne hne]
  exact Nat.sub_add_cancel (Nat.le_trans (List.length_pos_iff.mpr hne) (Nat.le_add_left _ _))

/-- both indexes of a log whose base, when it has entries, is known to be `F` -/
theorem SLog.firstIndex_eq {s : SLog} {F : Nat} (hf : s.entries ≠ [] → s.first = F) :
    s.firstIndex = if s.entries.length = 0 then 0 else F := by
  unfold SLog.firstIndex
  cases he : s.entries with
  | nil => rfl
  | cons a l => exact hf (by rw [he]; exact List.cons_ne_nil _ _)

theorem SLog.lastIndex_eq {s : SLog} {F : Nat} (hf : s.entries ≠ [] → s.first = F) :
    s.lastIndex = if s.entries.length = 0 then 0 else F + s.entries.length - 1 := by
  unfold SLog.lastIndex
  cases he : s.entries with
  | nil => rfl
  | cons a l =>
    rw [hf (by rw [he]; exact List.cons_ne_nil _ _)]
    rfl

theorem SLog.get_of_closed {s : SLog} (h : s.closed = true) (i : Nat) : s.get i = .error .closed :=
  if_pos h

/-! ## `accepts` and `store` -/

theorem consecutiveFrom_cons {n : Nat} {l : Log} {ls : List Log} :
    consecutiveFrom n (l :: ls) = true ↔ l.index = n ∧ consecutiveFrom (n + 1) ls = true := by
  rw [consecutiveFrom, Bool.and_eq_true, beq_iff_eq]

theorem consec_of_idx : ∀ (es : List Log) (n : Nat),
    (∀ k (h : k < es.length), (es[k]'h).index = n + k) → consecutiveFrom n es = true
  | [], _, _ => rfl
  | l :: ls, n, h => by
    rw [consecutiveFrom_cons]
    refine ⟨h 0 (Nat.zero_lt_succ _), consec_of_idx ls (n + 1) fun k hk => ?_⟩
    rw [Nat.add_assoc, Nat.add_comm 1 k]
    exact h (k + 1) (Nat.succ_lt_succ hk)

theorem consec_append : ∀ (a b : List Log) (n : Nat),
    consecutiveFrom n (a ++ b) = (consecutiveFrom n a && consecutiveFrom (n + a.length) b)
  | [], b, n => by simp [consecutiveFrom]
  | l :: ls, b, n => by
    simp only [List.cons_append, consecutiveFrom, consec_append ls b (n + 1), List.length_cons, Bool.and_assoc]
    congr 3; omega

theorem consec_bound {n B : Nat} {logs : List Log} (hc : consecutiveFrom n logs = true)
    (hB : ∀ l ∈ logs, l.index < B) (hne : logs ≠ []) : n + logs.length ≤ B := by
  induction logs generalizing n with
  | nil => exact absurd rfl hne
  | cons l ls ih =>
    rw [consecutiveFrom_cons] at hc
    cases ls with
    | nil => exact hc.1 ▸ hB l List.mem_cons_self
    | cons l2 ls2 =>
      have := ih hc.2 (fun x hx => hB x (List.mem_cons_of_mem _ hx)) (List.cons_ne_nil _ _)
      rw [List.length_cons, ← Nat.add_assoc, Nat.add_right_comm]
      exact this

/-- a non-empty batch is accepted iff it is consecutive, encodable, and starts at an index ≥ 1 on an empty log, just
    after the last index otherwise -/
theorem SLog.accepts_cons_iff {s : SLog} {l : Log} {ls : List Log} :
    s.accepts (l :: ls) = true ↔
      consecutiveFrom l.index (l :: ls) = true ∧ (∀ x ∈ l :: ls, (encode x).isSome = true) ∧
        (if s.entries = [] then 1 ≤ l.index else l.index = s.lastIndex + 1) := by
  unfold SLog.accepts
  rw [Bool.and_eq_true, Bool.and_eq_true, List.all_eq_true, and_assoc]
  refine and_congr_right fun _ => and_congr_right fun _ => ?_
  cases s.entries with
  | nil => exact decide_eq_true_iff
  | cons a as => exact beq_iff_eq

theorem SLog.store_of_closed {s : SLog} (h : s.closed = true) (logs : List Log) : s.store logs = (s, some .closed) :=
  if_pos h

theorem SLog.store_nil {s : SLog} (h : s.closed = false) : s.store [] = (s, none) := by
  unfold SLog.store
  rw [if_neg (h ▸ Bool.false_ne_true)]
  rfl

theorem SLog.store_cons {s : SLog} (h : s.closed = false) (l : Log) (ls : List Log) :
    s.store (l :: ls) =
      if s.accepts (l :: ls) then
        ({ s with first := if s.entries.isEmpty then l.index else s.first, entries := s.entries ++ l :: ls }, none)
      else (s, some .rejected) := by
  unfold SLog.store
  rw [if_neg (h ▸ Bool.false_ne_true)]
  cases s.accepts (l :: ls) <;> rfl

theorem SLog.store_closed (s : SLog) (logs : List Log) : (s.store logs).1.closed = s.closed := by
  unfold SLog.store
  cases logs <;> simp only [apply_ite Prod.fst, apply_ite SLog.closed, ite_self]

/-! ## `delete` -/

theorem SLog.delete_of_closed {s : SLog} (h : s.closed = true) (mn mx : Nat) : s.delete mn mx = (s, some .closed) :=
  if_pos h

/-- on an open log `delete` is its classification switch -/
theorem SLog.delete_open {s : SLog} (hopen : s.closed = false) (mn mx : Nat) :
    s.delete mn mx =
      if mn > mx then (s, none)
      else if s.entries.isEmpty ∨ mx < s.firstIndex ∨ mn > s.lastIndex then (s, none)
      else if mn ≤ s.firstIndex then
        ({ s with first := s.first + (mx + 1 - s.first), entries := s.entries.drop (mx + 1 - s.first) }, none)
      else if mx ≥ s.lastIndex then ({ s with entries := s.entries.take (mn - s.first) }, none)
      else (s, some .rejected) := by
  unfold SLog.delete
  rw [if_neg (hopen ▸ Bool.false_ne_true)]

/-- the same past the empty-range test -/
theorem SLog.delete_of_open {s : SLog} {mn mx : Nat} (hopen : s.closed = false) (hle : mn ≤ mx) :
    s.delete mn mx =
      if s.entries.isEmpty ∨ mx < s.firstIndex ∨ mn > s.lastIndex then (s, none)
      else if mn ≤ s.firstIndex then
        ({ s with first := s.first + (mx + 1 - s.first), entries := s.entries.drop (mx + 1 - s.first) }, none)
      else if mx ≥ s.lastIndex then ({ s with entries := s.entries.take (mn - s.first) }, none)
      else (s, some .rejected) :=
  (delete_open hopen mn mx).trans (if_neg (Nat.not_lt.mpr hle))

theorem SLog.delete_of_nil {s : SLog} (hopen : s.closed = false) (he : s.entries = []) (mn mx : Nat) :
    s.delete mn mx = (s, none) := by
  rw [delete_open hopen, if_pos (Or.inl (List.isEmpty_iff.mpr he)), ite_self]

/-- a range that meets a non-empty log passes the no-op test -/
theorem SLog.not_disjoint {s : SLog} {mn mx : Nat} (hne : s.entries ≠ []) (h1 : s.firstIndex ≤ mx)
    (h2 : mn ≤ s.lastIndex) : ¬ (s.entries.isEmpty ∨ mx < s.firstIndex ∨ mn > s.lastIndex) :=
  fun h => h.elim (fun he => hne (List.isEmpty_iff.mp he)) (fun h => h.elim (Nat.not_lt.mpr h1) (Nat.not_lt.mpr h2))

/-- a range from at or below the first index up to the `k`-th entry (`k ≥ 1`) drops `k` entries -/
theorem SLog.delete_prefix {s : SLog} {mn mx k : Nat} (hopen : s.closed = false) (hne : s.entries ≠ [])
    (h1 : mn ≤ s.firstIndex) (hk : mx + 1 = s.first + k) (hk0 : 0 < k) :
    s.delete mn mx = ({ s with first := mx + 1, entries := s.entries.drop k }, none) := by
  have h2 : s.firstIndex ≤ mx := by
    rw [firstIndex_of_ne hne]
    exact Nat.le_of_lt_add_one (hk ▸ Nat.lt_add_of_pos_right hk0)
  rw [delete_of_open hopen (Nat.le_trans h1 h2),
    if_neg (not_disjoint hne h2 (Nat.le_trans h1 (firstIndex_le_lastIndex hne))), if_pos h1,
    Nat.sub_eq_of_eq_add' hk, ← hk]

/-- a range from the `k`-th entry (`k ≥ 1`) up to at least the last index keeps `k` entries -/
theorem SLog.delete_suffix {s : SLog} {mn mx k : Nat} (hopen : s.closed = false) (hne : s.entries ≠ [])
    (hk : mn = s.first + k) (hk0 : 0 < k) (h2 : mn ≤ s.lastIndex) (h3 : s.lastIndex ≤ mx) :
    s.delete mn mx = ({ s with entries := s.entries.take k }, none) := by
  have h1 : ¬ mn ≤ s.firstIndex := by
    rw [firstIndex_of_ne hne]
    exact Nat.not_le.mpr (hk ▸ Nat.lt_add_of_pos_right hk0)
  rw [delete_of_open hopen (Nat.le_trans h2 h3),
    if_neg (not_disjoint hne (Nat.le_trans (firstIndex_le_lastIndex hne) h3) h2), if_neg h1, if_pos h3,
    Nat.sub_eq_of_eq_add' hk]

theorem SLog.delete_closed (s : SLog) (mn mx : Nat) : (s.delete mn mx).1.closed = s.closed := by
  unfold SLog.delete
  simp only [apply_ite Prod.fst, apply_ite SLog.closed, ite_self]

end RaftWal.Spec
