/-
  Proofs/WalCore.lean — how the elementary state changes act on the invariant: directory updates,
  a fresh tail (`createNext`), appending to the tail file, cutting the segment map at either end.
-/
import RaftWal.Proofs.WalRead
namespace RaftWal

namespace SegF

theorem mono {cfg : WalCfg} {n n' F : Nat} {es : List Log} {c : SegS} {r : Rdr} {f : FileL}
    (h : SegF cfg n F es c r f) (hn : n ≤ n') : SegF cfg n' F es c r f :=
  { h with idlt := Nat.lt_of_lt_of_le h.idlt hn }

/-- the facts about a segment survive a change of the abstract log that keeps what the segment serves -/
theorem relog {cfg : WalCfg} {n F F' : Nat} {es es' : List Log} {c : SegS} {r : Rdr} {f : FileL}
    (h : SegF cfg n F es c r f) (hF : F' ≤ c.min)
    (hes : ∀ idx, c.min ≤ idx → idx < hi c f → F ≤ idx → idx < F + es.length →
      idx < F' + es'.length ∧ es'[idx - F']? = es[idx - F]?) :
    SegF cfg n F' es' c r f :=
  { h with
    Fmin := hF
    pt := fun idx h1 h2 =>
      have ⟨p1, p2, p3⟩ := h.pt idx h1 h2
      have ⟨q1, q2⟩ := hes idx h1 h2 p1 p2
      ⟨Nat.le_trans hF h1, q1, p3.trans q2.symm⟩ }

end SegF

namespace Core

theorem files {cfg : WalCfg} {n n' : Nat} {segs : List (SegS × Rdr)} {files files' : List FileL} {F : Nat}
    {es : List Log} (h : Core cfg n segs files F es) (hn : n ≤ n') (hids : ∀ f ∈ files', f.id < n')
    (hsame : ∀ c r, (c, r) ∈ segs → fileOf files' c.id = fileOf files c.id) :
    Core cfg n' segs files' F es :=
  { h with
    fileIds := hids
    segOK := fun c r hm =>
      have ⟨f, hf, hs⟩ := h.segOK c r hm
      ⟨f, (hsame c r hm).trans hf, hs.mono hn⟩
    endE :=
      have ⟨t, f, hl, hf, hh⟩ := h.endE
      ⟨t, f, hl, (hsame t.1 t.2 (List.mem_of_getLast? hl)).trans hf, hh⟩
    cover := fun idx h1 h2 =>
      have ⟨c, r, f, hm, hf, h3, h4⟩ := h.cover idx h1 h2
      ⟨c, r, f, hm, (hsame c r hm).trans hf, h3, h4⟩ }

theorem filter {cfg : WalCfg} {n : Nat} {segs : List (SegS × Rdr)} {files : List FileL} {F : Nat}
    {es : List Log} (h : Core cfg n segs files F es) (q : Nat → Bool)
    (hq : ∀ c r, (c, r) ∈ segs → q c.id = true) :
    Core cfg n segs (files.filter (fun f => q f.id)) F es :=
  h.files (Nat.le_refl _) (fun f hf => h.fileIds f (List.mem_filter.mp hf).1)
    (fun c r hm => by rw [fileOf_filter, hq c r hm]; rfl)

end Core

namespace TailOpen

theorem files {segs : List (SegS × Rdr)} {files files' : List FileL} (h : TailOpen segs files)
    (hsame : ∀ c r, (c, r) ∈ segs → fileOf files' c.id = fileOf files c.id) : TailOpen segs files' :=
  have ⟨t, r, f, hl, hs, hf, hi0⟩ := h
  ⟨t, r, f, hl, hs, (hsame t r (List.mem_of_getLast? hl)).trans hf, hi0⟩

theorem filter {segs : List (SegS × Rdr)} {files : List FileL} (h : TailOpen segs files)
    (q : Nat → Bool) (hq : ∀ c r, (c, r) ∈ segs → q c.id = true) :
    TailOpen segs (files.filter (fun f => q f.id)) :=
  h.files (fun c r hm => by rw [fileOf_filter, hq c r hm]; rfl)

end TailOpen

theorem Rep.removeFiles {w : Wal} {F : Nat} {es : List Log} (h : Rep w F es) (ids : List Nat)
    (hids : ∀ c r, (c, r) ∈ w.segs → c.id ∉ ids) : Rep (w.removeFiles ids) F es := by
  have hq : ∀ c r, (c, r) ∈ w.segs → (fun id => decide (¬ ids.contains id = true)) c.id = true :=
    fun c r hm => decide_eq_true (fun h => hids c r hm (List.contains_iff_mem.mp h))
  exact ⟨h.1.filter (fun id => decide (¬ ids.contains id = true)) hq,
    h.2.filter (fun id => decide (¬ ids.contains id = true)) hq⟩

theorem frame_pos (a b : Nat) : 0 < a + (b + frameHeaderLen) :=
  Nat.lt_of_lt_of_le (by decide) (Nat.le_trans (Nat.le_add_left _ b) (Nat.le_add_left _ a))

theorem updFile_ids {files : List FileL} {f' : FileL} {n : Nat} (h : ∀ f ∈ files, f.id < n) (hf : f'.id < n) :
    ∀ g ∈ updFile files f', g.id < n := by
  intro g hg
  obtain ⟨a, ha, rfl⟩ := List.mem_map.mp hg
  split
  · exact hf
  · exact h a ha

theorem ids_append_new {files : List FileL} {g : FileL} {n : Nat} (h : ∀ f ∈ files, f.id < n) (hg : g.id = n) :
    ∀ f ∈ files ++ [g], f.id < n + 1 := by
  intro f hf
  rcases List.mem_append.mp hf with hf' | hf'
  · exact Nat.lt_succ_of_lt (h f hf')
  · cases List.mem_singleton.mp hf'
    exact hg ▸ Nat.lt_succ_self n

variable {cfg : WalCfg} {n : Nat} {files : List FileL} {F : Nat} {es : List Log}

theorem F_pos {cfg : WalCfg} {n : Nat} {segs : List (SegS × Rdr)} {files : List FileL} {F : Nat} {es : List Log}
    (hc : Core cfg n segs files F es) : 1 ≤ F := by
  obtain ⟨c0, hh, hF⟩ := hc.headF
  obtain ⟨f, _, hs⟩ := hc.segOK c0.1 c0.2 (List.mem_of_mem_head? hh)
  exact hF ▸ Nat.le_trans hs.base1 hs.basemin

namespace Core

theorem pre {pre : List (SegS × Rdr)} {t : SegS × Rdr} (h : Core cfg n (pre ++ [t]) files F es)
    {c : SegS × Rdr} (hc : c ∈ pre) :
    c.1.sealed = true ∧ c.1.max < t.1.base ∧ c.1.id ≠ t.1.id :=
  have := (List.pairwise_append.mp h.sorted).2.2 c hc t (List.mem_singleton.mpr rfl)
  ⟨this.1, this.2.1, this.2.2.2⟩

theorem last {pre : List (SegS × Rdr)} {t : SegS} {r : Rdr} {ft : FileL}
    (h : Core cfg n (pre ++ [(t, r)]) files F es) (hf : fileOf files t.id = some ft) : SegF cfg n F es t r ft ∧ hi t ft = F + es.length := by
  obtain ⟨ft', hft', hst⟩ := h.segOK t r List.mem_concat_self
  obtain ⟨t', f'', hl', hf'', hhi⟩ := h.endE
  cases List.getLast?_concat.symm.trans hl'
  cases hf.symm.trans hft'
  cases hf.symm.trans hf''
  exact ⟨hst, hhi⟩

end Core

theorem SegF.fresh {c : SegS} {f : FileL} {b : Nat} (hcodec : c.codec = cfg.codecId) (hid : c.id < n)
    (hb : c.base = b) (hmin : c.min = b) (hmax : c.max = 0) (hsl : c.sealed = false) (hfb : f.base = b)
    (hfc : f.codec = c.codec) (hfe : f.entries = []) (hb1 : 1 ≤ b) (hF : F ≤ b) :
    hi c f = b ∧ SegF cfg n F es c (.writer b) f := by
  have hhi : hi c f = b := by rw [hi_open hsl, hfb, hfe]; rfl
  exact ⟨hhi,
    { fbase := hfb.trans hb.symm, fcodec := hfc, codec := hcodec, idlt := hid, base1 := hb ▸ hb1,
      basemin := Nat.le_of_eq (hb.trans hmin.symm), Fmin := hmin ▸ hF,
      sealedOK := fun h => absurd (hsl.symm.trans h) Bool.false_ne_true,
      tailOK := fun _ => ⟨hmax, Or.inl (hmin.trans hb.symm)⟩, rdr := Nat.le_of_eq hmin.symm,
      pt := fun idx h1 h2 => absurd (hmin ▸ h1) (Nat.not_le.mpr (hhi ▸ h2)) }⟩

namespace Core

theorem fresh {cfg : WalCfg} (hcfg : cfg.newSegCodec = cfg.codecId) {n : Nat} {files : List FileL}
    {c : SegS} {f : FileL} {b : Nat}
    (hids : ∀ f ∈ files, f.id < n) (hf : fileOf files c.id = some f)
    (hid : c.id < n) (hb : c.base = b) (hmin : c.min = b) (hmax : c.max = 0) (hsl : c.sealed = false)
    (hcodec : c.codec = cfg.newSegCodec) (hfb : f.base = b) (hfc : f.codec = c.codec) (hfe : f.entries = [])
    (hfi : f.indexStart = 0) (hb1 : 1 ≤ b) (hb2 : b ≤ 2^64 - 1) :
    Core cfg n [(c, .writer b)] files b [] ∧ TailOpen [(c, .writer b)] files := by
  obtain ⟨hhi, hseg⟩ := SegF.fresh (cfg := cfg) (n := n) (F := b) (es := []) (hcodec.trans hcfg) hid hb hmin hmax hsl
    hfb hfc hfe hb1 (Nat.le_refl b)
  refine ⟨⟨hcfg, hids, ?_, List.pairwise_singleton _ _, ⟨_, rfl, hmin⟩, ⟨_, f, rfl, hf, hhi⟩, ?_, hb2⟩,
    ⟨c, .writer b, f, rfl, hsl, hf, hfi⟩⟩
  · intro c' r' hm
    cases List.mem_singleton.mp hm
    exact ⟨f, hf, hseg⟩
  · intro idx h1 h2
    exact absurd h1 (Nat.not_le.mpr h2)

theorem push {pre : List (SegS × Rdr)} {c : SegS} {r : Rdr}
    (h : Core cfg n (pre ++ [(c, r)]) files F es) (hsl : c.sealed = true)
    {s : SegS} {g : FileL} (hid : s.id = n) (hb : s.base = c.max + 1) (hmin : s.min = c.max + 1)
    (hmax : s.max = 0) (hssl : s.sealed = false) (hcodec : s.codec = cfg.newSegCodec)
    (hgid : g.id = n) (hgb : g.base = c.max + 1) (hgc : g.codec = s.codec) (hge : g.entries = [])
    (hgi : g.indexStart = 0) :
    Core cfg (n + 1) (pre ++ [(c, r)] ++ [(s, .writer (c.max + 1))]) (files ++ [g]) F es ∧
      TailOpen (pre ++ [(c, r)] ++ [(s, .writer (c.max + 1))]) (files ++ [g]) := by
  obtain ⟨fc, hfc, hsc⟩ := h.segOK c r List.mem_concat_self
  have hend : c.max + 1 = F + es.length := (hi_sealed hsl fc).symm.trans (h.last hfc).2
  have hids' := ids_append_new h.fileIds hgid
  have hc' : Core cfg (n + 1) (pre ++ [(c, r)]) (files ++ [g]) F es :=
    h.files (Nat.le_succ n) hids' fun c' r' hm =>
      have ⟨f, hf, _⟩ := h.segOK c' r' hm
      (fileOf_append_of_some _ hf).trans hf.symm
  have hg : fileOf (files ++ [g]) s.id = some g := hid ▸ fileOf_append_new h.fileIds g hgid
  obtain ⟨hhi, hseg⟩ := SegF.fresh (cfg := cfg) (n := n + 1) (F := F) (es := es) (hcodec.trans h.cfgOK)
    (hid ▸ Nat.lt_succ_self n) hb hmin hmax hssl hgb hgc hge (Nat.succ_pos _) (hend ▸ Nat.le_add_right F _)
  have hall : ∀ a ∈ pre ++ [(c, r)], a.1.sealed = true ∧ a.1.max < c.max + 1 := by
    intro a ha
    rcases List.mem_append.mp ha with ha' | ha'
    · exact ⟨(h.pre ha').1, Nat.lt_succ_of_lt (Nat.lt_of_lt_of_le (h.pre ha').2.1 (hsc.base_le_max hsl))⟩
    · cases List.mem_singleton.mp ha'
      exact ⟨hsl, Nat.lt_succ_self _⟩
  refine ⟨⟨h.cfgOK, hids', ?_, ?_, ?_, ⟨_, g, List.getLast?_concat, hg, hhi.trans hend⟩, ?_, h.bound⟩,
    ⟨s, _, g, List.getLast?_concat, hssl, hg, hgi⟩⟩
  · intro c' r' hm
    rcases List.mem_append.mp hm with hm' | hm'
    · exact hc'.segOK c' r' hm'
    · cases List.mem_singleton.mp hm'
      exact ⟨g, hg, hseg⟩
  · refine List.pairwise_append.mpr ⟨h.sorted, List.pairwise_singleton _ _, fun a ha b hb' => ?_⟩
    cases List.mem_singleton.mp hb'
    obtain ⟨fa, _, hsa⟩ := h.segOK a.1 a.2 ha
    exact ⟨(hall a ha).1, hb ▸ (hall a ha).2, hmin.trans hb.symm, hid ▸ Nat.ne_of_lt hsa.idlt⟩
  · obtain ⟨c0, hh, hF⟩ := h.headF
    obtain ⟨rest, hrest⟩ := List.head?_eq_some_iff.mp hh
    exact ⟨c0, by rw [hrest]; rfl, hF⟩
  · intro idx h1 h2
    obtain ⟨c', r', f, hm, hf, h3, h4⟩ := hc'.cover idx h1 h2
    exact ⟨c', r', f, List.mem_append_left _ hm, hf, h3, h4⟩

end Core

theorem u64_of_lt {n : Nat} (h : n < 2^64) : u64 n = n := Nat.mod_eq_of_lt h

theorem createNext_some (w : Wal) (nb : Nat) (hids : ∀ f ∈ w.files, f.id < w.nextID) (b : Nat)
    (hb : (w.segs.getLast? = none ∧ b = if nb > 0 then nb else 1) ∨
          (∃ t r, w.segs.getLast? = some (t, r) ∧ b = u64 (t.max + 1))) (hb0 : b ≠ 0) :
    w.createNext nb = some { w with
      nextID := w.nextID + 1
      segs := w.segs ++ [({ id := w.nextID, base := b, min := b, max := 0, indexStart := 0, sealed := false,
                            codec := w.cfg.newSegCodec, sizeLimit := u32 w.cfg.segmentSize }, .writer b)]
      files := w.files ++ [{ id := w.nextID, base := b, codec := w.cfg.newSegCodec, entries := [], wsize := 0, indexStart := 0 }] } := by
  have hany : ¬ (b = 0 ∨ (w.files.any (fun f => f.id = (w.newSeg w.nextID b).id ∧ f.base = (w.newSeg w.nextID b).base)) = true) :=
    fun h => h.elim hb0 fun h' => Bool.false_ne_true ((any_id_base_false hids).symm.trans h')
  unfold Wal.createNext
  rcases hb with ⟨hl, rfl⟩ | ⟨t, r, hl, rfl⟩
  · simp only [hl]
    rw [if_neg hany]
    rfl
  · simp only [hl]
    rw [if_neg hany]
    rfl

theorem createNext_empty (w : Wal) (nb : Nat) (hs : w.segs = []) (hcfg : w.cfg.newSegCodec = w.cfg.codecId)
    (hids : ∀ f ∈ w.files, f.id < w.nextID) (hnb : nb ≤ 2^64 - 1) :
    ∃ w' b, w.createNext nb = some w' ∧ w'.closed = w.closed ∧ (0 < nb → b = nb) ∧ Rep w' b [] ∧
      (∀ c r, (c, r) ∈ w'.segs → c.id = w.nextID) := by
  obtain ⟨b, hb⟩ : ∃ b, b = if nb > 0 then nb else 1 := ⟨_, rfl⟩
  have hb1 : 1 ≤ b := by
    rw [hb]
    split
    · assumption
    · exact Nat.le_refl 1
  have hb2 : b ≤ 2^64 - 1 := by
    rw [hb]
    split
    · exact hnb
    · decide
  have hcn := createNext_some w nb hids b (Or.inl ⟨by rw [hs]; rfl, hb⟩) (Nat.ne_of_gt hb1)
  refine ⟨_, b, hcn, rfl, fun h => by rw [hb, if_pos h], ?_⟩
  simp only [hs, List.nil_append]
  have hfr := Core.fresh hcfg (n := w.nextID + 1) (b := b)
    (c := { id := w.nextID, base := b, min := b, max := 0, indexStart := 0, sealed := false,
            codec := w.cfg.newSegCodec, sizeLimit := u32 w.cfg.segmentSize })
    (f := { id := w.nextID, base := b, codec := w.cfg.newSegCodec, entries := [], wsize := 0, indexStart := 0 })
    (ids_append_new hids rfl) (fileOf_append_new hids _ rfl) (Nat.lt_succ_self _) rfl rfl rfl rfl rfl rfl rfl rfl rfl
    hb1 hb2
  refine ⟨hfr, ?_⟩
  intro c r hm
  cases List.mem_singleton.mp hm
  rfl

theorem createNext_sealed (w : Wal) (nb : Nat) {F : Nat} {es : List Log}
    (hc : Core w.cfg w.nextID w.segs w.files F es)
    (hl : ∃ c r, w.segs.getLast? = some (c, r) ∧ c.sealed = true) :
    ∃ w', w.createNext nb = some w' ∧ w'.closed = w.closed ∧ Rep w' F es ∧
      (∀ c r, (c, r) ∈ w'.segs → (c, r) ∈ w.segs ∨ c.id = w.nextID) := by
  obtain ⟨c, r, hlast, hsl⟩ := hl
  obtain ⟨pre, hpre⟩ := List.getLast?_eq_some_iff.mp hlast
  rw [hpre] at hc
  obtain ⟨fc, hfc, _⟩ := hc.segOK c r List.mem_concat_self
  have hend : c.max + 1 = F + es.length := (hi_sealed hsl fc).symm.trans (hc.last hfc).2
  have hu : u64 (c.max + 1) = c.max + 1 := u64_of_lt (hend ▸ Nat.lt_of_le_of_lt hc.bound (by decide))
  have hcn := createNext_some w nb hc.fileIds (c.max + 1) (Or.inr ⟨c, r, hlast, hu.symm⟩) (Nat.succ_ne_zero _)
  obtain ⟨h1, h2⟩ := hc.push hsl
    (s := { id := w.nextID, base := c.max + 1, min := c.max + 1, max := 0, indexStart := 0, sealed := false,
            codec := w.cfg.newSegCodec, sizeLimit := u32 w.cfg.segmentSize })
    (g := { id := w.nextID, base := c.max + 1, codec := w.cfg.newSegCodec, entries := [], wsize := 0, indexStart := 0 })
    rfl rfl rfl rfl rfl rfl rfl rfl rfl rfl rfl
  refine ⟨_, hcn, rfl, ⟨hpre ▸ h1, hpre ▸ h2⟩, ?_⟩
  intro c' r' hm
  rcases List.mem_append.mp hm with h | h
  · exact Or.inl h
  · cases List.mem_singleton.mp h
    exact Or.inr rfl

theorem getElem?_append_aligned {α : Type} {A B L : List α} {a b i : Nat} (ha : a ≤ i) (hb : b ≤ i)
    (hend : a + A.length = b + B.length) (h : i < a + A.length → A[i - a]? = B[i - b]?) :
    (A ++ L)[i - a]? = (B ++ L)[i - b]? := by
  by_cases hlt : i < a + A.length
  · rw [List.getElem?_append_left (Nat.sub_lt_left_of_lt_add ha hlt),
      List.getElem?_append_left (Nat.sub_lt_left_of_lt_add hb (hend ▸ hlt))]
    exact h hlt
  · have hge := Nat.le_of_not_lt hlt
    rw [List.getElem?_append_right (Nat.le_sub_of_add_le' hge),
      List.getElem?_append_right (Nat.le_sub_of_add_le' (hend ▸ hge)), Nat.sub_sub, Nat.sub_sub, hend]

theorem length_drop_end {α : Type} (es : List α) {F m : Nat} (h1 : F ≤ m) (h2 : m ≤ F + es.length) :
    m + (es.drop (m - F)).length = F + es.length := by
  obtain ⟨d, rfl⟩ : ∃ d, m = F + d := ⟨m - F, (Nat.add_sub_of_le h1).symm⟩
  rw [List.length_drop, Nat.add_sub_cancel_left, Nat.add_assoc, Nat.add_sub_of_le (Nat.le_of_add_le_add_left h2)]

theorem length_take_end {α : Type} (es : List α) {F m : Nat} (h1 : F ≤ m) (h2 : m ≤ F + es.length) :
    F + (es.take (m - F)).length = m := by
  obtain ⟨d, rfl⟩ : ∃ d, m = F + d := ⟨m - F, (Nat.add_sub_of_le h1).symm⟩
  rw [List.length_take, Nat.add_sub_cancel_left, Nat.min_eq_left (Nat.le_of_add_le_add_left h2)]

theorem getElem?_drop_sub {α : Type} (es : List α) {F m idx : Nat} (h1 : F ≤ m) (h2 : m ≤ idx) :
    (es.drop (m - F))[idx - m]? = es[idx - F]? := by
  rw [List.getElem?_drop, Nat.add_comm, Nat.sub_add_sub_cancel h2 h1]

theorem getElem?_take_sub {α : Type} (es : List α) {F m idx : Nat} (h1 : F ≤ idx) (h2 : idx < m) :
    (es.take (m - F))[idx - F]? = es[idx - F]? :=
  List.getElem?_take_of_lt (Nat.sub_lt_sub_right h1 h2)

/-- appending a batch to the tail file -/
theorem Core.append {cfg : WalCfg} {n : Nat} {pre : List (SegS × Rdr)} {t : SegS} {r : Rdr}
    {files : List FileL} {F : Nat} {es : List Log} {ft : FileL}
    (h : Core cfg n (pre ++ [(t, r)]) files F es) (hsl : t.sealed = false)
    (hf : fileOf files t.id = some ft) (f' : FileL) (logs : List Log)
    (hid : f'.id = ft.id) (hb : f'.base = ft.base) (hcd : f'.codec = ft.codec)
    (he : f'.entries = ft.entries ++ logs)
    (hbound : F + es.length + logs.length ≤ 2^64 - 1) :
    Core cfg n (pre ++ [(t, r)]) (updFile files f') F (es ++ logs) ∧
      fileOf (updFile files f') t.id = some f' := by
  have hfid' : f'.id = t.id := hid.trans (fileOf_some_id hf)
  obtain ⟨hst, hhi⟩ := h.last hf
  have hE : ft.base + ft.entries.length = F + es.length := (hi_open hsl ft).symm.trans hhi
  have hft' : fileOf (updFile files f') t.id = some f' := by
    rw [fileOf_updFile, if_pos hfid'.symm, hf]
    rfl
  have hother : ∀ c ∈ pre, fileOf (updFile files f') c.1.id = fileOf files c.1.id := fun c hc => by
    rw [fileOf_updFile, if_neg (hfid' ▸ (h.pre hc).2.2)]
  have hhi' : hi t f' = F + (es ++ logs).length := by
    rw [hi_open hsl, hb, he, List.length_append, List.length_append, ← Nat.add_assoc, ← Nat.add_assoc, hE]
  have hst' : SegF cfg n F (es ++ logs) t r f' :=
    { hst with
      fbase := hb.trans hst.fbase
      fcodec := hcd.trans hst.fcodec
      sealedOK := fun h' => absurd (hsl.symm.trans h') Bool.false_ne_true
      tailOK := fun _ => ⟨(hst.tailOK hsl).1, (hst.tailOK hsl).2.imp_right fun h' => by
        rw [hb, he, List.length_append, ← Nat.add_assoc]
        exact Nat.lt_add_right _ h'⟩
      pt := fun idx h1 h2 => by
        have hF : F ≤ idx := Nat.le_trans hst.Fmin h1
        have hbi : ft.base ≤ idx := hst.fbase ▸ Nat.le_trans hst.basemin h1
        refine ⟨hF, hhi' ▸ h2, ?_⟩
        rw [hb, he]
        exact getElem?_append_aligned hbi hF hE fun hlt =>
          (hst.pt idx h1 (by rw [hi_open hsl]; exact hlt)).2.2 }
  refine ⟨⟨h.cfgOK, updFile_ids h.fileIds (hid ▸ h.fileIds ft (fileOf_some_mem hf)), ?_, h.sorted, h.headF,
    ⟨_, f', List.getLast?_concat, hft', hhi'⟩, ?_, ?_⟩, hft'⟩
  · intro c rc hm
    rcases List.mem_append.mp hm with hm' | hm'
    · obtain ⟨f, hfc, hsc⟩ := h.segOK c rc hm
      refine ⟨f, (hother _ hm').trans hfc, hsc.relog hsc.Fmin fun idx _ _ hF hlt => ⟨?_, ?_⟩⟩
      · rw [List.length_append, ← Nat.add_assoc]
        exact Nat.lt_add_right _ hlt
      · exact List.getElem?_append_left (Nat.sub_lt_left_of_lt_add hF hlt)
    · cases List.mem_singleton.mp hm'
      exact ⟨f', hft', hst'⟩
  · intro idx h1 h2
    by_cases hlt : idx < F + es.length
    · obtain ⟨c, rc, f, hm, hfc, h3, h4⟩ := h.cover idx h1 hlt
      rcases List.mem_append.mp hm with hm' | hm'
      · exact ⟨c, rc, f, hm, (hother _ hm').trans hfc, h3, h4⟩
      · cases List.mem_singleton.mp hm'
        exact ⟨t, r, f', hm, hft', h3, hhi' ▸ h2⟩
    · exact ⟨t, r, f', List.mem_concat_self, hft',
        Nat.le_trans (hhi ▸ hst.min_le_hi) (Nat.le_of_not_lt hlt), hhi' ▸ h2⟩
  · rw [List.length_append, ← Nat.add_assoc]
    exact hbound

theorem getLast?_append_cons {α : Type} (a : List α) (b : α) (c : List α) :
    (a ++ b :: c).getLast? = (b :: c).getLast? := by
  rw [List.getLast?_append, List.getLast?_cons]
  rfl

namespace Core

/-- a tail truncation: keep `kept`, cut `c` down to `newMax` (sealing it), drop the rest -/
theorem cutTail {kept : List (SegS × Rdr)} {c : SegS} {rc : Rdr} {dropped : List (SegS × Rdr)}
    {files' : List FileL}
    (hc : Core cfg n (kept ++ (c, rc) :: dropped) files F es) (newMax is : Nat)
    (hF : F ≤ newMax) (hlt : newMax < F + es.length) (hcb : c.base ≤ newMax)
    (hdr : ∀ d ∈ dropped, newMax < d.1.base)
    (hids' : ∀ f ∈ files', f.id < n)
    (hsame : ∀ id, id ≠ c.id → fileOf files' id = fileOf files id)
    {f f' : FileL} (hf : fileOf files c.id = some f) (hf' : fileOf files' c.id = some f')
    (e1 : f'.base = f.base) (e2 : f'.codec = f.codec) (e3 : f'.entries = f.entries) (hw : 0 < f'.wsize)
    (his : is ≠ 0) :
    Core cfg n (kept ++ [({ c with sealed := true, indexStart := is, max := newMax }, rc)]) files' F
      (es.take (newMax + 1 - F)) := by
  have hs := hc.sorted
  rw [List.pairwise_append, List.pairwise_cons] at hs
  obtain ⟨hs1, ⟨hs2, _⟩, hs4⟩ := hs
  obtain ⟨f0, hf0, hsc⟩ := hc.segOK c rc (List.mem_append_right _ List.mem_cons_self)
  cases hf.symm.trans hf0
  have hkept : ∀ x ∈ kept, x.1.sealed = true ∧ x.1.max < newMax ∧ x.1.id ≠ c.id := fun x hx =>
    have := hs4 x hx (c, rc) List.mem_cons_self
    ⟨this.1, Nat.lt_of_lt_of_le this.2.1 hcb, this.2.2.2⟩
  have hdrop : ∀ d ∈ dropped, newMax < d.1.min := fun d hd =>
    (hs2 d hd).2.2.1 ▸ hdr d hd
  have hK : c.min ≤ newMax ∧ newMax < hi c f := by
    obtain ⟨d, rd, fd, hm, hfd, h3, h4⟩ := hc.cover newMax hF hlt
    rcases List.mem_append.mp hm with hm' | hm'
    · exact absurd ((lt_hi_sealed (hkept _ hm').1).mp h4) (Nat.not_le.mpr (hkept _ hm').2.1)
    · rcases List.mem_cons.mp hm' with hm'' | hm''
      · cases hm''
        cases hf.symm.trans hfd
        exact ⟨h3, h4⟩
      · exact absurd h3 (Nat.not_le.mpr (hdrop _ hm''))
  have hE' : F + (es.take (newMax + 1 - F)).length = newMax + 1 :=
    length_take_end es (Nat.le_succ_of_le hF) (Nat.succ_le_of_lt hlt)
  have hhi' : ∀ g, hi { c with sealed := true, indexStart := is, max := newMax } g = newMax + 1 :=
    fun g => hi_sealed rfl g
  refine ⟨hc.cfgOK, hids', ?_, ?_, ?_, ⟨_, f', List.getLast?_concat, hf', (hhi' f').trans hE'.symm⟩, ?_,
    by rw [hE']; exact Nat.le_trans (Nat.succ_le_of_lt hlt) hc.bound⟩
  · intro x rx hm
    rcases List.mem_append.mp hm with hm' | hm'
    · obtain ⟨q1, q2, q3⟩ := hkept (x, rx) hm'
      obtain ⟨fx, hfx, hsx⟩ := hc.segOK x rx (List.mem_append_left _ hm')
      refine ⟨fx, (hsame x.id q3).trans hfx, hsx.relog hsx.Fmin fun idx _ h2 p1 _ => ?_⟩
      have : idx < newMax + 1 := Nat.lt_succ_of_lt (Nat.lt_of_le_of_lt ((lt_hi_sealed q1).mp h2) q2)
      exact ⟨Nat.lt_of_lt_of_eq this hE'.symm, getElem?_take_sub es p1 this⟩
    · cases List.mem_singleton.mp hm'
      refine ⟨f', hf', { hsc with
        fbase := e1.trans hsc.fbase
        fcodec := e2.trans hsc.fcodec
        sealedOK := fun _ => ⟨hK.1, by rw [e1, e3]; exact Nat.le_trans (Nat.succ_le_of_lt hK.2) hsc.hi_le_len, hw, his⟩
        tailOK := fun h => Bool.noConfusion h
        rdr := ?_
        pt := fun idx h1 h2 => ?_ }⟩
      · have := hsc.rdr
        cases rc with
        | writer fm => exact this
        | sealed a b d =>
          obtain ⟨r1, r2, r3, r4⟩ := this
          exact ⟨rfl, r2, r3.imp_right (Nat.le_trans ((lt_hi_sealed r1).mp hK.2)), r4⟩
      · rw [hhi'] at h2
        obtain ⟨p1, _, p3⟩ := hsc.pt idx h1 (Nat.lt_of_le_of_lt (Nat.le_of_lt_succ h2) hK.2)
        exact ⟨p1, Nat.lt_of_lt_of_eq h2 hE'.symm, by rw [e1, e3, getElem?_take_sub es p1 h2]; exact p3⟩
  · refine List.pairwise_append.mpr ⟨hs1, List.pairwise_singleton _ _, fun a ha b hb => ?_⟩
    cases List.mem_singleton.mp hb
    exact hs4 a ha (c, rc) List.mem_cons_self
  · obtain ⟨c0, hh, hF0⟩ := hc.headF
    cases kept <;> cases hh <;> exact ⟨_, rfl, hF0⟩
  · intro idx h1 h2
    rw [hE'] at h2
    obtain ⟨d, rd, fd, hm, hfd, h3, h4⟩ :=
      hc.cover idx h1 (Nat.lt_of_le_of_lt (Nat.le_of_lt_succ h2) hlt)
    rcases List.mem_append.mp hm with hm' | hm'
    · exact ⟨d, rd, fd, List.mem_append_left _ hm', (hsame d.id (hkept _ hm').2.2).trans hfd, h3, h4⟩
    · rcases List.mem_cons.mp hm' with hm'' | hm''
      · cases hm''
        exact ⟨_, rc, f', List.mem_concat_self, hf', h3, (hhi' f').symm ▸ h2⟩
      · exact absurd (Nat.le_trans h3 (Nat.le_of_lt_succ h2)) (Nat.not_le.mpr (hdrop _ hm''))

/-- a head truncation that keeps `h` (with a new `min`) and everything after it -/
theorem dropHead {dl : List (SegS × Rdr)} {h : SegS} {rh : Rdr} {rest : List (SegS × Rdr)}
    (hc : Core cfg n (dl ++ (h, rh) :: rest) files F es) (newMin : Nat)
    (hdl : ∀ c ∈ dl, c.1.max < newMin) (hF : F ≤ newMin)
    {fh : FileL} (hfh : fileOf files h.id = some fh) (hh : newMin < hi h fh) :
    Core cfg n (({ h with min := newMin }, rh) :: rest) files newMin (es.drop (newMin - F)) := by
  have hs := hc.sorted
  rw [List.pairwise_append, List.pairwise_cons] at hs
  obtain ⟨_, ⟨hs2, hs3⟩, hs4⟩ := hs
  obtain ⟨f0, hf0, hsh⟩ := hc.segOK h rh (List.mem_append_right _ List.mem_cons_self)
  cases hfh.symm.trans hf0
  -- the new minimum is inside the log: an unsealed `h` is the last segment
  have hlt : newMin < F + es.length := by
    cases hsl : h.sealed
    · cases rest with
      | nil => exact (hc.last hfh).2 ▸ hh
      | cons x l => exact absurd ((hs2 x List.mem_cons_self).1) (hsl ▸ Bool.false_ne_true)
    · exact Nat.lt_of_lt_of_le hh (hsh.hi_le (hsh.min_lt_hi_sealed hsl))
  have hmaxh : h.sealed = true → newMin ≤ h.max := fun hsl =>
    (lt_hi_sealed hsl).mp hh
  have hrest : ∀ c ∈ rest, newMin < c.1.min := fun c hcm =>
    have := hs2 c hcm
    this.2.2.1 ▸ Nat.lt_of_le_of_lt (hmaxh this.1) this.2.1
  have hnodl : ∀ c rc f idx, (c, rc) ∈ dl → newMin ≤ idx → ¬ idx < hi c f := fun c rc f idx hm h1 h4 => by
    have h4' := (lt_hi_sealed (hs4 (c, rc) hm (h, rh) List.mem_cons_self).1).mp h4
    exact Nat.lt_irrefl _ (Nat.lt_of_le_of_lt (Nat.le_trans h1 h4') (hdl (c, rc) hm))
  have hmin : h.min ≤ newMin := by
    obtain ⟨c, rc, f, hm, hf, h3, h4⟩ := hc.cover newMin hF hlt
    rcases List.mem_append.mp hm with hm' | hm'
    · exact absurd h4 (hnodl c rc f newMin hm' (Nat.le_refl _))
    · rcases List.mem_cons.mp hm' with hm'' | hm''
      · cases hm''
        exact h3
      · exact absurd h3 (Nat.not_le.mpr (hrest _ hm''))
  have hE' : newMin + (es.drop (newMin - F)).length = F + es.length :=
    length_drop_end es hF (Nat.le_of_lt hlt)
  refine ⟨hc.cfgOK, hc.fileIds, ?_, List.pairwise_cons.mpr ⟨hs2, hs3⟩, ⟨_, rfl, rfl⟩, ?_, ?_,
    by rw [hE']; exact hc.bound⟩
  · intro c rc hm
    rcases List.mem_cons.mp hm with hm' | hm'
    · cases hm'
      refine ⟨fh, hfh, { hsh with
        basemin := Nat.le_trans hsh.basemin hmin
        Fmin := Nat.le_refl _
        sealedOK := fun hsl => ⟨hmaxh hsl, (hsh.sealedOK hsl).2⟩
        tailOK := fun hsl => ⟨(hsh.tailOK hsl).1, Or.inr (hi_open hsl fh ▸ hh)⟩
        rdr := ?_
        pt := fun idx h1 h2 => ?_ }⟩
      · have := hsh.rdr
        cases rh with
        | writer fm => exact Nat.le_trans this hmin
        | sealed a b d => exact ⟨this.1, Nat.le_trans this.2.1 hmin, this.2.2⟩
      · obtain ⟨_, p2, p3⟩ := hsh.pt idx (Nat.le_trans hmin h1) h2
        exact ⟨h1, Nat.lt_of_lt_of_eq p2 hE'.symm, p3.trans (getElem?_drop_sub es hF h1).symm⟩
    · obtain ⟨f, hf, hsc⟩ := hc.segOK c rc (List.mem_append_right _ (List.mem_cons_of_mem _ hm'))
      have hle := Nat.le_of_lt (hrest _ hm')
      exact ⟨f, hf, hsc.relog hle fun idx h1 _ _ p2 =>
        ⟨Nat.lt_of_lt_of_eq p2 hE'.symm, getElem?_drop_sub es hF (Nat.le_trans hle h1)⟩⟩
  · obtain ⟨t, f, hl, hf, hhi'⟩ := hc.endE
    rw [getLast?_append_cons] at hl
    cases rest with
    | nil =>
      cases hl
      exact ⟨_, f, rfl, hf, hhi'.trans hE'.symm⟩
    | cons a l => exact ⟨t, f, hl, hf, hhi'.trans hE'.symm⟩
  · intro idx h1 h2
    obtain ⟨c, rc, f, hm, hf, h3, h4⟩ := hc.cover idx (Nat.le_trans hF h1) (Nat.lt_of_lt_of_eq h2 hE')
    rcases List.mem_append.mp hm with hm' | hm'
    · exact absurd h4 (hnodl c rc f idx hm' h1)
    · rcases List.mem_cons.mp hm' with hm'' | hm''
      · cases hm''
        exact ⟨_, rh, f, List.mem_cons_self, hf, h1, h4⟩
      · exact ⟨c, rc, f, List.mem_cons_of_mem _ hm'', hf, h3, h4⟩

end Core

theorem TailOpen.dropHead {dl : List (SegS × Rdr)} {h : SegS} {rh : Rdr} {rest : List (SegS × Rdr)}
    {files : List FileL} (ht : TailOpen (dl ++ (h, rh) :: rest) files) (newMin : Nat) :
    TailOpen (({ h with min := newMin }, rh) :: rest) files := by
  obtain ⟨t, r, f, hl, hsl, hf, hi0⟩ := ht
  rw [getLast?_append_cons] at hl
  cases rest with
  | nil =>
    cases hl
    exact ⟨_, rh, f, rfl, hsl, hf, hi0⟩
  | cons a l => exact ⟨t, r, f, hl, hsl, hf, hi0⟩

/-- sealing the (non-empty) tail in the meta store -/
theorem Core.seal {cfg : WalCfg} {n : Nat} {pre : List (SegS × Rdr)} {t : SegS} {r : Rdr}
    {files : List FileL} {F : Nat} {es : List Log} {ft : FileL}
    (h : Core cfg n (pre ++ [(t, r)]) files F es) (hsl : t.sealed = false)
    (hf : fileOf files t.id = some ft) (hlen : 0 < ft.entries.length) (hw : 0 < ft.wsize)
    (is : Nat) (his : is ≠ 0) :
    Core cfg n (pre ++ [({ t with sealed := true, max := ft.base + ft.entries.length - 1, indexStart := is }, r)])
      files F es := by
  obtain ⟨hst, hhi⟩ := h.last hf
  have hE : ft.base + ft.entries.length = F + es.length := (hi_open hsl ft).symm.trans hhi
  obtain ⟨h0, h1⟩ := hst.tail_nonempty hsl hE hlen
  -- the cut at the last index, which drops nothing
  obtain ⟨last, hlast⟩ : ∃ last, last + 1 = F + es.length := ⟨F + es.length - 1, Nat.sub_add_cancel (Nat.le_of_lt h1)⟩
  have e : ft.base + ft.entries.length - 1 = last := by rw [hE, ← hlast]; rfl
  have hFl : F < last + 1 := by rw [hlast]; exact Nat.lt_add_of_pos_right h0
  have hbl : t.base < last + 1 := by rw [hlast, ← hE, hst.fbase]; exact Nat.lt_add_of_pos_right hlen
  have hll : last < F + es.length := by rw [← hlast]; exact Nat.lt_succ_self last
  have := h.cutTail last is (Nat.le_of_lt_succ hFl) hll (Nat.le_of_lt_succ hbl) (fun _ hd => nomatch hd) h.fileIds
    (fun _ _ => rfl) hf hf rfl rfl rfl hw his
  rw [hlast, Nat.add_sub_cancel_left, List.take_length] at this
  rw [e]
  exact this

end RaftWal
