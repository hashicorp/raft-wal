/-
  Proofs/VerifierHash.lean — the FNV-1a chain of Model/Verifier.lean: it is a left fold (C16 batch independence), and
  one step `h ↦ (h xor b)·p` is injective in `h` and in `b` because the prime is a unit of `UInt64`, so a single
  substituted byte is always detected (C17).
-/
import RaftWal.Model.Verifier
namespace RaftWal.Verifier
open RaftWal

/-- **C16 batch independence**: the running sum over a sequence does not depend on how it is split into batches -/
theorem chain_append (s : UInt64) (a b : List Log) : chain s (a ++ b) = chain (chain s a) b :=
  List.foldl_append

theorem fnvBytes_append (h : UInt64) (a b : Bytes) : fnvBytes h (a ++ b) = fnvBytes (fnvBytes h a) b :=
  List.foldl_append

/-- the FNV prime is odd, hence a unit of `UInt64`; this is its inverse modulo 2^64 -/
theorem prime64_inv : prime64 * 0xce965057aff6957b = 1 := by decide

theorem mul_prime64_inj (a b : UInt64) (e : a * prime64 = b * prime64) : a = b := by
  have h := congrArg (· * (0xce965057aff6957b : UInt64)) e
  simp only [UInt64.mul_assoc, prime64_inv, UInt64.mul_one] at h
  exact h

theorem fnvStep_inj_state (h h' : UInt64) (b : UInt8) (e : fnvStep h b = fnvStep h' b) : h = h' :=
  (UInt64.xor_left_inj _).mp (mul_prime64_inj _ _ e)

theorem fnvStep_inj_byte (h : UInt64) (b b' : UInt8) (e : fnvStep h b = fnvStep h b') : b = b' := by
  have h1 := (UInt64.xor_right_inj _).mp (mul_prime64_inj _ _ e)
  apply UInt8.toNat_inj.mp
  rw [← UInt8.toNat_toUInt64 b, ← UInt8.toNat_toUInt64 b', h1]

theorem fnvBytes_inj_state (h h' : UInt64) (t : Bytes) (e : fnvBytes h t = fnvBytes h' t) : h = h' := by
  induction t generalizing h h' with
  | nil => exact e
  | cons b t ih => exact fnvStep_inj_state _ _ b (ih _ _ e)

/-- **C17 single substitution is always detected**: two hash inputs that differ in exactly one byte
    (same prefix, same suffix) never collide, from any starting state -/
theorem fnvBytes_single_substitution (h : UInt64) (p t : Bytes) (a b : UInt8) (hab : a ≠ b) :
    fnvBytes h (p ++ a :: t) ≠ fnvBytes h (p ++ b :: t) := by
  intro e
  rw [fnvBytes_append, fnvBytes_append] at e
  exact hab (fnvStep_inj_byte _ _ _ (fnvBytes_inj_state _ _ t e))

/-- a hashed entry: not the bootstrap configuration entry that `checksumLog` deliberately ignores -/
def Hashed (l : Log) : Prop := ¬ (l.index = 1 ∧ l.typ = logConfiguration)

/-- **C17**: two hashed entries whose hash inputs differ in exactly one byte have different checksums, from any state:
    whichever of Index, Term, Type, Data, Extensions the byte belongs to -/
theorem checksumLog_detects_byte (s : UInt64) (l l' : Log) (p t : Bytes) (a b : UInt8) (hab : a ≠ b)
    (hl : Hashed l) (hl' : Hashed l') (h : hashInput l = p ++ a :: t) (h' : hashInput l' = p ++ b :: t) :
    checksumLog s l ≠ checksumLog s l' := by
  rw [checksumLog, if_neg hl, checksumLog, if_neg hl', h, h']
  exact fnvBytes_single_substitution s p t a b hab

/-- **C17**: flipping one byte of Data (same length) changes the checksum with certainty -/
theorem checksumLog_detects_data_byte (s : UInt64) (l : Log) (p t : Bytes) (a b : UInt8) (hab : a ≠ b)
    (hl : Hashed l) (hd : l.data = p ++ a :: t) :
    checksumLog s l ≠ checksumLog s { l with data := p ++ b :: t } :=
  checksumLog_detects_byte s l _ (putBE 8 l.index ++ putBE 8 l.term ++ putBE 8 l.typ ++ p) (t ++ l.ext) a b hab hl hl
    (by rw [hashInput, hd]; simp only [List.append_assoc, List.cons_append])
    (by rw [hashInput]; simp only [List.append_assoc, List.cons_append])

/-- **C17**: two 64-bit Term values that differ in exactly one of their 8 bytes give different checksums
    (same for Index and Type, which are hashed the same way). `putBE 8` is the byte string fed to FNV. -/
theorem checksumLog_detects_term_byte (s : UInt64) (l : Log) (t' : Nat) (p q : Bytes) (a b : UInt8) (hab : a ≠ b)
    (hl : Hashed l) (h1 : putBE 8 l.term = p ++ a :: q) (h2 : putBE 8 t' = p ++ b :: q) :
    checksumLog s l ≠ checksumLog s { l with term := t' } :=
  checksumLog_detects_byte s l _ (putBE 8 l.index ++ p) (q ++ putBE 8 l.typ ++ l.data ++ l.ext) a b hab hl hl
    (by rw [hashInput, h1]; simp only [List.append_assoc, List.cons_append])
    (by rw [hashInput, h2]; simp only [List.append_assoc, List.cons_append])

end RaftWal.Verifier
