/-
  Proofs/SegmentL1Run.lean — recovery and reads after a run of appends from the fresh segment: instances of the
  chain invariant (`chainInv_of_run`).
-/
import RaftWal.Proofs.SegmentChainLemmas
namespace RaftWal

/-- **C02/C03** recovery of an untorn tail reproduces the writer (same offsets, write offset, commit index,
    seal state) and leaves the file bytes unchanged -/
theorem recover_untorn (info : SegInfo) (bs : List (List Bytes)) (hwf : RunWF info bs)
    (w : Writer) (file : Bytes)
    (hrun : (freshSegment info).1.appendAll (freshSegment info).2 info.base bs = some (w, file)) :
    ((recoverTail info file).toOption.map (fun p => p.1.obs)) = some w.obs
    ∧ ((recoverTail info file).toOption.map (·.2)) = some file := by
  rw [recover_inv info hwf.base_lt hwf.id_lt hwf.codec_lt bs w file (chainInv_of_run info bs hwf w file hrun)]
  exact ⟨rfl, rfl⟩

/-- **C15/C12** whatever the writer acknowledged is readable: entry `k` of the run is returned byte for byte,
    for every read-buffer size of at least one frame header.  There is no hypothesis on the payload sizes:
    the writer refuses payloads above `maxEntrySize`, so a successful run implies the bound
    (`appendAll_payload_le`). -/
theorem accepted_implies_readable (info : SegInfo) (bs : List (List Bytes)) (hwf : RunWF info bs)
    (hmin : info.min = info.base)
    (w : Writer) (file : Bytes)
    (hrun : (freshSegment info).1.appendAll (freshSegment info).2 info.base bs = some (w, file))
    (k : Nat) (hk : k < bs.flatten.length) (bufSize : Nat) (hbuf : 8 ≤ bufSize) :
    w.getLog file (info.base + k) bufSize = .ok (bs.flatten[k]'hk) :=
  chain_getLog info hmin bs w file (chainInv_of_run info bs hwf w file hrun) file rfl
    (appendAll_payload_le _ _ _ bs w file hrun) k hk bufSize hbuf

end RaftWal
