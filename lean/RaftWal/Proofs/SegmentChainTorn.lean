/-
  Proofs/SegmentChainTorn.lean — one torn append from an arbitrary state satisfying the chain invariant
  (`ChainInv`, Proofs/SegmentChainLemmas.lean): `chain_torn_cases`.
-/
import RaftWal.Proofs.SegmentChainLemmas
namespace RaftWal
open Spec (Acc Batch addEntry addBatch)

/-- the bytes of the in-flight batch as recovery validates them: from the end of the previous commit
    (the start of the file for the first batch) to the batch's commit frame -/
def batchRegion (img : Bytes) (start stop : Nat) : Bytes := readAt img start (stop - 8 - start)

/-- the only residual the format admits: different bytes in the batch region `[start, stop - 8)`, same CRC-32C -/
def RegionCollision (x file' : Bytes) (start stop : Nat) : Prop :=
  batchRegion x start stop ≠ batchRegion file' start stop
    ∧ crc32c (batchRegion x start stop) = crc32c (batchRegion file' start stop)

/-- recovery settles on the in-flight commit `c'`, which validates for the image and for the complete file alike
    (second case of `torn_cases`).  `P` is the file up to the write offset `wo`, `cb` what the writer had pending (the file header, for the first
    batch), `E` the frames of the batch. -/
theorem torn_accepted (info : SegInfo) (w' : Writer) (img file' P cb E X : Bytes) (mask : Nat → Bool) (k' : Nat)
    (c' : CommitInfo) (wo wo' : Nat)
    (himg : img = P ++ (tornFrom mask 0 (cb ++ E) ++ zeros k'))
    (hf' : file' = P ++ ((cb ++ E) ++ zeros k'))
    (hwo : P.length = wo) (hwo' : wo' = P.length + (cb ++ E).length) (hlt : wo' < 2^32)
    (hU' : recoverTail info file' = .ok (w', file'))
    (hv' : validateFileHeader (scanHeader file') info.hdr = true)
    (hsf : scanFold file' = scanFold img)
    (hfi : (scanFold img).commits.find? (commitValid img) = some c')
    (hff' : (scanFold img).commits.find? (commitValid file') = some c')
    (hoff : c'.offset + 8 = wo')
    (hcrc : crc32c (batchRegion img wo wo') = crc32c (batchRegion file' wo wo'))
    (hX1 : X.length + 8 = E.length) (hX2 : tornFrom mask cb.length E = X ++ E.drop X.length) :
    (recoverTail info img = .ok (w', img) ∧ (img = file' ∨ RegionCollision img file' wo wo'))
    ∨ (recoverTail info img = .error .corrupt ∧ validateFileHeader (scanHeader img) info.hdr = false
        ∧ RegionCollision img file' wo wo') := by
  by_cases hreg : batchRegion img wo wo' = batchRegion file' wo wo'
  · have heq : img = file' := by
      rw [batchRegion, batchRegion, ← hwo, hwo'] at hreg
      exact torn_region_eq P cb E X mask k' hX1 hX2 img file' himg hf' hreg
    rw [heq]
    exact Or.inl ⟨hU', Or.inl rfl⟩
  · have hcl : clearStale img wo' = img := by
      rw [himg, ← List.append_assoc]
      exact clearStale_append_zeros _ _ _ (by rw [hwo', List.length_append, tornFrom_length])
    have hu : u32 (c'.offset + frameHeaderLen) = wo' := by
      rw [frameHeaderLen, hoff]; exact Nat.mod_eq_of_lt hlt
    have hr' := recoverTail_some info file' _ c' hsf hff'
    rw [if_pos hv', hU'] at hr'
    have hr := recoverTail_some info img _ c' rfl hfi
    rw [hu, hcl, ← (Prod.mk.inj (Except.ok.inj hr')).1] at hr
    by_cases hv : validateFileHeader (scanHeader img) info.hdr = true
    · rw [if_pos hv] at hr
      exact Or.inl ⟨hr, Or.inr ⟨hreg, hcrc⟩⟩
    · rw [if_neg hv] at hr
      exact Or.inr ⟨hr, by simpa using hv, hreg, hcrc⟩

/-- **torn-write atomicity from any invariant state**: for every mask of landed 8-byte chunks recovery
      * returns the writer before the append, the file as it was (lengthened with zeros if the append grew it), or
      * returns the writer after the append and leaves the image as it is — the image then is the complete file
        or its batch region is a CRC-32C collision of the intended one —, or
      * (only for the first batch of the segment, only under such a collision, only if the torn file header does
        not validate) refuses with `ErrCorrupt`.
    The first batch is special because the writer holds the file header back until the first append: there the
    torn range starts at offset 0 and the CRC of the commit frame covers the header, which recovery validates
    separately. -/
theorem chain_torn_cases (info : SegInfo) (bs : List (List Bytes)) (b : List Bytes)
    (hwf : RunWF info (bs ++ [b]))
    (w : Writer) (file : Bytes) (hCI : ChainInv info w file bs)
    (w' : Writer) (file' : Bytes)
    (happ : w.append file (indexBatch (info.base + bs.flatten.length) b) .none = (none, w', file'))
    (mask : Nat → Bool) :
    let img := tearImage file file' w.writeOffset (w'.writeOffset - w.writeOffset) mask
    (recoverTail info img = .ok (w, file ++ zeros (file'.length - file.length)))
    ∨ (recoverTail info img = .ok (w', img) ∧ (img = file' ∨ RegionCollision img file' w.writeOffset w'.writeOffset))
    ∨ (bs = [] ∧ recoverTail info img = .error .corrupt
        ∧ validateFileHeader (scanHeader img) info.hdr = false
        ∧ RegionCollision img file' w.writeOffset w'.writeOffset) := by
  intro img0
  generalize himg0 : img0 = img
  obtain ⟨s, hI, hI', hcb', hlt, hcb, hlen, hCI'⟩ := chain_append_setup info bs b hwf w file hCI w' file' happ
  have hA' := addBatch_bytes ((ackBatches bs).foldl addBatch (acc0 info)) ⟨b, s⟩
  obtain ⟨k', kb, hf', hf, himg⟩ := torn_image _ hI hI' hcb' hA' mask
  rw [show tearImage file file' w.writeOffset (w'.writeOffset - w.writeOffset) mask = img from himg0] at himg
  have hU' := recover_inv info hwf.base_lt hwf.id_lt hwf.codec_lt _ w' file' hCI'
  have hU := recover_inv info hwf.base_lt hwf.id_lt hwf.codec_lt _ w file hCI
  have h0 : (acc0 info).bytes.length = 32 := acc0_length info
  have hrel0 : RecRel (acc0 info) {} := ⟨rfl, rfl, rfl, Nat.zero_le _⟩
  have hAb := foldl_addBatch_bytes (acc0 info) (ackBatches bs)
  have hP : (file.take w.writeOffset).length = w.writeOffset := by rw [List.length_take, Nat.min_eq_left hI.wo]
  have hwoA' : w'.writeOffset = (addBatch ((ackBatches bs).foldl addBatch (acc0 info)) ⟨b, s⟩).bytes.length := by
    rw [hI'.bytes_length, hcb', List.length_nil, Nat.add_zero]
  have hwo' : w'.writeOffset = (file.take w.writeOffset).length
      + (w.commitBuf ++ encAll (batchFrames ((ackBatches bs).foldl addBatch (acc0 info)) ⟨b, s⟩)).length := by
    rw [hwoA', hA', hI.bytes, List.length_append, List.length_append, List.length_append, Nat.add_assoc]
  have hltA' : w'.writeOffset < 2^32 := by
    rw [List.foldl_append] at hlt; rw [hwoA']; exact hlt
  have hltA : ((ackBatches bs).foldl addBatch (acc0 info)).bytes.length < 2^32 := by
    rw [hI.bytes_length]
    exact Nat.lt_of_le_of_lt (by rw [hwo', hP, List.length_append, ← Nat.add_assoc]; exact Nat.le_add_right _ _) hltA'
  have hf'2 : file' = file.take w.writeOffset
      ++ ((w.commitBuf ++ encAll (batchFrames ((ackBatches bs).foldl addBatch (acc0 info)) ⟨b, s⟩)) ++ zeros k') := by
    rw [hf', hA', hI.bytes]; simp only [List.append_assoc]
  have hv' : validateFileHeader (scanHeader file') info.hdr = true := by
    rw [hf', hA', hAb]; simp only [List.append_assoc]; exact header_valid info hwf.base_lt hwf.id_lt hwf.codec_lt _
  have himglen : img.length = file'.length := by rw [← himg0]; exact tearImage_length _ _ _ _ _
  -- what recovery scans before it reaches the torn batch: 32 bytes in the place of the file header, then the
  -- frames of the acknowledged batches.  The first batch is special: the writer still holds the file header
  -- back, so the header is part of the torn write (and the torn batch starts at chunk 4 of it).
  obtain ⟨hd, hdlen, hk, hscan, hhd⟩ : ∃ hd : Bytes, hd.length = 32 ∧ 8 ∣ w.commitBuf.length
      ∧ file.take w.writeOffset ++ tornFrom mask 0 w.commitBuf = hd ++ encAll (allFrames (acc0 info) (ackBatches bs))
      ∧ (bs ≠ [] → hd = (acc0 info).bytes) := by
    by_cases hne : bs = []
    · have hcbw : w.commitBuf = (acc0 info).bytes := by rw [hCI.empty hne]; exact fileHeader_eq info.hdr
      have hw0 : w.writeOffset = 0 := by rw [hCI.empty hne]; rfl
      refine ⟨tornFrom mask 0 (acc0 info).bytes, by rw [tornFrom_length, h0], ⟨4, by rw [hcbw, h0]⟩, ?_,
        fun h => absurd hne h⟩
      rw [hw0, List.take_zero, hcbw, hne]; rfl
    · refine ⟨(acc0 info).bytes, h0, by rw [hcb hne]; exact Nat.dvd_zero 8, ?_, fun _ => rfl⟩
      have := hI.bytes
      rw [hcb hne, List.append_nil] at this
      rw [hcb hne, tornFrom_nil, List.append_nil, ← this, hAb]
  have himg2 : img = hd ++ (encAll (allFrames (acc0 info) (ackBatches bs))
      ++ (tornFrom mask w.commitBuf.length (encAll (batchFrames ((ackBatches bs).foldl addBatch (acc0 info)) ⟨b, s⟩))
        ++ zeros k')) := by
    rw [himg, tornFrom_append, Nat.zero_add, List.append_assoc, ← List.append_assoc, hscan, List.append_assoc]
  have hrel := hrel0.foldl (ackBatches bs) hltA
  rw [h0] at hrel
  rcases torn_cases (acc0 info) h0 (ackBatches bs) ⟨b, s⟩ hlt hd hdlen mask _ hk k' _ rfl hrel img file' himg2 hf'
    with ⟨extra, ho, hfind⟩ | ⟨c', hsf, hfi, hff', hoff, hcrc, X, hX1, hX2⟩
  · -- recovery does not settle on the in-flight commit: it settles where recovery of `file` does
    left
    by_cases hne : bs = []
    · -- no commit at all: the empty segment
      subst hne
      have hw : w = Writer.create info := hCI.empty rfl
      subst hw
      have hfz := hCI.file_zeros
      generalize file.length = kk at hfz
      subst hfz
      have hcl := clearStale_eq_old_append_zeros [] img (zeros kk) 0 kk rfl rfl (by rw [List.nil_append, himglen]; exact hlen)
      rw [List.nil_append, himglen, zeros_length] at hcl
      rw [recoverTail_none info img _ rfl hfind, hcl]; rfl
    · -- the last acknowledged commit `c1`
      have hcbw := hcb hne
      have hP' : file.take w.writeOffset = ((ackBatches bs).foldl addBatch (acc0 info)).bytes := by
        have := hI.bytes; rw [hcbw, List.append_nil] at this; exact this.symm
      have hwo : w.writeOffset = ((ackBatches bs).foldl addBatch (acc0 info)).bytes.length := by rw [← hP', hP]
      rw [hP', hcbw, List.nil_append] at himg
      rw [hP'] at hf
      have hvimg : validateFileHeader (scanHeader img) info.hdr = true := by
        rw [himg2, hhd hne]; exact header_valid info hwf.base_lt hwf.id_lt hwf.codec_lt _
      obtain ⟨init, l, hsplit⟩ : ∃ init l, bs = init ++ [l] :=
        ⟨bs.dropLast, bs.getLast hne, (List.dropLast_concat_getLast hne).symm⟩
      have hxs : ackBatches bs = ackBatches init ++ [⟨l, false⟩] := by rw [hsplit]; simp [ackBatches]
      obtain ⟨c1, rest, hc1, hc1off, hc1len, hc1v⟩ :=
        fold_layout_last (acc0 info) hrel0 (ackBatches init) ⟨l, false⟩ (by rw [← hxs]; exact hltA)
      rw [← hxs, h0] at hc1 hc1len
      rw [← hxs] at hc1off hc1v
      have hv1 : commitValid img c1 = true := by rw [himg]; exact hc1v _
      rw [hc1, List.find?_cons_of_pos hv1] at hfind
      have hr := recoverTail_some info img _ c1 rfl hfind
      rw [if_pos hvimg, ho, recW_offsets_ext _ _ _ _ hc1len] at hr
      have hsfile : scanFold file = (scanOf 32 (allFrames (acc0 info) (ackBatches bs))).foldl recStep {} := by
        rw [hf, hAb, List.append_assoc]
        exact scanFold_frames (acc0 info).bytes h0 _ [] (allFrames_wf _ _ hltA) (fun f hf => by cases hf) (zeros kb)
          (stopTail_zeros kb)
      have hv1f : commitValid file c1 = true := by rw [hf]; exact hc1v _
      have hvfile : validateFileHeader (scanHeader file) info.hdr = true := by
        rw [hf, hAb, List.append_assoc]; exact header_valid info hwf.base_lt hwf.id_lt hwf.codec_lt _
      have hrf := recoverTail_some info file _ c1 hsfile (by rw [hc1]; exact List.find?_cons_of_pos hv1f)
      rw [if_pos hvfile, hU] at hrf
      have hu : u32 (c1.offset + frameHeaderLen) = w.writeOffset := by
        rw [hwo, ← hc1off]; exact Nat.mod_eq_of_lt (by rw [frameHeaderLen, hc1off]; exact hltA)
      have hclr : clearStale img (u32 (c1.offset + frameHeaderLen)) = file ++ zeros (file'.length - file.length) := by
        rw [hu, ← himglen, himg]
        exact clearStale_eq_old_append_zeros _ _ file _ kb hwo.symm hf (by rw [← himg, himglen]; exact hlen)
      rw [hr, hclr, ← (Prod.mk.inj (Except.ok.inj hrf)).1]
  · -- recovery settles on the in-flight commit
    right
    rw [hI.cs, ← hwoA'] at hcrc
    rcases torn_accepted info w' img file' _ _ _ X mask k' c' w.writeOffset w'.writeOffset himg hf'2 hP hwo' hltA'
      hU' hv' hsf hfi hff' (by rw [hwoA']; exact hoff) hcrc hX1 hX2 with h | ⟨h1, h2, h3⟩
    · exact Or.inl h
    · by_cases hne : bs = []
      · exact Or.inr ⟨hne, h1, h2, h3⟩
      · -- behind an acknowledged batch the file header is not part of the torn write and validates
        rw [himg2, hhd hne, header_valid info hwf.base_lt hwf.id_lt hwf.codec_lt _] at h2
        cases h2

end RaftWal
