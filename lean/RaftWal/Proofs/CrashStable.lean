/-
  Proofs/CrashStable.lean — the stable store: only `Set` changes it.  No invariant is needed: every commit that Open
  and the calls other than `Set` perform carries the stable store it found (`StableActs`).
-/
import RaftWal.Proofs.CrashDisk
namespace RaftWal.Crash

/-- every commit in the list keeps the stable store `s` -/
def StableActs (s : List (Nat × Nat)) (as : List Act) : Prop := ∀ a ∈ as, ∀ m, a = .commit m → m.stable = s

theorem StableActs.nil (s) : StableActs s [] := fun _ ha => nomatch ha
theorem StableActs.append {s} {as bs : List Act} (h1 : StableActs s as) (h2 : StableActs s bs) :
    StableActs s (as ++ bs) := fun a ha => (List.mem_append.1 ha).elim (h1 a) (h2 a)
theorem StableActs.take {s} {as : List Act} (h : StableActs s as) (k : Nat) : StableActs s (as.take k) :=
  fun a ha => h a (List.mem_of_mem_take ha)
theorem StableActs.deletes (s) {α : Type} (l : List α) (g : α → Nat) : StableActs s (l.map (fun x => .delete (g x))) := by
  intro a ha m hm
  obtain ⟨x, _, rfl⟩ := List.mem_map.1 ha
  cases hm
theorem StableActs.newTail (m : Meta) (segs : List Seg) (b : Nat) : StableActs m.stable (newTailActs m segs b) := by
  intro a ha m' hm
  rcases List.mem_cons.1 ha with rfl | ha
  · cases hm; rfl
  · cases List.mem_singleton.1 ha; cases hm
theorem StableActs.cons {s} {a : Act} {as : List Act} (ha : ∀ m, a ≠ .commit m) (h : StableActs s as) :
    StableActs s (a :: as) := fun b hb m hm =>
  (List.mem_cons.1 hb).elim (fun e => absurd (e ▸ hm) (ha m)) (fun hb => h b hb m hm)
theorem StableActs.orphans (s) (d : Disk) (m : Meta) : StableActs s (orphanDeletes d m) :=
  StableActs.deletes s _ _
theorem StableActs.ite {s} {c : Prop} [Decidable c] {as bs : List Act} (h1 : c → StableActs s as)
    (h2 : ¬ c → StableActs s bs) : StableActs s (if c then as else bs) := by
  by_cases hc : c
  · rw [if_pos hc]; exact h1 hc
  · rw [if_neg hc]; exact h2 hc

theorem StableActs.ack (s) : StableActs s [Act.ack] := .cons nofun (.nil _)

theorem apply_stable {d : Disk} {a : Act} {s : List (Nat × Nat)} (h : ∀ m, a = .commit m → m.stable = s)
    (hd : d.md.stable = s) : (d.apply a).md.stable = s := by
  cases a with
  | commit m => exact h m rfl
  | create id b => rw [apply_create_md]; exact hd
  | _ => exact hd

theorem applyAll_stable {s : List (Nat × Nat)} (as : List Act) {d : Disk} (h : StableActs s as)
    (hd : d.md.stable = s) : (d.applyAll as).md.stable = s := by
  induction as generalizing d with
  | nil => exact hd
  | cons a as ih =>
    exact ih (fun b hb => h b (List.mem_cons_of_mem _ hb)) (apply_stable (h a List.mem_cons_self) hd)

theorem elim_ite {α : Type} {c : Prop} [Decidable c] {x y : Option α} {P : α → Prop}
    (hx : c → x.elim True P) (hy : ¬ c → y.elim True P) : (if c then x else y).elim True P := by
  by_cases hc : c
  · rw [if_pos hc]; exact hx hc
  · rw [if_neg hc]; exact hy hc

theorem openProg_stable {d : Disk} {as : List Act} (h : openProg d = some as) : StableActs d.md.stable as := by
  have hrec : ∀ (f : File), StableActs d.md.stable
      (if (f.content.isEmpty && !f.isSealed) = true then [] else [Act.fsync f.id]) := fun f =>
    .ite (fun _ => .nil _) fun _ => .cons nofun (.nil _)
  have key : (openProg d).elim True (StableActs d.md.stable) := by
    unfold openProg
    refine elim_ite (fun _ => trivial) fun _ => elim_ite (fun _ => trivial) fun _ => ?_
    cases d.md.segs.getLast? with
    | none => exact (StableActs.newTail _ _ _).append (.orphans _ _ _)
    | some t =>
      refine elim_ite (fun _ => (StableActs.newTail _ _ _).append (.orphans _ _ _)) fun _ => ?_
      cases d.file? t.id with
      | none =>
        exact StableActs.cons nofun (.orphans _ _ _)
      | some f =>
        exact elim_ite (fun _ => ((hrec _).append (.newTail _ _ _)).append (.orphans _ _ _))
          fun _ => (hrec _).append (.orphans _ _ _)
  rw [h] at key; exact key

theorem crashAfter_stable {d : Disk} {as : List Act} (h : StableActs d.md.stable as) (k : Nat) (c : CrashKind) :
    (crashAfter d as k c).md.stable = d.md.stable := by
  unfold crashAfter
  rw [crash_md]
  exact applyAll_stable _ (h.take k) rfl

theorem reach_stable {d0 d1 : Disk} (hr : ReachRec d0 d1) : d1.md.stable = d0.md.stable := by
  induction hr with
  | refl d => rfl
  | step d as k c d2 ho _ ih => rw [ih]; exact crashAfter_stable (openProg_stable ho) k c

theorem openResult_stable {d d' : Disk} (h : openResult d = some d') : d'.md.stable = d.md.stable := by
  obtain ⟨as, ho, rfl⟩ := Option.map_eq_some_iff.1 h
  exact applyAll_stable _ (openProg_stable ho) rfl

theorem rotateActs_stable (d : Disk) : StableActs d.md.stable (rotateActs d) := by
  unfold rotateActs
  cases d.md.segs.getLast? with
  | none => exact .nil _
  | some t =>
    dsimp only
    cases d.file? t.id with
    | none => exact .nil _
    | some f => exact .newTail _ _ _

theorem storeProg_stable (d : Disk) (first : Nat) (es : List Entry) (sl : Bool) :
    StableActs d.md.stable (storeProg d first es sl) := by
  have hreset : StableActs d.md.stable (resetActs d first).1 ∧ StableActs d.md.stable (resetActs d first).2 := by
    unfold resetActs
    cases d.md.segs.getLast? with
    | none => exact ⟨.nil _, .nil _⟩
    | some t =>
      by_cases hc : (absLog d).isEmpty ∧ t.base ≠ first
      · simp only [if_pos hc]
        exact ⟨.newTail _ _ _, .cons nofun (.nil _)⟩
      · simp only [if_neg hc]
        exact ⟨.nil _, .nil _⟩
  unfold storeProg
  generalize resetActs d first = r at hreset
  obtain ⟨a1, del⟩ := r
  have hd1 : (d.applyAll a1).md.stable = d.md.stable := applyAll_stable _ hreset.1 rfl
  show StableActs d.md.stable (match (d.applyAll a1).md.segs.getLast? with | none => a1 | some t => _)
  cases (d.applyAll a1).md.segs.getLast? with
  | none => exact hreset.1
  | some t =>
    have ha2 : StableActs d.md.stable ([Act.write t.id es sl, Act.fsync t.id] ++ del ++ [Act.ack]) :=
      .cons nofun (.cons nofun (hreset.2.append (StableActs.ack _)))
    refine (hreset.1.append ha2).append (.ite (fun _ => ?_) fun _ => .nil _)
    have := rotateActs_stable ((d.applyAll a1).applyAll ([Act.write t.id es sl, Act.fsync t.id] ++ del ++ [Act.ack]))
    rw [applyAll_stable _ ha2 hd1] at this
    exact this


theorem delHeadProg_stable (d : Disk) (newMin : Nat) : StableActs d.md.stable (delHeadProg d newMin) := by
  unfold delHeadProg
  simp only
  split
  · exact ((StableActs.newTail _ _ _).append (.deletes _ _ _)).append (StableActs.ack _)
  · refine (StableActs.append ?_ (.deletes _ _ _)).append (StableActs.ack _)
    intro a ha m hm
    cases List.mem_singleton.1 ha; cases hm; rfl

theorem delTailProg_stable (d : Disk) (newMax : Nat) : StableActs d.md.stable (delTailProg d newMax) := by
  unfold delTailProg
  simp only
  split
  · exact .nil _
  · refine ((StableActs.append (.ite (fun _ => .nil _) fun _ => ?_) (.newTail _ _ _)).append (.deletes _ _ _)).append
      (StableActs.ack _)
    exact .cons nofun (.cons nofun (.nil _))

theorem set_stable (d : Disk) (m : Meta) (k : Nat) :
    ((d.applyAll ([Act.commit m, Act.ack].take k)).md.stable = d.md.stable ∨
      (d.applyAll ([Act.commit m, Act.ack].take k)).md.stable = (d.applyAll [Act.commit m, Act.ack]).md.stable) ∧
    (ackPos [Act.commit m, Act.ack] < k →
      (d.applyAll ([Act.commit m, Act.ack].take k)).md.stable = (d.applyAll [Act.commit m, Act.ack]).md.stable) := by
  have hb : (Act.commit m == Act.ack) = false := by simp
  have hack : ackPos [Act.commit m, Act.ack] = 1 := by
    simp [ackPos, List.findIdx_cons, hb]
  rw [hack]
  rcases k with _ | _ | k
  · exact ⟨Or.inl rfl, fun h => absurd h (Nat.not_lt_zero _)⟩
  · exact ⟨Or.inr rfl, fun h => absurd h (Nat.lt_irrefl _)⟩
  · rw [List.take_of_length_le (Nat.le_add_left 2 k)]
    exact ⟨Or.inr rfl, fun _ => rfl⟩

theorem prog_stable (d : Disk) (op : Op) (k : Nat) :
    ((d.applyAll ((prog d op).take k)).md.stable = d.md.stable ∨
      (d.applyAll ((prog d op).take k)).md.stable = (d.applyAll (prog d op)).md.stable) ∧
    (ackPos (prog d op) < k →
      (d.applyAll ((prog d op).take k)).md.stable = (d.applyAll (prog d op)).md.stable) := by
  have key : ∀ as, StableActs d.md.stable as →
      ((d.applyAll (as.take k)).md.stable = d.md.stable ∨
        (d.applyAll (as.take k)).md.stable = (d.applyAll as).md.stable) ∧
      (ackPos as < k → (d.applyAll (as.take k)).md.stable = (d.applyAll as).md.stable) := by
    intro as h
    have h1 := applyAll_stable (d := d) _ (h.take k) rfl
    have h2 := applyAll_stable (d := d) _ h rfl
    exact ⟨Or.inl h1, fun _ => h1.trans h2.symm⟩
  cases op with
  | store first es sl => exact key _ (storeProg_stable d first es sl)
  | delHead newMin => exact key _ (delHeadProg_stable d newMin)
  | delTail newMax => exact key _ (delTailProg_stable d newMax)
  | set k' v => exact set_stable d _ k

end RaftWal.Crash
