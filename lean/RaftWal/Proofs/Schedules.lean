/-
  Proofs/Schedules.lean — what the schedule models (Model/Conc, ConcW, Pool) share: a run is a fold of the step
  function over the schedule, and a step of thread `i` replaces entry `i` of the thread table.
-/
namespace RaftWal

theorem foldl_induction {σ τ} {P : σ → Prop} (f : σ → τ → σ) (hstep : ∀ s t, P s → P (f s t)) (l : List τ) {s : σ}
    (h : P s) : P (l.foldl f s) := by
  induction l generalizing s with
  | nil => exact h
  | cons t ts ih => exact ih (hstep s t h)

theorem forall_mem_set {α} {P : α → Prop} {l : List α} {i : Nat} {a : α} (h : ∀ x ∈ l, P x) (ha : P a) :
    ∀ x ∈ l.set i a, P x := by
  intro x hx
  rcases List.mem_or_eq_of_mem_set hx with hx | rfl
  · exact h x hx
  · exact ha

theorem countP_set_of_get {α} (p : α → Bool) {l : List α} {i : Nat} {a : α} (a' : α) (h : l[i]? = some a) :
    (l.set i a').countP p + (p a).toNat = l.countP p + (p a').toNat := by
  obtain ⟨hi, rfl⟩ := List.getElem?_eq_some_iff.mp h
  have hb : ∀ b : Bool, (if b = true then 1 else 0) = b.toNat := fun b => by cases b <;> rfl
  have hle := List.boole_getElem_le_countP (p := p) hi
  rw [hb] at hle
  rw [List.countP_set hi, hb, hb]
  omega

end RaftWal
