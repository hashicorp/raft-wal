/-
  Proofs/WalInv2Counter.lean — why `counters_exact` (C20) needs its two bounds: the statement without them is
  refuted by a (very long) run.  The run stores one entry and deletes it again, 2^64 times; the reference
  total of head-truncated entries is then 2^64, the model's `headTrunc` — uint64 in the code — is back at 0.
-/
import RaftWal.Proofs.WalInv2
namespace RaftWal

def cexLog : Log := { index := 1, term := 1, typ := 0, data := [], ext := [], time := some WTime.zero }
def cexRound : List XOp := [.log (.store [cexLog]), .log (.del 1 1)]
def cexOps (n : Nat) : List XOp := (List.replicate n cexRound).flatten
def cexCfg : WalCfg := { segmentSize := 1024, codecId := 1, newSegCodec := 1 }

abbrev tstep : Spec.SLog × Totals → XOp → Spec.SLog × Totals := fun a op => specTotalsStep a.1 a.2 op

theorem specTotals_eq (ops : List XOp) : specTotals ops = ops.foldl tstep ({ first := 0, entries := [] }, {}) := rfl

/-- one round on an empty open reference log: the log is empty again, one more entry was head-truncated -/
theorem cex_round (s : Spec.SLog) (t : Totals) (he : s.entries = []) (hc : s.closed = false) :
    (cexRound.foldl tstep (s, t)).1.entries = [] ∧ (cexRound.foldl tstep (s, t)).1.closed = false ∧
    (cexRound.foldl tstep (s, t)).2.head = t.head + 1 := by
  simp [cexRound, tstep, specTotalsStep, Spec.SLog.store, Spec.SLog.accepts, Spec.consecutiveFrom, he, hc, encode,
    cexLog, Spec.SLog.delete, Spec.SLog.firstIndex, Spec.SLog.lastIndex]

theorem cex_fold : ∀ (n : Nat) (s : Spec.SLog) (t : Totals), s.entries = [] → s.closed = false →
    ((cexOps n).foldl tstep (s, t)).1.entries = [] ∧ ((cexOps n).foldl tstep (s, t)).1.closed = false ∧
    ((cexOps n).foldl tstep (s, t)).2.head = t.head + n := by
  intro n
  induction n with
  | zero => intro s t he hc; exact ⟨he, hc, rfl⟩
  | succ n ih =>
    intro s t he hc
    have e : cexOps (n + 1) = cexRound ++ cexOps n := by simp [cexOps, List.replicate_succ]
    rw [e, List.foldl_append]
    obtain ⟨r1, r2, r3⟩ := cex_round s t he hc
    obtain ⟨q1, q2, q3⟩ := ih (cexRound.foldl tstep (s, t)).1 (cexRound.foldl tstep (s, t)).2 r1 r2
    refine ⟨q1, q2, ?_⟩
    rw [q3, r3]; omega

theorem cex_inRange (n : Nat) : ∀ op ∈ cexOps n, op.inRange := by
  intro op hop
  simp only [cexOps, List.mem_flatten, List.mem_replicate] at hop
  obtain ⟨l, ⟨_, rfl⟩, hm⟩ := hop
  simp only [cexRound, List.mem_cons, List.not_mem_nil, or_false] at hm
  rcases hm with rfl | rfl
  · simp [XOp.inRange, Op.inRange, cexLog]
  · simp [XOp.inRange, Op.inRange]

theorem init_exists (cfg : WalCfg) (hcfg : cfg.newSegCodec = cfg.codecId) : ∃ w0, Wal.init cfg = some w0 := by
  obtain ⟨w1, b, hcn, _⟩ := createNext_empty
    { cfg := cfg, nextID := 0, segs := [], files := [], stable := [], ctr := {}, closed := false } 0 rfl hcfg
    (by intro f hf; simp at hf) (by omega)
  unfold Wal.init Wal.reopen
  simp only [Wal.reopen.build, List.reverse_nil, Wal.tailSeg, List.getLast?_nil, Bool.false_eq_true, if_false]
  rw [hcn]
  exact ⟨_, rfl⟩

/-- **C20 without the bounds on the truncation totals is false** -/
theorem counters_exact_unbounded_false :
    ¬ ∀ (cfg : WalCfg) (_ : cfg.newSegCodec = cfg.codecId) (w0 : Wal) (_ : Wal.init cfg = some w0)
        (ops : List XOp) (_ : ∀ op ∈ ops, op.inRange),
        (w0.xrunState ops).ctr.totals = (specTotals ops).2 := by
  intro H
  obtain ⟨w0, h0⟩ : ∃ w0, Wal.init cexCfg = some w0 := init_exists cexCfg rfl
  -- `N` rounds, for a number of rounds that does not fit 64 bits
  have key : ∀ N : Nat, u64 N ≠ N → False := by
    intro N hN
    have hops := cex_inRange N
    have h1 := H cexCfg rfl w0 h0 _ hops
    have h2 := counters_exact_mod cexCfg rfl w0 h0 _ hops
    rw [h1] at h2
    have h4 : (specTotals (cexOps N)).2.head = N := by
      rw [specTotals_eq, (cex_fold N _ _ rfl rfl).2.2]
      show 0 + N = N
      omega
    have h3 := congrArg Totals.head h2
    simp only [h4] at h3
    exact hN h3.symm
  exact key (2^64) (by simp [u64])

end RaftWal
