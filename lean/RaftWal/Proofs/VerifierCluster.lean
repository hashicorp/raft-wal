/-
  Proofs/VerifierCluster.lean — C16 at the level of two nodes: the per-node invariant (running sum = chain over the
  stored entries, VerifierReach.lean) and the verdict theorem (VerifierProps.lean) composed into one statement about a
  leader and a follower that were each reached by ANY history of middleware operations (appends in any batching, head
  and tail truncations, report deliveries, middleware restarts — leadership changes are just such histories).
  The histories enter only through `SumInv`: `stamp_of_sumInv` and `report_of_sumInv` are about any two nodes that
  satisfy it.
-/
import RaftWal.Proofs.VerifierReach
namespace RaftWal.Verifier
open RaftWal

/-- a node as the harness creates it: the current source resets the running sum on DeleteRange -/
def node0 : Node := { resetOnDelete := true }

theorem sumInv_checksum (n : Node) (h : SumInv n) :
    n.checksum = chain 0 (if n.sumStartIdx = 0 then [] else storeFrom n n.sumStartIdx) := by
  by_cases h0 : n.sumStartIdx = 0
  · rw [if_pos h0, h.1 h0]; rfl
  · rw [if_neg h0]; exact (h.2 h0).2.2.2

theorem stamp_of_sumInv {L : Node} (hL : SumInv L) {cp cp' : Log} {cs : UInt64} {st : Nat} {rL : Report}
    (hext : cp.ext = [])
    (h : updateVerifyState cp L.checksum L.sumStartIdx = some (cp', cs, st, some rL)) :
    rL.stop = cp.index ∧
    rL.start = (if L.sumStartIdx = 0 then cp.index else L.sumStartIdx) ∧
    rL.expected = chain 0 (if L.sumStartIdx = 0 then [] else storeFrom L L.sumStartIdx) ∧
    cp'.ext = encodeMeta rL.start rL.expected ∧ cp'.index = cp.index := by
  rcases uvs_cases h with ⟨_, _, _, _, hr⟩ | ⟨_, _, rfl, _, _, hr⟩ | ⟨_, hne, _⟩
  · cases hr
  · cases hr
    exact ⟨rfl, rfl, sumInv_checksum L hL, rfl, rfl⟩
  · exact absurd hext hne

theorem report_of_sumInv {L F : Node} (hL : SumInv L) (hF : SumInv F) {cp cp' l2 : Log} {csL csF : UInt64}
    {stL stF : Nat} {rL r : Report}
    (hext : cp.ext = []) (hidx : cp.index < 2 ^ 64) (hstart : L.sumStartIdx < 2 ^ 64)
    (hLu : updateVerifyState cp L.checksum L.sumStartIdx = some (cp', csL, stL, some rL))
    (hFu : updateVerifyState cp' F.checksum F.sumStartIdx = some (l2, csF, stF, some r))
    (hw : (if F.sumStartIdx = 0 then cp.index else F.sumStartIdx) = rL.start →
          (if F.sumStartIdx = 0 then [] else storeFrom F F.sumStartIdx) =
          (if L.sumStartIdx = 0 then [] else storeFrom L L.sumStartIdx)) :
    r.start = rL.start ∧ r.stop = rL.stop ∧ r.expected = rL.expected ∧
    (r.written = 0 ∨ r.written = r.expected) ∧ r.err = .none := by
  obtain ⟨h1, h2, h3, h4, h5⟩ := stamp_of_sumInv hL hext hLu
  have hlt : rL.start < 2 ^ 64 := by rw [h2]; split <;> assumption
  rcases uvs_cases hFu with ⟨_, _, _, _, hr⟩ | ⟨_, he, _⟩ | ⟨_, _, _, _, _, a, b, hd, hr⟩
  · cases hr
  · rw [h4] at he
    exact absurd (congrArg List.length he) (by rw [encodeMeta_length]; decide)
  · rw [h4, decodeMeta_encodeMeta _ _ hlt] at hd
    cases hd
    cases hr
    refine ⟨rfl, h5.trans h1.symm, rfl, ?_, rfl⟩
    rw [h5]
    by_cases he : rL.start = (if F.sumStartIdx = 0 then cp.index else F.sumStartIdx)
    · exact .inr ((if_neg (not_not_intro he)).trans
        ((sumInv_checksum F hF).trans ((congrArg (chain 0) (hw he.symm)).trans h3.symm)))
    · exact .inl (if_pos he)

/-- **the leader's checkpoint carries the chain over what the leader holds**: for a leader reached by any history, the
    report (and the Extensions of the stamped entry) of a new checkpoint say: range start = the running sum's start (or
    the checkpoint itself when there is none), expected sum = FNV chain over the leader's stored entries from there -/
theorem leader_stamp (opsL : List NodeOp) (cp cp' : Log) (cs : UInt64) (st : Nat) (rL : Report)
    (hext : cp.ext = [])
    (h : updateVerifyState cp (node0.run opsL).checksum (node0.run opsL).sumStartIdx = some (cp', cs, st, some rL)) :
    let L := node0.run opsL
    rL.stop = cp.index ∧
    rL.start = (if L.sumStartIdx = 0 then cp.index else L.sumStartIdx) ∧
    rL.expected = chain 0 (if L.sumStartIdx = 0 then [] else storeFrom L L.sumStartIdx) ∧
    cp'.ext = encodeMeta rL.start rL.expected ∧ cp'.index = cp.index :=
  stamp_of_sumInv (reach_run opsL node0 reach_init).sum hext h

/-- **C16, two nodes, any histories**: the leader `L` and the follower `F` are reached by arbitrary histories. The leader
    stamps a new checkpoint `cp`; the follower receives the stamped entry and gets report `r`. If
      (w) whenever the follower's running sum starts where the leader's range starts, the follower has stored from there
          on exactly the entries the leader's sum covers (it wrote what the leader wrote), and
      (r) the node state `Fv` on which the verification runs is open, holds the range from its start, and returns for
          every index of the range exactly the leader's entries (stored as written, read back unchanged),
    then the delivered report carries no error — no checksum mismatch of either kind, no range mismatch — and its read
    sum equals the leader's. -/
theorem cluster_no_false_alarm (opsL opsF : List NodeOp) (cp cp' l2 : Log) (csL csF : UInt64) (stL stF : Nat)
    (rL r : Report) (Fv : Node)
    (hext : cp.ext = []) (hidx : cp.index < 2 ^ 64)
    (hstart : (node0.run opsL).sumStartIdx < 2 ^ 64)
    (hL : updateVerifyState cp (node0.run opsL).checksum (node0.run opsL).sumStartIdx = some (cp', csL, stL, some rL))
    (hF : updateVerifyState cp' (node0.run opsF).checksum (node0.run opsF).sumStartIdx = some (l2, csF, stF, some r))
    (hw : (if (node0.run opsF).sumStartIdx = 0 then cp.index else (node0.run opsF).sumStartIdx) = rL.start →
          (if (node0.run opsF).sumStartIdx = 0 then [] else storeFrom (node0.run opsF) (node0.run opsF).sumStartIdx) =
          (if (node0.run opsL).sumStartIdx = 0 then [] else storeFrom (node0.run opsL) (node0.run opsL).sumStartIdx))
    (hopen : Fv.store.closed = false) (hfirst : Fv.store.firstIndex ≤ r.start)
    (hread : readRange Fv r.start (r.stop - r.start) =
          some (if (node0.run opsL).sumStartIdx = 0 then [] else storeFrom (node0.run opsL) (node0.run opsL).sumStartIdx)) :
    r.start = rL.start ∧ r.stop = rL.stop ∧ r.expected = rL.expected ∧
    (Fv.verify r).2.err = .none ∧ (Fv.verify r).2.read = rL.expected := by
  have hSL := (reach_run opsL node0 reach_init).sum
  obtain ⟨hs, hst, hexp, hwr, herr⟩ :=
    report_of_sumInv hSL (reach_run opsF node0 reach_init).sum hext hidx hstart hL hF hw
  have hchain := (stamp_of_sumInv hSL hext hL).2.2.1
  have := verify_clean Fv r _ hopen herr hwr hfirst hread (hexp.trans hchain)
  exact ⟨hs, hst, hexp, this.1, this.2.trans hexp⟩

/-- the same for a node that lacks the beginning of the range: ErrRangeMismatch, never corruption -/
theorem cluster_range_mismatch (opsL opsF : List NodeOp) (cp cp' l2 : Log) (csL csF : UInt64) (stL stF : Nat)
    (rL r : Report) (Fv : Node)
    (hext : cp.ext = []) (hidx : cp.index < 2 ^ 64) (hstart : (node0.run opsL).sumStartIdx < 2 ^ 64)
    (hL : updateVerifyState cp (node0.run opsL).checksum (node0.run opsL).sumStartIdx = some (cp', csL, stL, some rL))
    (hF : updateVerifyState cp' (node0.run opsF).checksum (node0.run opsF).sumStartIdx = some (l2, csF, stF, some r))
    (hw : (if (node0.run opsF).sumStartIdx = 0 then cp.index else (node0.run opsF).sumStartIdx) = rL.start →
          (if (node0.run opsF).sumStartIdx = 0 then [] else storeFrom (node0.run opsF) (node0.run opsF).sumStartIdx) =
          (if (node0.run opsL).sumStartIdx = 0 then [] else storeFrom (node0.run opsL) (node0.run opsL).sumStartIdx))
    (hopen : Fv.store.closed = false) (hfirst : Fv.store.firstIndex > r.start) :
    (Fv.verify r).2.err = .rangeMismatch :=
  verify_range_mismatch Fv r hopen
    (report_of_sumInv (reach_run opsL node0 reach_init).sum (reach_run opsF node0 reach_init).sum
      hext hidx hstart hL hF hw).2.2.2.1 hfirst

/-! ### `hext`, `hL`, `hF` of `cluster_no_false_alarm` can be met, with a written sum present -/

def exE1 : Log := { index := 1, term := 1, typ := 0, data := [1], ext := [], time := some WTime.zero }
def exE2 : Log := { index := 2, term := 1, typ := 0, data := [2], ext := [], time := some WTime.zero }
def exCP : Log := { index := 3, term := 1, typ := 0, data := [0x43, 0x50], ext := [], time := some WTime.zero }
/-- the leader stores both entries in one batch -/
def exOpsL : List NodeOp := [.store [exE1, exE2]]
/-- the follower stores them in two batches -/
def exOpsF : List NodeOp := [.store [exE1], .store [exE2]]

theorem ex_sums : (node0.run exOpsL).sumStartIdx = 1 ∧ (node0.run exOpsF).sumStartIdx = 1 ∧
    (node0.run exOpsF).checksum = (node0.run exOpsL).checksum ∧ (node0.run exOpsL).checksum ≠ 0 := by
  decide +kernel

/-- a leader that stored two entries stamps a checkpoint; a follower that stored the same two entries in two separate
    batches gets a report for the same range with the same sums -/
theorem cluster_nonvacuous : ∃ (opsL opsF : List NodeOp) (cp cp' l2 : Log) (csL csF : UInt64) (stL stF : Nat) (rL r : Report),
    cp.ext = [] ∧
    updateVerifyState cp (node0.run opsL).checksum (node0.run opsL).sumStartIdx = some (cp', csL, stL, some rL) ∧
    updateVerifyState cp' (node0.run opsF).checksum (node0.run opsF).sumStartIdx = some (l2, csF, stF, some r) ∧
    r.written = r.expected ∧ r.written ≠ 0 := by
  obtain ⟨hLs, hFs, hsum, hne⟩ := ex_sums
  have hcp : isCheckpoint exCP = .yes := by decide
  have hL := uvs_leader exCP (node0.run exOpsL).checksum (node0.run exOpsL).sumStartIdx hcp rfl
  have hF := uvs_follower
    { exCP with ext := encodeMeta (if (node0.run exOpsL).sumStartIdx = 0 then exCP.index
                                   else (node0.run exOpsL).sumStartIdx) (node0.run exOpsL).checksum }
    (node0.run exOpsF).checksum (node0.run exOpsF).sumStartIdx hcp
    (fun h => absurd (congrArg List.length h) (by rw [encodeMeta_length]; decide))
  rw [decodeMeta_encodeMeta _ _ (by rw [hLs]; decide)] at hF
  refine ⟨exOpsL, exOpsF, exCP, _, _, _, _, _, _, _, _, rfl, hL, hF, ?_, ?_⟩
  all_goals rw [hLs, hFs, hsum]
  · rfl
  · exact hne

example : ∃ (opsL opsF : List NodeOp) (cp cp' l2 : Log) (csL csF : UInt64) (stL stF : Nat) (rL r : Report),
    cp.ext = [] ∧
    updateVerifyState cp (node0.run opsL).checksum (node0.run opsL).sumStartIdx = some (cp', csL, stL, some rL) ∧
    updateVerifyState cp' (node0.run opsF).checksum (node0.run opsF).sumStartIdx = some (l2, csF, stF, some r) ∧
    r.written = r.expected ∧ r.written ≠ 0 := by
  exact cluster_nonvacuous

end RaftWal.Verifier
