/-
  Proofs/SegmentChainLemmas.lean — the invariant of crash chains (`ChainInv`: the state is what a run of completed
  appends leaves) and what holds of every state that satisfies it: where the entries sit in the file, one more
  acknowledged append, recovery of the untorn file (which returns the very same writer, not only the same
  observation), reads.
-/
import RaftWal.Proofs.SegmentL1
import RaftWal.Proofs.Segment.Torn
namespace RaftWal
open Spec (Acc Batch addEntry addBatch)

def chainAcc (info : SegInfo) (s : Bool) (bs : List (List Bytes)) : Acc :=
  Spec.layoutAcc info.base info.id info.codec (specBatches s bs)

/-- **the chain invariant**: writer `w` and file `file` are, as far as any later operation can tell, what a run
    of completed appends of the batches `bs` on a fresh segment leaves: the file holds exactly the README layout
    of `bs` followed by zeros only (`Inv`, in particular `Inv.zeros`: no stale bytes behind the write offset),
    the writer is between two appends (empty commit buffer; the header still pending for the empty segment), and
    its counters are those of `bs`. Nothing is said about the length of the file (recovery of a torn sealing
    append leaves it longer than `sizeLimit`). -/
structure ChainInv (info : SegInfo) (w : Writer) (file : Bytes) (bs : List (List Bytes)) : Prop where
  inv   : Inv info w file (chainAcc info (w.indexStart > 0) bs)
  empty : bs = [] → w = Writer.create info
  done  : bs ≠ [] → w.commitBuf = [] ∧ w.commitIdx = info.base + cnt bs - 1 ∧ 0 < cnt bs
  idx   : w.indexStart = 0 ∨ w.indexStart = idxPos (acc0 info) bs
  small : (chainAcc info (w.indexStart > 0) bs).bytes.length < 2^32

theorem chainAcc_eq_summary (info : SegInfo) (s : Bool) (bs : List (List Bytes)) :
    chainAcc info s bs = Spec.layoutAcc info.base info.id info.codec (specBatches s bs) := rfl

theorem chainInv_of_run (info : SegInfo) (bs : List (List Bytes)) (hwf : RunWF info bs) (w : Writer) (file : Bytes)
    (hrun : (freshSegment info).1.appendAll (freshSegment info).2 info.base bs = some (w, file)) :
    ChainInv info w file bs := by
  obtain ⟨h1, h2, h3, h4⟩ := run_summary info bs hwf w file hrun
  refine ⟨h1, ?_, h2, h3, h4⟩
  rintro rfl
  exact (Prod.mk.inj (Option.some.inj hrun)).1.symm

theorem chainInv_fresh (info : SegInfo) : ChainInv info (freshSegment info).1 (freshSegment info).2 [] := by
  refine ⟨init_inv info, fun _ => rfl, fun h => absurd rfl h, Or.inl rfl, ?_⟩
  show (Spec.header info.base info.id info.codec).length < 2^32
  rw [specHeader_length]; decide

theorem ChainInv.file_zeros {info w file} (h : ChainInv info w file []) : file = zeros file.length := by
  have hw := h.empty rfl
  have hz := h.inv.zeros
  rw [hw] at hz
  exact List.eq_replicate_iff.mpr ⟨rfl, hz⟩

theorem chainAcc_false (info : SegInfo) (bs : List (List Bytes)) :
    chainAcc info false bs = (ackBatches bs).foldl addBatch (acc0 info) := by
  rw [chainAcc, specBatches_eq_runBatches, runBatches_false]; rfl

theorem chainAcc_concat (info : SegInfo) (s : Bool) (bs : List (List Bytes)) (b : List Bytes) :
    chainAcc info s (bs ++ [b]) = addBatch ((ackBatches bs).foldl addBatch (acc0 info)) ⟨b, s⟩ := by
  rw [chainAcc, specBatches_eq_runBatches, runBatches_concat, Spec.layoutAcc, List.foldl_append]; rfl

theorem inv_append_zeros {info w file a} (h : Inv info w file a) (k : Nat) : Inv info w (file ++ zeros k) a := by
  refine ⟨h.info, ?_, ?_, h.cs, h.crc, h.offsEq, ?_⟩
  · rw [List.take_append_of_le_length h.wo]; exact h.bytes
  · rw [List.length_append]; exact Nat.le_trans h.wo (Nat.le_add_right _ _)
  · intro x hx
    rw [List.drop_append_of_le_length h.wo] at hx
    rcases List.mem_append.mp hx with hx | hx
    · exact h.zeros x hx
    · exact List.eq_of_mem_replicate hx

theorem chainInv_append_zeros {info w file bs} (h : ChainInv info w file bs) (k : Nat) :
    ChainInv info w (file ++ zeros k) bs :=
  ⟨inv_append_zeros h.inv k, h.empty, h.done, h.idx, h.small⟩

/-- an unsealed layout has no index frame: a tighter bound than `run_inv` gives -/
theorem ack_length (a : Acc) (bs : List (List Bytes)) :
    ((ackBatches bs).foldl addBatch a).bytes.length ≤ a.bytes.length + need bs
    ∧ ((ackBatches bs).foldl addBatch a).offsets.length = a.offsets.length + cnt bs := by
  induction bs generalizing a with
  | nil => simp [ackBatches, need, cnt]
  | cons b bs ih =>
    have ha1len : (addBatch a ⟨b, false⟩).bytes.length ≤ a.bytes.length + ((b.map (fun p => 16 + p.length)).sum + 8) :=
      addBatch_length_le a b false
    have ha1off : (addBatch a ⟨b, false⟩).offsets.length = a.offsets.length + b.length :=
      addBatch_offsets_length a ⟨b, false⟩
    obtain ⟨h1, h2⟩ := ih (addBatch a ⟨b, false⟩)
    simp only [ackBatches, List.map_cons, List.foldl_cons] at h1 h2 ⊢
    rw [need_cons, cnt_cons]
    constructor <;> omega

theorem acc0_length (info : SegInfo) : (acc0 info).bytes.length = 32 := specHeader_length _ _ _

theorem chainAcc_entriesAt (info : SegInfo) (s : Bool) (bs : List (List Bytes)) :
    EntriesAt (chainAcc info s bs).bytes (chainAcc info s bs).offsets bs.flatten := by
  have hat := entriesAt_foldl ⟨Spec.header info.base info.id info.codec, [], 0⟩ (specBatches s bs) []
    ⟨rfl, fun x hx => by simp at hx⟩
  rw [List.nil_append, specBatches_eq_runBatches, runBatches_payloads, ← specBatches_eq_runBatches] at hat
  exact hat

theorem ChainInv.offsets_length {info w file bs} (h : ChainInv info w file bs) : w.offsets.length = bs.flatten.length := by
  rw [h.inv.offsEq]; exact (chainAcc_entriesAt info _ bs).1

theorem ChainInv.next {info w file bs} (h : ChainInv info w file bs) :
    info.base + w.offsets.length = info.base + bs.flatten.length := by
  rw [h.offsets_length]

theorem ChainInv.file_eq {info w file bs} (h : ChainInv info w file bs) (hne : bs ≠ []) :
    ∃ n, file = (chainAcc info (w.indexStart > 0) bs).bytes ++ zeros n :=
  file_eq_of_inv h.inv (h.done hne).1

/-- nothing is assumed about the bytes of `file` behind the write offset -/
theorem ChainInv.frame_at {info w fileC bs} (h : ChainInv info w fileC bs) {file : Bytes}
    (ht : file.take w.writeOffset = fileC.take w.writeOffset) (k : Nat) (hk : k < bs.flatten.length) :
    ∃ pre post, file = pre ++ (Spec.entryFrame (bs.flatten[k]'hk) ++ post)
      ∧ (chainAcc info (w.indexStart > 0) bs).offsets[k]? = some pre.length ∧ pre.length + 8 < 2^32 := by
  have hne : bs ≠ [] := by rintro rfl; simp at hk
  obtain ⟨o, pre, post, ho, hbytes, hpre⟩ := (chainAcc_entriesAt info (w.indexStart > 0) bs).get k hk
  have hfile : file = (chainAcc info (w.indexStart > 0) bs).bytes ++ file.drop w.writeOffset := by
    rw [h.inv.bytes, (h.done hne).1, List.append_nil, ← ht, List.take_append_drop]
  generalize file.drop w.writeOffset = rest at hfile
  refine ⟨pre, post ++ rest, ?_, by rw [hpre]; exact ho, ?_⟩
  · rw [hfile, hbytes]; simp only [List.append_assoc]
  · have hl := congrArg List.length hbytes
    have hs := h.small
    simp only [List.length_append, specEntryFrame_length, encodedFrameSize_eq] at hl
    omega

theorem ChainInv.unsealed {info w file bs} (h : ChainInv info w file bs) (hidx : w.indexStart = 0) :
    Inv info w file ((ackBatches bs).foldl addBatch (acc0 info))
    ∧ ((ackBatches bs).foldl addBatch (acc0 info)).bytes.length ≤ 32 + need bs
    ∧ ((ackBatches bs).foldl addBatch (acc0 info)).offsets.length = cnt bs := by
  have h1 := h.inv
  rw [show decide (w.indexStart > 0) = false by rw [hidx]; rfl, chainAcc_false] at h1
  obtain ⟨hl1, hl2⟩ := ack_length (acc0 info) bs
  rw [acc0_length] at hl1
  exact ⟨h1, hl1, by rw [hl2]; exact Nat.zero_add _⟩

/-- the room the append of `b` takes, index frame included, is within the bound of `RunWF` -/
theorem ChainInv.append_room {info w file bs} (h : ChainInv info w file bs) (hidx : w.indexStart = 0) (b : List Bytes) :
    info.base + bs.flatten.length = w.info.base + w.offsets.length
    ∧ w.writeOffset + w.commitBuf.length + (encEntries b).length + (Spec.indexFrame (w.offsetsAfter b)).length + 8
        ≤ runBytesBound (bs ++ [b]) := by
  obtain ⟨h1, hl1, hl2⟩ := h.unsealed hidx
  refine ⟨by rw [h1.info, h.offsets_length], ?_⟩
  have hel := encEntries_length_le b
  have hbl := h1.bytes_length
  have hr := roundUp8_lt (4 * (cnt bs + b.length))
  rw [runBytesBound_eq, need_append, cnt_append, need_single, cnt_single, specIndexFrame_length, h1.offsetsAfter,
    encodedFrameSize_eq, List.length_append, offs_length, hl2]
  omega

/-- everything the invariant says about the states before and after one more append: both follow the layout fold
    (`Inv`), the second for the batch `⟨b, s⟩` with `s` telling whether the append sealed -/
theorem chain_append_setup (info : SegInfo) (bs : List (List Bytes)) (b : List Bytes)
    (hwf : RunWF info (bs ++ [b]))
    (w : Writer) (file : Bytes) (hI : ChainInv info w file bs)
    (w' : Writer) (file' : Bytes)
    (happ : w.append file (indexBatch (info.base + bs.flatten.length) b) .none = (none, w', file')) :
    ∃ s : Bool,
      Inv info w file ((ackBatches bs).foldl addBatch (acc0 info))
      ∧ Inv info w' file' (addBatch ((ackBatches bs).foldl addBatch (acc0 info)) ⟨b, s⟩)
      ∧ w'.commitBuf = []
      ∧ ((ackBatches bs ++ [(⟨b, s⟩ : Batch)]).foldl addBatch (acc0 info)).bytes.length < 2^32
      ∧ (bs ≠ [] → w.commitBuf = [])
      ∧ file.length ≤ file'.length
      ∧ ChainInv info w' file' (bs ++ [b]) := by
  have hb : b ≠ [] := hwf.nonempty b (List.mem_append_right _ List.mem_cons_self)
  have hidx : w.indexStart = 0 := append_none_unsealed w file _ b hb w' file' happ
  obtain ⟨h1, hl1, hl2⟩ := hI.unsealed hidx
  have hbound : ((ackBatches bs).foldl addBatch (acc0 info)).bytes.length + need [b] + 16
      + 4 * (((ackBatches bs).foldl addBatch (acc0 info)).offsets.length + cnt [b]) < 2^32 := by
    have hsz := hwf.size_lt
    rw [runBytesBound_eq, need_append, cnt_append] at hsz
    rw [hl2]; omega
  have hrun1 : w.appendAll file (info.base + bs.flatten.length) [b] = some (w', file') := by
    simp only [Writer.appendAll, happ]
  obtain ⟨g1, g2, g3⟩ := run_inv info [b] (by intro x hx; rw [List.mem_singleton.mp hx]; exact hb) w file _
    (info.base + bs.flatten.length) w' file' h1 hidx (by rw [hl2, cnt_eq_flatten_length]) hbound hrun1
  obtain ⟨g21, g22, g23⟩ := g2 (List.cons_ne_nil _ _)
  -- `runBatches s [b]` is the single batch `⟨b, s⟩`
  have g1' : Inv info w' file' (addBatch ((ackBatches bs).foldl addBatch (acc0 info)) ⟨b, decide (w'.indexStart > 0)⟩) := g1
  have g4' : (addBatch ((ackBatches bs).foldl addBatch (acc0 info)) ⟨b, decide (w'.indexStart > 0)⟩).bytes.length < 2^32 :=
    Nat.lt_of_le_of_lt (runBatches_length_le _ [b] _) hbound
  refine ⟨decide (w'.indexStart > 0), h1, g1', g21, ?_, fun hne => (hI.done hne).1,
    append_none_length_le _ _ _ _ _ happ, ?_⟩
  · rw [List.foldl_append]; exact g4'
  · refine ⟨by rw [chainAcc_concat]; exact g1', fun h => absurd h (by simp), fun _ => ⟨g21, ?_, ?_⟩, ?_,
      by rw [chainAcc_concat]; exact g4'⟩
    · rw [g22, cnt_append, cnt_eq_flatten_length bs, Nat.add_assoc]
    · rw [cnt_append]; exact Nat.lt_of_lt_of_le g23 (Nat.le_add_left _ _)
    · rcases g3 with g3 | g3
      · exact Or.inl g3
      · right
        rw [g3, idxPos_concat]; rfl

theorem chainInv_append (info : SegInfo) (bs : List (List Bytes)) (b : List Bytes)
    (hwf : RunWF info (bs ++ [b]))
    (w : Writer) (file : Bytes) (hI : ChainInv info w file bs)
    (w' : Writer) (file' : Bytes)
    (happ : w.append file (indexBatch (info.base + bs.flatten.length) b) .none = (none, w', file')) :
    ChainInv info w' file' (bs ++ [b]) := by
  obtain ⟨_, _, _, _, _, _, _, h⟩ := chain_append_setup info bs b hwf w file hI w' file' happ
  exact h

theorem chain_append_ok (info : SegInfo) (bs : List (List Bytes)) (b : List Bytes)
    (hwf : RunWF info (bs ++ [b])) (hmax : ∀ p ∈ b, p.length ≤ maxEntrySize)
    (w : Writer) (file : Bytes) (hI : ChainInv info w file bs) (hidx : w.indexStart = 0) :
    ∃ w' file', w.append file (indexBatch (info.base + bs.flatten.length) b) .none = (none, w', file') := by
  have hb : b ≠ [] := hwf.nonempty b (List.mem_append_right _ List.mem_cons_self)
  obtain ⟨hnext, hroom⟩ := hI.append_room hidx b
  obtain ⟨s, hs, _⟩ := append_ok w file b _ hidx hb hnext (Nat.lt_of_le_of_lt hroom hwf.size_lt) hmax
  exact ⟨_, _, hs⟩

theorem chain_append_noseal (info : SegInfo) (bs : List (List Bytes)) (b : List Bytes)
    (hwf : RunWF info (bs ++ [b])) (hfit : runBytesBound (bs ++ [b]) ≤ info.sizeLimit)
    (w : Writer) (file : Bytes) (hI : ChainInv info w file bs)
    (w' : Writer) (file' : Bytes)
    (happ : w.append file (indexBatch (info.base + bs.flatten.length) b) .none = (none, w', file')) :
    w'.indexStart = 0 := by
  have hb : b ≠ [] := hwf.nonempty b (List.mem_append_right _ List.mem_cons_self)
  have hidx : w.indexStart = 0 := append_none_unsealed w file _ b hb w' file' happ
  obtain ⟨hnext, hroom⟩ := hI.append_room hidx b
  exact append_noseal w file b _ hidx hb hnext (Nat.lt_of_le_of_lt hroom hwf.size_lt)
    (append_indexBatch_le w file _ b w' file' happ) (by rw [hI.inv.info]; omega) w' file' happ

/-- a restart is invisible: `recoverTail` returns the writer the process had (all fields, not only the observable
    ones) -/
theorem recover_inv (info : SegInfo) (hb : info.base < 2^64) (hi : info.id < 2^64) (hc : info.codec < 2^64)
    (bs : List (List Bytes)) (w : Writer) (file : Bytes) (h : ChainInv info w file bs) :
    recoverTail info file = .ok (w, file) := by
  by_cases hne : bs = []
  · subst hne
    rw [h.file_zeros, recoverTail_zeros, h.empty rfl]; rfl
  · obtain ⟨hcb, hci, hpos⟩ := h.done hne
    obtain ⟨n, hn⟩ := h.file_eq hne
    have h1 := h.inv
    have hsplit := List.dropLast_concat_getLast hne
    have hsb : specBatches (w.indexStart > 0) bs
        = bs.dropLast.map (fun b => (⟨b, false⟩ : Spec.Batch)) ++ [⟨bs.getLast hne, decide (w.indexStart > 0)⟩] := by
      rw [specBatches_eq_runBatches]; conv => lhs; rw [← hsplit]
      exact runBatches_concat _ _ _
    have hrec := recover_layout info hb hi hc _ _ n (by rw [← hsb]; exact h.small)
    simp only at hrec
    rw [← hsb, ← chainAcc_eq_summary] at hrec
    rw [hn, hrec]
    -- the recovered writer is `w`, field by field
    have hwo := h1.bytes_length
    have hcrc := h1.crc
    have holen := h.offsets_length
    rw [hcb, List.length_nil, Nat.add_zero] at hwo
    rw [hcb, crc32c_nil] at hcrc
    rw [h1.offsEq, ← cnt_eq_flatten_length] at holen
    have hidx : (if decide (w.indexStart > 0) = true then
          (Spec.layoutAcc info.base info.id info.codec (bs.dropLast.map (fun b => (⟨b, false⟩ : Spec.Batch)))).bytes.length
            + (encEntries (bs.getLast hne)).length + 8 else 0) = w.indexStart := by
      by_cases hs : w.indexStart > 0
      · rw [if_pos (decide_eq_true hs)]
        rcases h.idx with h3 | h3
        · omega
        · rw [h3]; conv => rhs; rw [← hsplit]
          rw [idxPos_concat, List.length_append]; rfl
      · rw [if_neg (by simpa using hs)]; omega
    rw [hidx, commitIdxOf, holen, if_pos hpos, ← hci, hwo, ← h1.offsEq]
    obtain ⟨winfo, wcb, wcrc, wwo, wis, woffs, wci⟩ := w
    simp only at hcb hcrc
    rw [hcb, hcrc, ← h1.info]
    rfl

/-- whatever lies behind the write offset: `file` need only agree up to there with a file satisfying the invariant -/
theorem chain_getLog (info : SegInfo) (hmin : info.min = info.base) (bs : List (List Bytes))
    (w : Writer) (fileC : Bytes) (h : ChainInv info w fileC bs)
    (file : Bytes) (ht : file.take w.writeOffset = fileC.take w.writeOffset)
    (hmax : ∀ b ∈ bs, ∀ p ∈ b, p.length ≤ maxEntrySize)
    (k : Nat) (hk : k < bs.flatten.length) (bufSize : Nat) (hbuf : 8 ≤ bufSize) :
    w.getLog file (info.base + k) bufSize = .ok (bs.flatten[k]'hk) := by
  have hne : bs ≠ [] := by rintro rfl; simp at hk
  obtain ⟨pre, post, hfile, ho, hoff⟩ := h.frame_at ht k hk
  have hp : (bs.flatten[k]'hk).length ≤ maxEntrySize := by
    obtain ⟨b, hb, hpb⟩ := List.mem_flatten.mp (List.getElem_mem hk)
    exact hmax b hb _ hpb
  have hci := (h.done hne).2.1
  rw [cnt_eq_flatten_length] at hci
  have hofs : w.offsetForFrame (info.base + k) = .ok pre.length := by
    rw [Writer.offsetForFrame, h.inv.info, hmin, hci, if_neg (by omega), Nat.add_sub_cancel_left, h.inv.offsEq, ho]
  rw [Writer.getLog, hofs, hfile]
  exact readFrame_entry pre post _ bufSize hbuf hp hoff

theorem chain_getLog_above (info : SegInfo) (bs : List (List Bytes))
    (w : Writer) (fileC : Bytes) (h : ChainInv info w fileC bs) (file : Bytes)
    (idx : Nat) (hidx : info.base + bs.flatten.length ≤ idx) (bufSize : Nat) :
    (0 < idx → w.getLog file idx bufSize = .error .notFound)
    ∧ ∃ e, w.getLog file idx bufSize = .error e := by
  have hfound : idx > w.commitIdx → w.getLog file idx bufSize = .error .notFound := by
    intro hgt
    rw [Writer.getLog, Writer.offsetForFrame, if_pos (Or.inr (Or.inr hgt))]
  by_cases hne : bs = []
  · subst hne
    have hw := h.empty rfl
    subst hw
    by_cases h0 : 0 < idx
    · exact ⟨fun _ => hfound h0, _, hfound h0⟩
    · -- `idx = 0` passes the range check of a segment with base 0; the empty offsets table has no entry for it
      refine ⟨fun h => absurd h h0, ?_⟩
      have hi0 : idx = 0 := Nat.eq_zero_of_not_pos h0
      subst hi0
      have hof : ∃ e, (Writer.create info).offsetForFrame 0 = .error e := by
        rw [Writer.offsetForFrame]
        split
        · exact ⟨_, rfl⟩
        · exact ⟨_, rfl⟩
      obtain ⟨e, he⟩ := hof
      rw [Writer.getLog, he]; exact ⟨_, rfl⟩
  · obtain ⟨_, hci, hpos⟩ := h.done hne
    rw [cnt_eq_flatten_length] at hci hpos
    have := hfound (by omega)
    exact ⟨fun _ => this, _, this⟩

/-- why `chain_getLog_above` says `notFound` only for `0 < idx`: on an EMPTY segment with `BaseIndex = 0` (not a
    Raft index in practice) `commitIdx = 0` passes `OffsetForFrame`'s range check for `idx = 0` and the offsets
    table is indexed out of range (`.other` in the model: a panic in the Go code) -/
theorem getLog_empty_base_zero (info : SegInfo) (h0 : info.base = 0) (hm : info.min = 0) (file : Bytes) (bufSize : Nat) :
    (Writer.create info).getLog file 0 bufSize = .error .other := by
  simp [Writer.getLog, Writer.offsetForFrame, Writer.create, Writer.initEmpty, Writer.fresh, h0, hm]

end RaftWal
