/-
  Proofs/SegmentChainFaultDefs.lean — byte-level crash chains WITH I/O FAULTS: event semantics.
  The three events of `ChainEv` (Proofs/SegmentChain.lean) plus `failed b fault`: an `Append` that fails on the
  injected I/O fault.  The writer is rolled back in memory only; whatever landed stays in the file behind the
  write offset (Model/Segment.lean `Writer.append`, Proofs/SegmentFaults.lean `append_fault_rollback`).
-/
import RaftWal.Proofs.SegmentChain
namespace RaftWal

/-- one step of the life of a tail segment, I/O faults included -/
inductive ChainEvF
  /-- acknowledged append of the (non-empty) batch `b` -/
  | append  (b : List Bytes)
  /-- process restart: `recoverTail` runs on the file as it is -/
  | restart
  /-- append of `b` in flight, power loss with chunk `j` of the written range on disk iff `mask j`, then `recoverTail` -/
  | torn    (b : List Bytes) (mask : Nat → Bool)
  /-- append of `b` that fails on the injected fault (`fault ≠ .none`): the call returns an error, the writer is
      rolled back, the file keeps whatever landed -/
  | failed  (b : List Bytes) (fault : IoFault)

def chainStepF (info : SegInfo) (s : Writer × Bytes) : ChainEvF → Except SegErr (Writer × Bytes)
  | .append b => chainStep info s (.append b)
  | .restart => chainStep info s .restart
  | .torn b mask => chainStep info s (.torn b mask)
  | .failed b fault =>
    if fault = .none then .error .other
    else match s.1.append s.2 (indexBatch (chainNext info s.1) b) fault with
      | (some .io, w', file') => .ok (w', file')
      | (some e, _, _) => .error e
      | (none, _, _) => .error .other

def chainRunF (info : SegInfo) (s : Writer × Bytes) : List ChainEvF → Except SegErr (Writer × Bytes)
  | [] => .ok s
  | e :: evs =>
    match chainStepF info s e with
    | .error err => .error err
    | .ok s' => chainRunF info s' evs

/-- the payloads readable through the writer at the indexes `base ..` (what a client sees) -/
def readBack (info : SegInfo) (s : Writer × Bytes) : List (Except SegErr Bytes) :=
  (List.range s.1.offsets.length).map fun k => s.1.getLog s.2 (info.base + k) 64

end RaftWal
