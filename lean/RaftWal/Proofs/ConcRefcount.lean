/-
  Proofs/ConcRefcount.lean — the two invariants of the read path that need no assumption on file ids: reference
  counts are exact (`CInv`), and no reader's pc shows a panic when readers test for the empty state (`NoPanic`).
-/
import RaftWal.Proofs.ConcBasics
namespace RaftWal.Conc

-- `release` is used through its lemmas only; sealed, the unifier does not unfold it when it meets
-- `{ s.release sid with .. }.readers` and the like
attribute [local irreducible] Sys.release

/-- That whoever holds a reference holds it on an existing object need not be said: the default object has count 0.
    Only a pointer that has been loaded but not yet acquired needs its own bound. -/
structure CInv (s : Sys) : Prop where
  cur_lt : s.cur < s.objs.length
  loaded_lt : ∀ r ∈ s.readers, ∀ x, r.pc = .loaded x → x < s.objs.length
  rc : ∀ k, (s.obj k).refCount = holders s k

theorem CInv.one_le_of_w {s : Sys} (h : CInv s) {k : Nat} (hw : wHolds s.wpc k = 1) : 1 ≤ (s.obj k).refCount := by
  rw [h.rc, holders_eq, hw]; omega

theorem CInv.one_le_of_c {s : Sys} (h : CInv s) {k : Nat} (hc : wHolds s.cpc.asW k = 1) :
    1 ≤ (s.obj k).refCount := by
  rw [h.rc, holders_eq, hc]; omega

theorem init_obj (files wants : List FileId) (muts : List Mutation) (k : Nat) :
    (init files wants muts).obj k = if k = 0 then { files := files } else {} := by
  cases k <;> rfl

theorem init_start (files wants : List FileId) (muts : List Mutation) :
    ∀ r ∈ (init files wants muts).readers, r.pc = .start := by
  intro r hr
  obtain ⟨w, _, rfl⟩ := List.mem_map.1 hr
  rfl

theorem cinv_init (files wants : List FileId) (muts : List Mutation) : CInv (init files wants muts) where
  cur_lt := Nat.zero_lt_one
  loaded_lt r hr x hx := by rw [init_start files wants muts r hr] at hx; cases hx
  rc k := by
    have : rHolders (init files wants muts).readers k = 0 := by
      rw [rHolders, List.length_eq_zero_iff, List.filter_eq_nil_iff]
      intro r hr
      rw [init_start files wants muts r hr]
      exact Bool.false_ne_true
    rw [holders_eq, this, init_obj]
    split <;> rfl

/-- the stepping thread's holdings go from `a` to `b` and the counts move with them -/
theorem CInv.step {s s' : Sys} (h : CInv s) (a b : Nat → Nat) (hlen : s.objs.length ≤ s'.objs.length)
    (hcur : s'.cur < s'.objs.length) (hld : ∀ r ∈ s'.readers, ∀ x, r.pc = .loaded x → x < s.objs.length)
    (hh : ∀ k, holders s' k + a k = holders s k + b k)
    (hrc : ∀ k, a k ≤ (s.obj k).refCount + b k → (s'.obj k).refCount + a k = (s.obj k).refCount + b k) : CInv s' :=
  ⟨hcur, fun r hr x hx => Nat.lt_of_lt_of_le (hld r hr x hx) hlen, fun k =>
    have h1 := hrc k (by rw [h.rc, ← hh]; exact Nat.le_add_left _ _)
    Nat.add_right_cancel (h1.trans (by rw [h.rc]; exact (hh k).symm))⟩

theorem CInv.cur_lt_setObj {s : Sys} (h : CInv s) (i : Nat) (o : Obj) :
    (s.setObj i o).cur < (s.setObj i o).objs.length := by
  rw [setObj_length]; exact h.cur_lt

theorem CInv.cur_lt_release {s : Sys} (h : CInv s) (sid : Nat) :
    (s.release sid).cur < (s.release sid).objs.length := by
  rw [release_cur, release_length]; exact h.cur_lt

theorem cinv_stepWriter {s : Sys} (h : CInv s) : CInv (stepWriter s) := by
  have hl := Nat.le_refl s.objs.length
  refine stepWriter_cases (P := CInv) s h ?_ ?_ ?_ ?_ ?_ ?_
  · exact fun _ => h.step (fun _ => 0) (fun _ => 0) hl h.cur_lt h.loaded_lt (fun _ => rfl) (fun _ _ => rfl)
  · exact fun hw _ => h.step (wHolds .idle) (wHolds .locked) hl h.cur_lt h.loaded_lt (holders_w hw rfl rfl rfl)
      (fun _ _ => rfl)
  · exact fun hw => h.step (wHolds .locked) (wHolds (.held s.cur)) (Nat.le_of_eq (setObj_length ..).symm)
      (h.cur_lt_setObj ..) h.loaded_lt (holders_w hw rfl rfl rfl)
      (fun k _ => incRc_refCount s h.cur_lt k)
  · exact fun sid m rest hw _ => h.step (wHolds (.held sid)) (wHolds (.published sid)) (by simp) (by simp)
      h.loaded_lt (holders_w hw rfl rfl rfl) (fun k _ => congrArg (· + _) (append_proj (·.refCount) rfl (by rfl) k))
  · exact fun sid hw => h.step (wHolds (.published sid)) (wHolds (.finSet sid)) (Nat.le_of_eq (setObj_length ..).symm)
      (h.cur_lt_setObj ..) h.loaded_lt (holders_w hw rfl rfl rfl)
      (fun k _ => congrArg (· + _) (setObj_proj (·.refCount) s sid _ (by rfl) k))
  · exact fun sid hw => h.step (wHolds (.finSet sid)) (wHolds .idle) (Nat.le_of_eq (release_length ..).symm)
      (h.cur_lt_release sid)
      (by rw [show _ = s.readers from release_readers s sid]; exact h.loaded_lt)
      (holders_w hw rfl (release_readers ..) (release_cpc ..)) (release_refCount s sid)

theorem cinv_stepCloser {s : Sys} (h : CInv s) : CInv (stepCloser s) := by
  have hl := Nat.le_refl s.objs.length
  refine stepCloser_cases (P := CInv) s h ?_ ?_ ?_ ?_ ?_ ?_ ?_
  -- idle, flagged and done all have `asW = .idle`: before taking and after releasing the lock Close holds nothing
  · exact fun hc _ => h.step (wHolds .idle) (wHolds .idle) hl h.cur_lt h.loaded_lt
      (holders_c hc rfl rfl rfl rfl) (fun _ _ => rfl)
  · exact fun hc _ => h.step (wHolds .idle) (wHolds .idle) hl h.cur_lt h.loaded_lt
      (holders_c hc rfl rfl rfl rfl) (fun _ _ => rfl)
  · exact fun hc _ => h.step (wHolds .idle) (wHolds .locked) hl h.cur_lt h.loaded_lt
      (holders_c hc rfl rfl rfl rfl) (fun _ _ => rfl)
  · exact fun hc => h.step (wHolds .locked) (wHolds (.held s.cur)) (Nat.le_of_eq (setObj_length ..).symm)
      (h.cur_lt_setObj ..) h.loaded_lt (holders_c hc rfl rfl rfl rfl)
      (fun k _ => incRc_refCount s h.cur_lt k)
  · exact fun sid hc => h.step (wHolds (.held sid)) (wHolds (.published sid)) (by simp) (by simp)
      h.loaded_lt (holders_c hc rfl rfl rfl rfl)
      (fun k _ => congrArg (· + _) (append_proj (·.refCount) rfl (by rfl) k))
  · exact fun sid hc => h.step (wHolds (.published sid)) (wHolds (.finSet sid))
      (Nat.le_of_eq (setObj_length ..).symm) (h.cur_lt_setObj ..) h.loaded_lt
      (holders_c hc rfl rfl rfl rfl)
      (fun k _ => congrArg (· + _) (setObj_proj (·.refCount) s sid _ (by rfl) k))
  · exact fun sid hc => h.step (wHolds (.finSet sid)) (wHolds .idle) (Nat.le_of_eq (release_length ..).symm)
      (h.cur_lt_release sid)
      (by rw [show _ = s.readers from release_readers s sid]; exact h.loaded_lt)
      (holders_c hc rfl rfl (release_readers ..) (release_wpc ..)) (release_refCount s sid)

theorem cinv_stepReader (cfg : Cfg) {s : Sys} (h : CInv s) (i : Nat) : CInv (stepReader cfg s i) := by
  refine stepReader_cases (P := CInv) cfg s i h ?_ ?_ ?_
  · exact fun r pc' hr hm => h.step (rHolds r.pc) (rHolds pc') (by simp) h.cur_lt
      (forall_mem_set h.loaded_lt fun x hx => hm.loaded hx ▸ h.cur_lt) (holders_r hr rfl rfl rfl)
      (fun k _ => congrArg ((s.obj k).refCount + ·) (hm.holds k).symm)
  · exact fun r sid hr hpc =>
      have hlt := h.loaded_lt r (List.mem_of_getElem? hr) sid hpc
      h.step (rHolds (.loaded sid)) (rHolds (.acquired sid)) (Nat.le_of_eq (setObj_length ..).symm)
        (h.cur_lt_setObj ..) (forall_mem_set h.loaded_lt nofun) (hpc ▸ holders_r hr rfl rfl rfl)
        (fun k _ => incRc_refCount s hlt k)
  · exact fun r sid res hr hpc => h.step (rHolds (.finished sid res)) (rHolds (.done res))
      (Nat.le_of_eq (release_length ..).symm) (h.cur_lt_release sid)
      (by rw [show _ = s.readers from release_readers s sid]; exact forall_mem_set h.loaded_lt nofun)
      (hpc ▸ holders_r hr (by rw [release_readers]) (release_wpc ..) (release_cpc ..))
      (release_refCount s sid)

theorem cinv_step (cfg : Cfg) (s : Sys) (t : Tid) (h : CInv s) : CInv (step cfg s t) := by
  cases t with
  | reader i => exact cinv_stepReader cfg h i
  | writer => exact cinv_stepWriter h
  | closer => exact cinv_stepCloser h

def NoPanic (s : Sys) : Prop := ∀ r ∈ s.readers, r.pc ≠ .done .panic ∧ ∀ sid, r.pc ≠ .finished sid .panic

theorem noPanic_set {s s' : Sys} (h : NoPanic s) (i : Nat) (r' : Reader) (hrd : s'.readers = s.readers.set i r')
    (hr' : r'.pc ≠ .done .panic ∧ ∀ sid, r'.pc ≠ .finished sid .panic) : NoPanic s' := by
  unfold NoPanic
  rw [hrd]
  exact forall_mem_set h hr'

theorem noPanic_step {cfg : Cfg} (hcfg : cfg.readersCheckEmpty = true) (s : Sys) (t : Tid) (h : NoPanic s) :
    NoPanic (step cfg s t) := by
  cases t with
  | writer => show NoPanic (stepWriter s); unfold NoPanic; rw [stepWriter_readers]; exact h
  | closer => show NoPanic (stepCloser s); unfold NoPanic; rw [stepCloser_readers]; exact h
  | reader i =>
    refine stepReader_cases (P := NoPanic) cfg s i h ?_ ?_ ?_
    · exact fun r pc' _ hm => noPanic_set h i _ rfl (hm.noPanic hcfg)
    · exact fun r sid _ _ => noPanic_set h i _ rfl ⟨nofun, nofun⟩
    · intro r sid res hr hpc
      refine noPanic_set h i { r with pc := .done res } (by rw [release_readers]) ⟨fun e => ?_, nofun⟩
      injection e with e
      exact (h r (List.mem_of_getElem? hr)).2 sid (e ▸ hpc)

theorem noPanic_init (files wants : List FileId) (muts : List Mutation) : NoPanic (init files wants muts) := by
  intro r hr
  rw [init_start files wants muts r hr]
  exact ⟨nofun, nofun⟩

end RaftWal.Conc
