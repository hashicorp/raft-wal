/-
  Proofs/VerifierReach.lean — lift the one-step verifier invariants to every
  reachable node state (any sequence of middleware operations).
-/
import RaftWal.Proofs.VerifierProps
namespace RaftWal.Verifier
open RaftWal

/-- everything that can happen to a node's middleware -/
inductive NodeOp
  | store (logs : List Log)
  | del (mn mx : Nat)
  | release
  | restart
  deriving Repr

def Node.apply (n : Node) : NodeOp → Node
  | .store logs => (n.storeLogs logs).1
  | .del mn mx => (n.deleteRange mn mx).1
  | .release => n.release.1
  | .restart => n.restart

def Node.run (n : Node) (ops : List NodeOp) : Node := ops.foldl Node.apply n

/-- **C18 report_or_drop_once**: every operation keeps the accounting, whatever else holds of the node (in particular
    with or without the DeleteRange reset) -/
theorem acct_apply (n : Node) (op : NodeOp) (h : Acct n) : Acct (n.apply op) := by
  cases op with
  | store logs =>
    rw [Node.apply]
    rcases storeLogs_cases n logs with ⟨b, hn⟩ | ⟨passed, cs, st, reports, _, _, hn | ⟨_, hn⟩⟩
    · rw [hn]; exact h
    · rw [hn]; exact h
    · rw [hn]
      refine acctK_foldl_trigger reports _ 0 ⟨?_, h.2⟩
      show n.cpWritten + reports.length = n.verified + n.dropped + outstanding n + (0 + reports.length)
      rw [h.1, Nat.zero_add]
  | del mn mx =>
    rw [Node.apply]
    rcases deleteRange_cases n mn mx with hn | ⟨_, hn⟩
    · rw [hn]; exact h
    · rw [hn]; split <;> exact h
  | release => exact acct_release n h
  | restart => exact ⟨rfl, nofun⟩

/-- the invariants every reachable node state satisfies (with the DeleteRange reset in place) -/
structure Reach (n : Node) : Prop where
  sum   : SumInv n
  wf    : StoreWF n
  acct  : Acct n
  reset : n.resetOnDelete = true
  opened : n.store.closed = false

theorem reach_init : Reach { resetOnDelete := true } :=
  ⟨⟨fun _ => rfl, fun h => absurd rfl h⟩, fun _ h => absurd h (Nat.not_lt_zero _), ⟨rfl, nofun⟩, rfl, rfl⟩

/-- the hand-off to the verifier goroutine and the goroutine itself touch only what `Acct` speaks of -/
theorem Reach.of_core {n m : Node} (hc : SameCore n m) (hs : SumInv n ∧ StoreWF n) (hr : n.resetOnDelete = true)
    (ho : n.store.closed = false) (ha : Acct m) : Reach m := by
  refine ⟨?_, ?_, ha, hc.resetOnDelete.trans hr, (congrArg (·.closed) hc.store).trans ho⟩
  · unfold SumInv storeFrom
    rw [hc.store, hc.checksum, hc.sumStartIdx]
    exact hs.1
  · unfold StoreWF
    rw [hc.store]
    exact hs.2

/-- **C16 running_sum_invariant**, StoreLogs step -/
theorem reach_storeLogs (n : Node) (logs : List Log) (h : Reach n) : Reach (n.storeLogs logs).1 := by
  have ha : Acct (n.storeLogs logs).1 := acct_apply n (.store logs) h.acct
  rcases storeLogs_cases n logs with ⟨b, hn⟩ | ⟨passed, cs, st, reports, hne, hupd, hn | ⟨hok, hn⟩⟩
  · rw [hn]; exact h
  · rw [hn]; exact h
  rw [hn] at ha ⊢
  obtain ⟨ls', hout, hlen, _, hsum⟩ := upd_spec hupd
  rw [List.reverse_nil, List.nil_append] at hout
  subst hout
  rcases slog_store_cases n.store passed with ⟨_, hnil⟩ | ⟨F, hF, hpos, hcons, hst⟩
  · rw [hnil hok] at hlen
    exact absurd (List.eq_nil_of_length_eq_zero hlen.symm) hne
  · exact .of_core (foldl_trigger_core reports _)
      (sumInv_append h.sum h.wf hF hcons hst fun hP => hsum F _ hP hcons hpos) h.reset
      ((Spec.SLog.store_closed n.store passed).trans h.opened) ha

/-- **C16 running_sum_invariant**, DeleteRange step (this is where the reset matters) -/
theorem reach_deleteRange (n : Node) (mn mx : Nat) (h : Reach n) : Reach (n.deleteRange mn mx).1 := by
  rcases deleteRange_cases n mn mx with hn | ⟨_, hn⟩
  · rw [hn]; exact h
  rw [hn]
  have hcl := (Spec.SLog.delete_closed n.store mn mx).trans h.opened
  have hS := (sumInv_iff_sumOver n).mp h.sum
  -- the store after the deletion is well-formed and, when the range ends below the running sum, still carries it
  have key : StoreWF { n with store := (n.store.delete mn mx).1 } ∧
      ((n.sumStartIdx ≠ 0 → mx < n.sumStartIdx) →
        SumOver (n.store.delete mn mx).1.first (n.store.delete mn mx).1.entries n.checksum n.sumStartIdx) := by
    unfold StoreWF
    rcases slog_delete_cases n.store mn mx with hd | ⟨k, hk1, _, hk⟩ | ⟨j, hj1, _, hj⟩
    · rw [hd]; exact ⟨h.wf, fun _ => hS⟩
    · rw [hk]
      refine ⟨fun i hi => ?_, fun hlt => sumOver_drop k hS fun h0 => hk1 ▸ hlt h0⟩
      simp only []
      rw [List.getElem_drop, h.wf, Nat.add_assoc]
    · -- a suffix is cut only from `mx ≥ lastIndex` down, and a live sum starts at or below `lastIndex`
      rw [hj]
      refine ⟨fun i hi => ?_, fun hlt => ⟨hS.1, fun h0 =>
        absurd (Nat.lt_of_lt_of_le (hlt h0) (Nat.le_trans (h.sum.2 h0).2.2.1 hj1)) (Nat.lt_irrefl _)⟩⟩
      simp only []
      rw [List.getElem_take, h.wf]
  by_cases hc : n.resetOnDelete = true ∧ n.sumStartIdx ≠ 0 ∧ mx ≥ n.sumStartIdx
  · rw [if_pos hc]; exact ⟨⟨fun _ => rfl, fun h0 => absurd rfl h0⟩, key.1, h.acct, h.reset, hcl⟩
  · rw [if_neg hc]
    exact ⟨(sumInv_iff_sumOver _).mpr (key.2 fun h0 => Nat.lt_of_not_le fun hle => hc ⟨h.reset, h0, hle⟩),
      key.1, h.acct, h.reset, hcl⟩

theorem reach_step (n : Node) (op : NodeOp) (h : Reach n) : Reach (n.apply op) := by
  cases op with
  | store logs => exact reach_storeLogs n logs h
  | del mn mx => exact reach_deleteRange n mn mx h
  | release => exact .of_core (release_core n) ⟨h.sum, h.wf⟩ h.reset h.opened (acct_apply n .release h.acct)
  | restart => exact ⟨⟨fun _ => rfl, fun h0 => absurd rfl h0⟩, h.wf, acct_apply n .restart h.acct, h.reset, h.opened⟩

theorem reach_run (ops : List NodeOp) (n : Node) (h : Reach n) : Reach (n.run ops) := by
  induction ops generalizing n with
  | nil => exact h
  | cons op ops ih => exact ih (n.apply op) (reach_step n op h)

end RaftWal.Verifier
