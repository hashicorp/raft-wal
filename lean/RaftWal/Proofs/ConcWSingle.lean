/-
  Proofs/ConcWSingle.lean — the single-appender discipline (`step1` / `run1`): at most one sealing writer is in
  flight, so none finds `awaitRotate` set when it comes to queue its rotation (`SingleInv`); hence no step of a `run1`
  execution overwrites a pending channel, and `MutexInv`, `WakeInv` hold along it.
-/
import RaftWal.Proofs.ConcWWake
namespace RaftWal.ConcW

/-- an append that fills the tail is in flight: started and not returned -/
def sealingInFlight (s : Sys) : Bool :=
  s.writers.any (fun w => w.seals && w.pc != .start && !(match w.pc with | .done _ => true | _ => false))

/-- single appender (hashicorp/raft's discipline): an append starts only when no other append is in flight; all other
    write calls (DeleteRange, …) and Close may run at any time -/
def step1 (cfg : Cfg) (s : Sys) : Tid → Sys
  | .writer i => match s.writers[i]? with
    | some w => if w.seals && w.pc == .start && sealingInFlight s then s else step cfg s (.writer i)
    | none => s
  | t => step cfg s t

def run1 (cfg : Cfg) (s : Sys) (sched : List Tid) : Sys := sched.foldl (step1 cfg) s

/-- `sealingInFlight s` is `s.writers.any inflight` -/
def inflight (w : Writer) : Bool :=
  w.seals && w.pc != .start && !(match w.pc with | .done _ => true | _ => false)

theorem inflight_iff (w : Writer) :
    inflight w = true ↔ w.seals = true ∧ w.pc ≠ .start ∧ ∀ r, w.pc ≠ .done r := by
  unfold inflight
  cases w.pc <;> simp

theorem inflight_of_pc {w : Writer} (hs : w.seals = true) {pc : WPc} (hpc : w.pc = pc) (h1 : pc ≠ .start)
    (h2 : ∀ r, pc ≠ .done r) : inflight w = true :=
  (inflight_iff w).mpr ⟨hs, hpc ▸ h1, hpc ▸ h2⟩

theorem sealingInFlight_false {s : Sys} (h : sealingInFlight s = false) : s.writers.countP inflight = 0 :=
  List.countP_eq_zero.mpr (List.any_eq_false.mp h)

/-- what a sealing writer in flight has seen of `awaitRotate`: the channel it waits for is still pending or has been
    cleared, and from then on `awaitRotate` is clear -/
def AwaitSeen (s : Sys) : WPc → Prop
  | .waiting ch => s.await = some ch ∨ s.await = none
  | .relock | .check | .use => s.await = none
  | _ => True

structure SingleInv (s : Sys) : Prop where
  one : s.writers.countP inflight ≤ 1
  seen : ∀ w ∈ s.writers, inflight w = true → AwaitSeen s w.pc

theorem singleInv_init (seals : List Bool) : SingleInv (init seals) := by
  have hnone : ∀ w ∈ (init seals).writers, ¬ inflight w = true :=
    fun w hw h => ((inflight_iff w).mp h).2.1 (init_start hw)
  exact ⟨Nat.le_trans (Nat.le_of_eq (List.countP_eq_zero.mpr hnone)) (Nat.zero_le 1),
    fun w hw h => absurd h (hnone w hw)⟩

theorem singleInv_frame {s s' : Sys} (hw : s'.writers = s.writers) (ha : s'.await = s.await ∨ s'.await = none)
    (h3 : SingleInv s) : SingleInv s' := by
  refine ⟨hw ▸ h3.one, fun w hm hin => ?_⟩
  have h := h3.seen w (hw ▸ hm) hin
  cases hpc : w.pc with
  | waiting ch => rw [hpc] at h; exact ha.elim (fun e => h.imp e.trans e.trans) Or.inr
  | relock | check | use => rw [hpc] at h; exact ha.elim (fun e => e.trans h) id
  | _ => trivial

theorem RStep.frame {s s' : Sys} (ht : RStep s s') :
    s'.writers = s.writers ∧ (s'.await = s.await ∨ s'.await = none) := by
  cases ht with
  | rotate => exact ⟨rfl, Or.inr rfl⟩
  | _ => exact ⟨rfl, Or.inl rfl⟩

theorem CStep.frame {s s' : Sys} (ht : CStep s s') :
    s'.writers = s.writers ∧ (s'.await = s.await ∨ s'.await = none) := by
  cases ht with
  | finish => exact ⟨rfl, Or.inr rfl⟩
  | _ => exact ⟨rfl, Or.inl rfl⟩

theorem WStep.src_not_done {s : Sys} {w : Writer} {b : Bool} {pc' : WPc} (ht : WStep s w b pc') (r : WRes) :
    w.pc ≠ .done r := by
  intro e
  cases ht <;> simp_all

/-- `hstart`: if this is the start of a sealing writer, no other is in flight -/
theorem singleInv_wmove {s s' : Sys} {i : Nat} {w : Writer} (hw : s.writers[i]? = some w) (h1 : WakeInv s)
    (h3 : SingleInv s) (hm : WMove s i w s') (hstart : w.seals = true → w.pc = .start → sealingInFlight s = false) : SingleInv s' := by
  cases hm with
  | stay => exact h3
  | @step _ pc' ht =>
    have hcount := countP_set_of_get inflight { w with pc := pc' } hw
    -- a writer enters flight from `start` only
    have hfl : inflight { w with pc := pc' } = true → w.pc ≠ .start → inflight w = true :=
      fun hn hst => (inflight_iff w).mpr ⟨((inflight_iff _).mp hn).1, hst, ht.src_not_done⟩
    refine ⟨?_, forall_mem_set h3.seen fun hn => ?_⟩
    · show (s.writers.set i { w with pc := pc' }).countP inflight ≤ 1
      cases hn : inflight { w with pc := pc' } with
      | false => rw [hn] at hcount; exact Nat.le_trans (Nat.le.intro hcount) h3.one
      | true =>
        by_cases hst : w.pc = .start
        · rw [hn, sealingInFlight_false (hstart ((inflight_iff _).mp hn).1 hst)] at hcount
          exact Nat.le.intro hcount
        · rw [hn, hfl hn hst] at hcount
          exact Nat.add_right_cancel hcount ▸ h3.one
    · have hold := fun hst => h3.seen w (List.mem_of_getElem? hw) (hfl hn hst)
      cases ht with
      | wait ch _ ha => exact Or.inl ha
      | nowait _ ha => exact ha
      | woken ch hp hc =>
        have := hold (hp ▸ nofun)
        rw [hp] at this
        exact this.resolve_left fun h => (h1.await_ok ch h).2 hc
      | relock hp => have := hold (hp ▸ nofun); rw [hp] at this; exact this
      | checkOpen hp => have := hold (hp ▸ nofun); rw [hp] at this; exact this
      | _ => trivial
  | queue hpc hs =>
    -- the sealing writer returns: no sealing writer is in flight any more
    have hcount := countP_set_of_get inflight { w with pc := .done .ok } hw
    have hnew : inflight { w with pc := .done .ok } = false :=
      Bool.eq_false_iff.mpr fun h => ((inflight_iff _).mp h).2.2 _ rfl
    rw [inflight_of_pc hs hpc nofun nofun, hnew] at hcount
    have hz : (s.writers.set i { w with pc := .done .ok }).countP inflight = 0 :=
      Nat.le_zero.mp (Nat.le_of_succ_le_succ (Nat.le_trans (Nat.le_of_eq hcount) h3.one))
    exact ⟨Nat.le_trans (Nat.le_of_eq hz) (Nat.zero_le 1),
      fun w' hw' h => absurd h (List.countP_eq_zero.mp hz w' hw')⟩

theorem run1_cons (cfg : Cfg) (s : Sys) (t : Tid) (ts : List Tid) :
    run1 cfg s (t :: ts) = run1 cfg (step1 cfg s t) ts := rfl

theorem step1_writer {cfg : Cfg} {s : Sys} {i : Nat} {w : Writer} (hw : s.writers[i]? = some w) :
    step1 cfg s (.writer i) =
      if w.seals && w.pc == .start && sealingInFlight s then s else stepWriter cfg s i := by
  show (match s.writers[i]? with | some w => _ | none => _) = _
  rw [hw]
  rfl

def StartsAlone (s : Sys) (t : Tid) : Prop :=
  ∀ i w, t = .writer i → s.writers[i]? = some w → w.seals = true → w.pc = .start → sealingInFlight s = false

theorem step1_cases (s : Sys) (t : Tid) :
    step1 fixed s t = s ∨ (step1 fixed s t = step fixed s t ∧ StartsAlone s t) := by
  cases t with
  | writer i =>
    cases hw : s.writers[i]? with
    | none => exact Or.inl (by show (match s.writers[i]? with | some w => _ | none => _) = _; rw [hw])
    | some w =>
      rw [step1_writer hw]
      by_cases hb : (w.seals && w.pc == .start && sealingInFlight s) = true
      · exact Or.inl (if_pos hb)
      · refine Or.inr ⟨if_neg hb, fun i' w' e hw' hs hpc => ?_⟩
        cases e
        cases hw.symm.trans hw'
        rw [hs, hpc] at hb
        exact Bool.eq_false_iff.mpr hb
  | rotator => exact Or.inr ⟨rfl, fun _ _ e => nomatch e⟩
  | closer => exact Or.inr ⟨rfl, fun _ _ e => nomatch e⟩

theorem singleInv_no_overwrite (s : Sys) (t : Tid) (h3 : SingleInv s) : overwrites s t = false := by
  cases t with
  | writer i =>
    show (match s.writers[i]? with | some w => _ | none => _) = _
    cases hw : s.writers[i]? with
    | none => rfl
    | some w =>
      refine Bool.eq_false_iff.mpr fun hov => ?_
      simp only [Bool.and_eq_true, beq_iff_eq] at hov
      obtain ⟨⟨⟨hpc, hs⟩, _⟩, ha⟩ := hov
      have := h3.seen w (List.mem_of_getElem? hw) (inflight_of_pc hs hpc nofun nofun)
      rw [hpc] at this
      rw [show s.await = none from this] at ha
      cases ha
  | rotator => rfl
  | closer => rfl

theorem singleInv_step (s : Sys) (t : Tid) (h0 : MutexInv s) (h1 : WakeInv s) (h3 : SingleInv s)
    (hstart : StartsAlone s t) : SingleInv (step fixed s t) := by
  cases t with
  | writer i =>
    show SingleInv (stepWriter fixed s i)
    cases hw : s.writers[i]? with
    | none => rw [stepWriter_none _ _ _ hw]; exact h3
    | some w => exact singleInv_wmove hw h1 h3 (h0.writer_cases hw) (hstart i w rfl hw)
  | rotator => exact singleInv_frame (stepRotator_cases s).frame.1 (stepRotator_cases s).frame.2 h3
  | closer => exact singleInv_frame h0.closer_cases.frame.1 h0.closer_cases.frame.2 h3

theorem inv_run1 (sched : List Tid) (s : Sys) (h0 : MutexInv s) (h1 : WakeInv s) (h3 : SingleInv s) :
    MutexInv (run1 fixed s sched) ∧ WakeInv (run1 fixed s sched) ∧ SingleInv (run1 fixed s sched) := by
  refine foldl_induction (P := fun s => MutexInv s ∧ WakeInv s ∧ SingleInv s) (step1 fixed) ?_ sched ⟨h0, h1, h3⟩
  intro s t ⟨h0, h1, h3⟩
  rcases step1_cases s t with e | ⟨e, hstart⟩
  · rw [e]; exact ⟨h0, h1, h3⟩
  · rw [e]
    exact ⟨mutexInv_step s t h0, wakeInv_step s t h0 h1 (singleInv_no_overwrite s t h3),
      singleInv_step s t h0 h1 h3 hstart⟩

/-- the schedule without the blocked steps -/
theorem run1_is_run (sched : List Tid) (s : Sys) : ∃ sched', run1 fixed s sched = run fixed s sched' := by
  induction sched generalizing s with
  | nil => exact ⟨[], rfl⟩
  | cons t ts ih =>
    rw [run1_cons]
    rcases step1_cases s t with e | ⟨e, _⟩
    · rw [e]; exact ih s
    · rw [e]
      obtain ⟨sched', h⟩ := ih (step fixed s t)
      exact ⟨t :: sched', h⟩

end RaftWal.ConcW
