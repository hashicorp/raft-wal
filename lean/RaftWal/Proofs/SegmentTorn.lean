/-
  Proofs/SegmentTorn.lean — crash atomicity of one in-flight append after a run of completed appends on a fresh
  segment (L1): whatever subset of its 8-byte chunks reached the disk, recovery yields the segment without the batch
  or with the whole batch, short of a CRC-32C collision.

  The statement with these two outcomes only (`TornAtomicOriginal`) is FALSE for the first batch of a segment: there
  the CRC of the commit frame covers the file header, but `recoverTail` validates the header separately, so an image
  with a missing header chunk whose batch region happens to have the intended CRC-32C makes recovery refuse with
  `.error .corrupt` (`recover_torn_atomic_original_false`, a 64-byte counterexample).  It holds for `bs ≠ []`, and for
  every `bs` if the header of the image validates or if that refusal is admitted as a third outcome; all are
  `chain_torn_cases` (Proofs/SegmentChainTorn.lean) at the state a run of completed appends leaves.
-/
import RaftWal.Proofs.SegmentChainTorn
namespace RaftWal
open Spec (Acc Batch addEntry addBatch)

/-- **C01/C02 (L1) torn-write atomicity with two outcomes (FALSE for `bs = []`).** After any run of completed
    appends `bs` on a fresh segment (so everything behind the write offset is still zero), let one more batch `b`
    be written but not yet fsynced when power is lost, with an arbitrary subset `mask` of its 8-byte chunks on
    disk. Then recovery succeeds and
      * either restores exactly the state before the append (same offsets, write offset, commit index,
        not sealed by this batch) and leaves the file exactly as it was before the append,
      * or restores exactly the state after the append, and then the image carries the complete batch —
        or its batch region differs from the intended one while having the same CRC-32C (a checksum collision,
        the only residual the format admits). -/
def TornAtomicOriginal : Prop :=
  ∀ (info : SegInfo) (bs : List (List Bytes)) (b : List Bytes)
    (_hwf : RunWF info (bs ++ [b]))
    (w : Writer) (file : Bytes)
    (_hrun : (freshSegment info).1.appendAll (freshSegment info).2 info.base bs = some (w, file))
    (w' : Writer) (file' : Bytes)
    (_happ : w.append file (indexBatch (info.base + bs.flatten.length) b) .none = (none, w', file'))
    (mask : Nat → Bool),
    let img := tearImage file file' w.writeOffset (w'.writeOffset - w.writeOffset) mask
    ∃ wr img', recoverTail info img = .ok (wr, img') ∧
      ((wr.obs = w.obs ∧ img' = file ++ zeros (file'.length - file.length)) ∨
       (wr.obs = w'.obs ∧ img' = img ∧
          (img = file' ∨
           (batchRegion img w.writeOffset w'.writeOffset ≠ batchRegion file' w.writeOffset w'.writeOffset ∧
            crc32c (batchRegion img w.writeOffset w'.writeOffset) =
              crc32c (batchRegion file' w.writeOffset w'.writeOffset)))))

/-! ### counterexample: first batch, one header chunk and the payload chunk missing, same CRC-32C

  Segment `base = 5, id = 7, codec = 1`, 64 bytes preallocated; the first batch is one entry with the 8-byte
  payload `00 00 00 00 4c 55 fe fc`.  The append writes 56 bytes at offset 0: file header (chunks 0–3), entry
  header (4), payload (5), commit frame (6) with CRC-32C `0x75c71ddf` over bytes 0..48.  If all chunks but 1
  (the `BaseIndex` field of the file header) and 5 (the payload) land, bytes 0..48 of the image have the same
  CRC-32C `0x75c71ddf` (the payload was chosen that way), so the commit validates; the header then reads
  `BaseIndex = 0 ≠ 5` and `recoverTail` returns `ErrCorrupt`. -/

def cexInfo : SegInfo :=
  { id := 7, base := 5, min := 5, max := 0, codec := 1, indexStart := 0, sizeLimit := 64, sealed := false }
def cexBatch : List Bytes := [[0, 0, 0, 0, 76, 85, 254, 252]]
def cexMask : Nat → Bool := fun j => j != 1 && j != 5
def cexAfter : Option SegErr × Writer × Bytes :=
  (freshSegment cexInfo).1.append (freshSegment cexInfo).2 (indexBatch (cexInfo.base + ([] : List (List Bytes)).flatten.length) cexBatch) .none
def cexImg : Bytes :=
  tearImage (freshSegment cexInfo).2 cexAfter.2.2 (freshSegment cexInfo).1.writeOffset
    (cexAfter.2.1.writeOffset - (freshSegment cexInfo).1.writeOffset) cexMask

def isCorrupt {α} : Except SegErr α → Bool
  | .error .corrupt => true
  | _ => false

/--
info: (none,
 56,
 [13, 107, 235, 88, 0, 0, 0, 0, 0, 0, 0, 0, 0, 0, 0, 0, 7, 0, 0, 0, 0, 0, 0, 0, 1, 0, 0, 0, 0, 0, 0, 0, 1, 0, 0, 0, 8,
  0, 0, 0, 0, 0, 0, 0, 0, 0, 0, 0, 3, 0, 0, 0, 223, 29, 199, 117, 0, 0, 0, 0, 0, 0, 0, 0],
 Except.error (RaftWal.SegErr.corrupt))
-/
#guard_msgs in
#eval (cexAfter.1, cexAfter.2.1.writeOffset, cexImg, (recoverTail cexInfo cexImg).map (fun p => p.1.obs))

/-- info: (1975983583, 1975983583, false) -/
#guard_msgs in
#eval ((crc32c (batchRegion cexImg 0 56)).toNat, (crc32c (batchRegion cexAfter.2.2 0 56)).toNat,
  decide (batchRegion cexImg 0 56 = batchRegion cexAfter.2.2 0 56))

theorem cex_append_ok : cexAfter.1 = none := by decide +kernel
theorem cex_recover_corrupt : isCorrupt (recoverTail cexInfo cexImg) = true := by decide +kernel

theorem cex_wf : RunWF cexInfo ([] ++ [cexBatch]) where
  nonempty := by intro b hb; simp [cexBatch] at hb; subst hb; simp
  base_lt := by decide
  id_lt := by decide
  codec_lt := by decide
  limit_lt := by decide
  size_lt := by decide

theorem recover_torn_atomic_original_false : ¬ TornAtomicOriginal := by
  intro h
  have happ : (freshSegment cexInfo).1.append (freshSegment cexInfo).2
      (indexBatch (cexInfo.base + ([] : List (List Bytes)).flatten.length) cexBatch) .none
      = (none, cexAfter.2.1, cexAfter.2.2) := by
    have : cexAfter = (cexAfter.1, cexAfter.2.1, cexAfter.2.2) := rfl
    rw [cex_append_ok] at this
    exact this
  obtain ⟨wr, img', hr, _⟩ := h cexInfo [] cexBatch cex_wf _ _ rfl _ _ happ cexMask
  have hc := cex_recover_corrupt
  rw [show cexImg = tearImage (freshSegment cexInfo).2 cexAfter.2.2 (freshSegment cexInfo).1.writeOffset
    (cexAfter.2.1.writeOffset - (freshSegment cexInfo).1.writeOffset) cexMask from rfl, hr] at hc
  cases hc

/-- **C01/C02 (L1) torn-write atomicity, complete case analysis**: `chain_torn_cases` for the state a run of
    completed appends leaves, in terms of `Writer.obs`. -/
theorem recover_torn_cases (info : SegInfo) (bs : List (List Bytes)) (b : List Bytes)
    (hwf : RunWF info (bs ++ [b]))
    (w : Writer) (file : Bytes)
    (hrun : (freshSegment info).1.appendAll (freshSegment info).2 info.base bs = some (w, file))
    (w' : Writer) (file' : Bytes)
    (happ : w.append file (indexBatch (info.base + bs.flatten.length) b) .none = (none, w', file'))
    (mask : Nat → Bool) :
    let img := tearImage file file' w.writeOffset (w'.writeOffset - w.writeOffset) mask
    (∃ wr img', recoverTail info img = .ok (wr, img') ∧
      ((wr.obs = w.obs ∧ img' = file ++ zeros (file'.length - file.length)) ∨
       (wr.obs = w'.obs ∧ img' = img ∧ (img = file' ∨ RegionCollision img file' w.writeOffset w'.writeOffset))))
    ∨ (bs = [] ∧ recoverTail info img = .error .corrupt
        ∧ validateFileHeader (scanHeader img) info.hdr = false
        ∧ RegionCollision img file' w.writeOffset w'.writeOffset) := by
  intro img
  have hCI := chainInv_of_run info bs hwf.init w file hrun
  rcases chain_torn_cases info bs b hwf w file hCI w' file' happ mask with h | ⟨h, hc⟩ | ⟨h0, h1, h2, h3⟩
  · exact Or.inl ⟨w, _, h, Or.inl ⟨rfl, rfl⟩⟩
  · exact Or.inl ⟨w', img, h, Or.inr ⟨rfl, rfl, hc⟩⟩
  · exact Or.inr ⟨h0, h1, h2, h3⟩

/-- **C01/C02 (L1) torn-write atomicity, three outcomes**: `recover_torn_cases` without the header conjunct of the
    third outcome. -/
theorem recover_torn_atomic_corrected (info : SegInfo) (bs : List (List Bytes)) (b : List Bytes)
    (hwf : RunWF info (bs ++ [b]))
    (w : Writer) (file : Bytes)
    (hrun : (freshSegment info).1.appendAll (freshSegment info).2 info.base bs = some (w, file))
    (w' : Writer) (file' : Bytes)
    (happ : w.append file (indexBatch (info.base + bs.flatten.length) b) .none = (none, w', file'))
    (mask : Nat → Bool) :
    let img := tearImage file file' w.writeOffset (w'.writeOffset - w.writeOffset) mask
    (∃ wr img', recoverTail info img = .ok (wr, img') ∧
      ((wr.obs = w.obs ∧ img' = file ++ zeros (file'.length - file.length)) ∨
       (wr.obs = w'.obs ∧ img' = img ∧
          (img = file' ∨
           (batchRegion img w.writeOffset w'.writeOffset ≠ batchRegion file' w.writeOffset w'.writeOffset ∧
            crc32c (batchRegion img w.writeOffset w'.writeOffset) =
              crc32c (batchRegion file' w.writeOffset w'.writeOffset))))))
    ∨ (bs = [] ∧ recoverTail info img = .error .corrupt
        ∧ batchRegion img w.writeOffset w'.writeOffset ≠ batchRegion file' w.writeOffset w'.writeOffset
        ∧ crc32c (batchRegion img w.writeOffset w'.writeOffset) =
              crc32c (batchRegion file' w.writeOffset w'.writeOffset)) := by
  intro img
  rcases recover_torn_cases info bs b hwf w file hrun w' file' happ mask with h | ⟨h1, h2, _, h4, h5⟩
  · exact Or.inl h
  · exact Or.inr ⟨h1, h2, h4, h5⟩

/-- **C01/C02 (L1) torn-write atomicity** with the conclusion of `TornAtomicOriginal` verbatim, for every image
    whose file header validates. -/
theorem recover_torn_atomic_hdr (info : SegInfo) (bs : List (List Bytes)) (b : List Bytes)
    (hwf : RunWF info (bs ++ [b]))
    (w : Writer) (file : Bytes)
    (hrun : (freshSegment info).1.appendAll (freshSegment info).2 info.base bs = some (w, file))
    (w' : Writer) (file' : Bytes)
    (happ : w.append file (indexBatch (info.base + bs.flatten.length) b) .none = (none, w', file'))
    (mask : Nat → Bool)
    (hhdr : validateFileHeader
      (scanHeader (tearImage file file' w.writeOffset (w'.writeOffset - w.writeOffset) mask)) info.hdr = true) :
    let img := tearImage file file' w.writeOffset (w'.writeOffset - w.writeOffset) mask
    ∃ wr img', recoverTail info img = .ok (wr, img') ∧
      ((wr.obs = w.obs ∧ img' = file ++ zeros (file'.length - file.length)) ∨
       (wr.obs = w'.obs ∧ img' = img ∧
          (img = file' ∨
           (batchRegion img w.writeOffset w'.writeOffset ≠ batchRegion file' w.writeOffset w'.writeOffset ∧
            crc32c (batchRegion img w.writeOffset w'.writeOffset) =
              crc32c (batchRegion file' w.writeOffset w'.writeOffset))))) := by
  intro img
  rcases recover_torn_cases info bs b hwf w file hrun w' file' happ mask with h | ⟨_, _, h3, _⟩
  · exact h
  · rw [hhdr] at h3; cases h3

/-- **C01/C02 (L1) torn-write atomicity** with the conclusion of `TornAtomicOriginal` verbatim, for every
    append but the first of the segment (`bs ≠ []`). -/
theorem recover_torn_atomic_partial (info : SegInfo) (bs : List (List Bytes)) (b : List Bytes)
    (hne : bs ≠ [])
    (hwf : RunWF info (bs ++ [b]))
    (w : Writer) (file : Bytes)
    (hrun : (freshSegment info).1.appendAll (freshSegment info).2 info.base bs = some (w, file))
    (w' : Writer) (file' : Bytes)
    (happ : w.append file (indexBatch (info.base + bs.flatten.length) b) .none = (none, w', file'))
    (mask : Nat → Bool) :
    let img := tearImage file file' w.writeOffset (w'.writeOffset - w.writeOffset) mask
    ∃ wr img', recoverTail info img = .ok (wr, img') ∧
      ((wr.obs = w.obs ∧ img' = file ++ zeros (file'.length - file.length)) ∨
       (wr.obs = w'.obs ∧ img' = img ∧
          (img = file' ∨
           (batchRegion img w.writeOffset w'.writeOffset ≠ batchRegion file' w.writeOffset w'.writeOffset ∧
            crc32c (batchRegion img w.writeOffset w'.writeOffset) =
              crc32c (batchRegion file' w.writeOffset w'.writeOffset))))) := by
  intro img
  rcases recover_torn_cases info bs b hwf w file hrun w' file' happ mask with h | ⟨h1, _⟩
  · exact h
  · exact absurd h1 hne

end RaftWal
