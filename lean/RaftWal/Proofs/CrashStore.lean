/-
  Proofs/CrashStore.lean — StoreLogs.  The append phase (write, fsync, drop what the call made an orphan, return,
  rotate if the append filled the tail) is one theorem about a `QO` state (`app_res`); StoreLogs is that phase, run
  on the state itself or on the state in which a fresh tail at the right base has replaced the empty tail.
-/
import RaftWal.Proofs.CrashCall
namespace RaftWal.Crash

/-- the log with the batch -/
def appLog (d : Disk) (P : List Seg) (t : Seg) (f : File) (es : List Entry) : Log :=
  logP d P ++ visU t.min f.base (f.synced ++ es)

theorem appLog_eq {d : Disk} {P : List Seg} {t : Seg} {f : File} (h : QO d P t f) (es : List Entry) :
    appLog d P t f es = absLog d ++ idxFrom (f.base + f.synced.length) es := by
  rw [appLog, h.log_eq, visU_append, visU_all es h.qt.mn, List.append_assoc]

def appState (d : Disk) (tid : Nat) (es : List Entry) (sl : Bool) (ids : List Nat) : Disk :=
  ((d.apply (.write tid es sl)).apply (.fsync tid)).applyAll (ids.map .delete)

/-- the rotation, if the append sealed the tail -/
def appPost (d : Disk) (tid : Nat) (es : List Entry) (sl : Bool) (ids : List Nat) : List Act :=
  if sl then rotateActs (appState d tid es sl ids) else []

theorem appState_md (d : Disk) (tid : Nat) (es : List Entry) (sl : Bool) (ids : List Nat) :
    (appState d tid es sl ids).md = d.md := by
  unfold appState; rw [deletes_md]; rfl

/-- `ids`: the only files besides those of the segments -/
theorem app_res {d : Disk} {P : List Seg} {t : Seg} {f : File} (h : QO d P t f) (es : List Entry) (sl : Bool)
    (hes : es ≠ []) (ids : List Nat) (hid : ∀ j ∈ ids, ∀ s ∈ P ++ [t], s.id ≠ j)
    (hsub : ∀ j ∈ fids d, j ∈ ids ∨ j ∈ segIds (P ++ [t])) :
    (∀ k, Rec (fun l => l = absLog d ∨ l = appLog d P t f es)
      (d.applyAll ((Act.write t.id es sl :: Act.fsync t.id :: ids.map .delete).take k)) P t) ∧
    (∀ k, RecE (fun l => l = appLog d P t f es)
      ((appState d t.id es sl ids).applyAll ((appPost d t.id es sl ids).take k))) ∧
    (∃ P' t' f', QS ((appState d t.id es sl ids).applyAll (appPost d t.id es sl ids)) P' t' f') ∧
    absLog ((appState d t.id es sl ids).applyAll (appPost d t.id es sl ids)) = appLog d P t f es := by
  obtain ⟨h1, h2, _, f2, hf2, _, _, g3, hss, g5, _⟩ :=
    h.write_fsync (A := fun l => l = absLog d ∨ l = appLog d P t f es) es sl
      (fun _ hc => hes (List.append_eq_nil_iff.1 hc).2) (Or.inl rfl) (Or.inr rfl)
  -- before the fsync the batch may be lost, after it it is durable
  have h3 : Rec (fun l => l = appLog d P t f es) (appState d t.id es sl ids) P t :=
    (h2 (A' := fun l => l = appLog d P t f es) rfl).deleteIds ids hid
  have hf3 : (appState d t.id es sl ids).file? t.id = some f2 := by
    rw [appState, deletes_file? _ _ _ (fun hj => hid _ hj t List.mem_concat_self rfl)]
    exact hf2
  have hsub3 : ∀ j ∈ fids (appState d t.id es sl ids), j ∈ segIds (P ++ [t]) := fun j hj => by
    have := deletes_fids _ _ _ hj
    rw [fids_fsync, fids_write] at this
    exact (hsub j this.1).resolve_left this.2
  refine ⟨cuts_cons (Q := (Rec _ · P t)) (h.toRec (Or.inl rfl)) (cuts_cons (Q := (Rec _ · P t)) h1 fun k => ?_), ?_⟩
  · rw [← List.map_take]
    exact (h2 (Or.inr rfl)).deleteIds _ (fun j hj => hid j (List.mem_of_mem_take hj))
  · cases sl with
    | false =>
      obtain ⟨f', hq, ha⟩ := h3.toQS ⟨f2, hf3, g3, hss, g5⟩ hsub3
      simp only [appPost, Bool.false_eq_true, ↓reduceIte, List.take_nil, applyAll_nil]
      exact ⟨fun _ => ⟨P, t, h3⟩, ⟨P, t, f', hq⟩, ha⟩
    | true =>
      -- the append filled the tail: it is sealed on disk, and the rotation follows the acknowledgement
      obtain ⟨h4, h5, hc, hfid5, _⟩ := rotate_create h3 hf3 hss
      rw [appPost, if_pos rfl, rotateActs_eq h3.base hf3]
      obtain ⟨f', hq, ha⟩ := h5.toQS hc fun j hj => by
        rw [hfid5] at hj
        rw [segIds_append, segIds_append]
        rcases List.mem_append.1 hj with hj | hj
        · exact List.mem_append_left _ (segIds_append P [t] ▸ hsub3 j hj)
        · exact List.mem_append_right _ hj
      exact ⟨cuts_cons ⟨P, t, h3⟩ (cuts_cons ⟨_, _, h4⟩ (cuts_nil ⟨_, _, h5⟩)), ⟨_, _, f', hq⟩, ha⟩

theorem specApply_store (l : Log) (first : Nat) (es : List Entry) (sl : Bool) :
    specApply l (.store first es sl) = l ++ idxFrom first es := by
  simp only [specApply, zip_range_idx]

theorem storeProg_shape {d : Disk} {first : Nat} (es : List Entry) (sl : Bool) {a1 : List Act} {ids : List Nat}
    {t1 : Seg} (h1 : resetActs d first = (a1, ids.map .delete)) (h2 : (d.applyAll a1).md.segs.getLast? = some t1) :
    storeProg d first es sl = (a1 ++ [.write t1.id es sl, .fsync t1.id] ++ ids.map .delete) ++
      .ack :: appPost (d.applyAll a1) t1.id es sl ids := by
  have hst : (d.applyAll a1).applyAll (.write t1.id es sl :: .fsync t1.id :: (ids.map .delete ++ [.ack])) =
      appState (d.applyAll a1) t1.id es sl ids := by
    rw [applyAll_cons, applyAll_cons, applyAll_append]; rfl
  unfold storeProg
  rw [h1]
  simp only [h2, hst, appPost, List.append_assoc, List.cons_append, List.nil_append]

theorem resetActs_no {d : Disk} {P : List Seg} {t : Seg} (hs : d.md.segs = P ++ [t]) {first : Nat}
    (h : ¬ ((absLog d).isEmpty ∧ t.base ≠ first)) : resetActs d first = ([], []) := by
  unfold resetActs
  rw [hs, List.getLast?_concat]
  simp only [h, ↓reduceIte]

theorem resetActs_yes {d : Disk} {P : List Seg} {t : Seg} (hs : d.md.segs = P ++ [t]) {first : Nat}
    (h : (absLog d).isEmpty ∧ t.base ≠ first) :
    resetActs d first = (newTailActs d.md P first, [.delete t.id]) := by
  unfold resetActs
  rw [hs, List.getLast?_concat]
  simp only
  rw [if_pos h, List.dropLast_concat]

theorem store_first {d : Disk} {P : List Seg} {t : Seg} {f : File} (h : QO d P t f) {first : Nat} {es : List Entry}
    {sl : Bool} (hok : (Op.store first es sl).ok d) (hno : ¬ ((absLog d).isEmpty ∧ t.base ≠ first)) :
    first = f.base + f.synced.length := by
  by_cases he : absLog d = []
  · have hb : t.base = first := Classical.byContradiction fun hc => hno ⟨by rw [he]; rfl, hc⟩
    rw [(h.empty he).2, h.qt.base, hb]; rfl
  · rw [hok.2.2.resolve_left he]; exact h.next he

/-- StoreLogs after its optional first step `a1` (the replacement of the tail), which leaves the same log and a live
    state `d.applyAll a1` whose only orphans are `ids` -/
theorem store_frame {d : Disk} {first : Nat} {es : List Entry} {sl : Bool} {a1 : List Act} {ids : List Nat}
    {P1 : List Seg} {t1 : Seg} {f1 : File} (hes : es ≠ []) (hr : resetActs d first = (a1, ids.map .delete))
    (hq1 : QO (d.applyAll a1) P1 t1 f1) (hlog1 : absLog (d.applyAll a1) = absLog d)
    (hfirst : first = f1.base + f1.synced.length) (hno : ∀ a ∈ a1, a ≠ .ack)
    (hcuts : ∀ k, RecE (fun l => l = absLog d ∨ l = specApply (absLog d) (.store first es sl)) (d.applyAll (a1.take k)))
    (hid : ∀ j ∈ ids, ∀ s ∈ P1 ++ [t1], s.id ≠ j)
    (hsub : ∀ j ∈ fids (d.applyAll a1), j ∈ ids ∨ j ∈ segIds (P1 ++ [t1])) :
    CallRes d (.store first es sl) (a1 ++ [.write t1.id es sl, .fsync t1.id] ++ ids.map .delete)
      (appPost (d.applyAll a1) t1.id es sl ids) := by
  have hafter : specApply (absLog d) (.store first es sl) = appLog (d.applyAll a1) P1 t1 f1 es := by
    rw [specApply_store, appLog_eq hq1, hlog1, hfirst]
  have hshape := storeProg_shape es sl hr (t1 := t1) (by rw [hq1.base.segs, List.getLast?_concat])
  have hst : d.applyAll (a1 ++ [.write t1.id es sl, .fsync t1.id] ++ ids.map .delete) =
      appState (d.applyAll a1) t1.id es sl ids := by
    rw [List.append_assoc, applyAll_append]; rfl
  have hfin : d.applyAll (prog d (.store first es sl)) =
      (appState (d.applyAll a1) t1.id es sl ids).applyAll (appPost (d.applyAll a1) t1.id es sl ids) := by
    show d.applyAll (storeProg d first es sl) = _
    rw [hshape, applyAll_append, hst]; rfl
  obtain ⟨hpre, hpost, hfinal, hlog⟩ := app_res hq1 es sl hes ids hid hsub
  rw [← hafter, hlog1] at hpre
  rw [← hafter] at hpost hlog
  refine ⟨hshape, fun a ha => ?_, ?_, hst ▸ hpost, hfin ▸ hfinal, hfin ▸ hlog⟩
  · rcases List.mem_append.1 ha with ha | ha
    · rcases List.mem_append.1 ha with ha | ha
      · exact hno a ha
      · rcases List.mem_cons.1 ha with rfl | ha
        · exact Act.noConfusion
        · cases List.mem_singleton.1 ha; exact Act.noConfusion
    · obtain ⟨j, _, rfl⟩ := List.mem_map.1 ha; exact Act.noConfusion
  · rw [List.append_assoc]
    exact cuts_append hcuts fun k => ⟨P1, t1, hpre k⟩

theorem store_noreset {d : Disk} {P : List Seg} {t : Seg} {f : File} (h : QS d P t f) {first : Nat} {es : List Entry}
    {sl : Bool} (hok : (Op.store first es sl).ok d) (hno : ¬ ((absLog d).isEmpty ∧ t.base ≠ first)) :
    CallRes d (.store first es sl) ([] ++ [.write t.id es sl, .fsync t.id] ++ ([] : List Nat).map .delete)
      (appPost d t.id es sl []) :=
  store_frame hok.1 (resetActs_no h.base.segs hno) h.toQO rfl (store_first h.toQO hok hno) (fun _ h => nomatch h)
    (cuts_nil ⟨P, t, h.toRec (Or.inl rfl)⟩) (fun _ h => nomatch h) fun j hj => Or.inr (h.sub j hj)

/-- the log is empty and does not start at the tail's base: a fresh tail at `first` replaces the tail, whose file goes
    once the batch is durable -/
theorem store_reset {d : Disk} {P : List Seg} {t : Seg} {f : File} (h : QS d P t f) {first : Nat} {es : List Entry}
    {sl : Bool} (hok : (Op.store first es sl).ok d) (hyes : (absLog d).isEmpty ∧ t.base ≠ first) :
    CallRes d (.store first es sl)
      (newTailActs d.md [] first ++ [.write d.md.nextID es sl, .fsync d.md.nextID] ++ [t.id].map .delete)
      (appPost (d.applyAll (newTailActs d.md [] first)) d.md.nextID es sl [t.id]) := by
  have hq := h.toQO
  have hb := h.base
  have hempty : absLog d = [] := List.isEmpty_iff.1 hyes.1
  obtain ⟨rfl, _⟩ := hq.empty hempty
  obtain ⟨h1, h2, hc2, hfid2⟩ := hb.newTail_create (A' := fun l => l = [])
    (P' := []) (fun _ h => nomatch h) (fun _ h => nomatch h) List.nodup_nil first hok.2.1 rfl rfl
  obtain ⟨f1, hq1, hlog1⟩ := h2.toQO hc2
  have hto : ∀ l, l = [] → l = absLog d ∨ l = specApply (absLog d) (.store first es sl) := fun l hl =>
    Or.inl (hl.trans hempty.symm)
  refine store_frame (t1 := newSeg d.md.nextID first) hok.1 (resetActs_yes hb.segs hyes) hq1 (hlog1.trans hempty.symm)
    (by rw [(hq1.empty hlog1).2, hq1.qt.base]; rfl) (by simp [newTailActs])
    (cuts_cons ⟨[], t, hq.toRec (Or.inl rfl)⟩ (cuts_cons ⟨[], _, h1.mono hto⟩ (cuts_nil ⟨[], _, h2.mono hto⟩)))
    (fun j hj s hs e => ?_) fun j hj => ?_
  · cases List.mem_singleton.1 hj; cases List.mem_singleton.1 hs
    exact Nat.lt_irrefl _ (e ▸ hb.idlt t (List.mem_singleton.2 rfl))
  · rw [hfid2] at hj
    exact (List.mem_append.1 hj).imp (h.sub j) id

theorem store_res {d : Disk} {P : List Seg} {t : Seg} {f : File} (h : QS d P t f) {first : Nat} {es : List Entry}
    {sl : Bool} (hok : (Op.store first es sl).ok d) : ∃ pre post, CallRes d (.store first es sl) pre post := by
  by_cases hc : (absLog d).isEmpty ∧ t.base ≠ first
  · exact ⟨_, _, store_reset h hok hc⟩
  · exact ⟨_, _, store_noreset h hok hc⟩

end RaftWal.Crash
