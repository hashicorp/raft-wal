/-
  Proofs/CrashRec.lean — the moves that preserve `Rec`: crashes, actions on files, commits of the meta store.
-/
import RaftWal.Proofs.CrashInv
namespace RaftWal.Crash

theorem RTail.afterPower {A : Log → Prop} {LP : Log} {t : Seg} {f f' : File} (h : RTail A LP t f)
    {kp ku : Nat → Bool} (hp : f.afterPower kp ku = some f') : RTail A LP t f' := by
  unfold File.afterPower at hp
  split at hp
  · cases hp
  · cases hp
    cases hk : kp f.id with
    | true => exact h.keep rfl (by simp) rfl (by simp) rfl rfl h.a2
    | false => exact h.drop rfl (by simp) rfl (by simp) rfl (fun _ => rfl) h.a1

theorem RTail.lost {A : Log → Prop} {LP : Log} {t : Seg} {f : File} (h : RTail A LP t f)
    {kp ku : Nat → Bool} (hp : f.afterPower kp ku = none) (hbm : t.base ≤ t.min) : t.min = t.base ∧ A LP := by
  unfold File.afterPower at hp
  split at hp
  · next hc =>
    rcases h.lk with h1 | h1
    · rw [h1] at hc; cases hc
    · have hmn := h.mn
      have ha := h.a1
      rw [h1.1, visU_nil, List.append_nil] at ha
      rw [h1.1, h.base] at hmn
      exact ⟨Nat.le_antisymm hmn hbm, ha⟩
  · cases hp

theorem Rec.crash {A : Log → Prop} {d : Disk} {P : List Seg} {t : Seg} (h : Rec A d P t) (c : CrashKind) :
    Rec A (d.crash c) P t := by
  have hb := h.base
  -- a sealed segment's file is linked and has nothing pending: either kind of crash keeps it
  have ht := sealed_transfer (d' := d.crash c) (fun s _ f hf hsf => by
    cases c with
    | proc => exact keeps_crash_proc d s.id f hf
    | power kp ku => exact keeps_crash_power d hb.nodupF kp ku hf hsf.pend hsf.sp hsf.lk) hb.sealed
  have hsub := fids_crash_sublist d c
  have hb' : Base (d.crash c) P t :=
    ⟨by rw [crash_md]; exact hb.segs, ht.1, hb.chain, hb.nodupS, by rw [crash_md]; exact hb.idlt,
      hb.nodupF.sublist hsub, by rw [crash_md]; exact fun j hj => hb.fidlt j (hsub.subset hj), hb.tsl, hb.tbm, hb.tb1,
      HL_crash d hb.nodupF c⟩
  refine ⟨hb', fun f' hf' => ?_, fun hn => ?_⟩
  · rw [ht.2]
    cases c with
    | proc =>
      rw [crash_proc_file?] at hf'
      obtain ⟨f, h0, rfl⟩ := Option.map_eq_some_iff.1 hf'
      exact (h.tsome f h0).same ⟨rfl, rfl, rfl, rfl, rfl, id⟩
    | power kp ku =>
      rw [crash_power_file? d hb.nodupF] at hf'
      obtain ⟨f, h0, h1⟩ := Option.bind_eq_some_iff.1 hf'
      exact (h.tsome f h0).afterPower h1
  · rw [ht.2]
    cases h0 : d.file? t.id with
    | none => exact h.tnone h0
    | some f =>
      cases c with
      | proc => rw [crash_proc_file?, h0] at hn; cases hn
      | power kp ku =>
        rw [crash_power_file? d hb.nodupF, h0] at hn
        exact (h.tsome f h0).lost hn hb.tbm

theorem Rec.delete {A : Log → Prop} {d : Disk} {P : List Seg} {t : Seg} (h : Rec A d P t) (id : Nat)
    (hid : ∀ s ∈ P ++ [t], s.id ≠ id) : Rec A (d.apply (.delete id)) P t := by
  have hb := h.base.delete id (fun s hs => hid s (by simp [hs]))
  have ht : (d.apply (.delete id)).file? t.id = d.file? t.id := by
    rw [apply_delete_file?]; simp [hid t (by simp)]
  exact ⟨hb.1, fun f hf => by rw [hb.2]; exact h.tsome f (ht ▸ hf), fun hn => by rw [hb.2]; exact h.tnone (ht ▸ hn)⟩

theorem Rec.deletes {A : Log → Prop} {P : List Seg} {t : Seg} (as : List Act) {d : Disk} (h : Rec A d P t)
    (has : ∀ a ∈ as, a = .ack ∨ ∃ id, a = .delete id ∧ ∀ s ∈ P ++ [t], s.id ≠ id) : Rec A (d.applyAll as) P t := by
  induction as generalizing d with
  | nil => exact h
  | cons a as ih =>
    rw [applyAll_cons]
    apply ih
    · rcases has a (by simp) with rfl | ⟨id, rfl, hid⟩
      · exact h
      · exact h.delete id hid
    · intro b hb; exact has b (by simp [hb])

theorem Rec.fsync {A A' : Log → Prop} {d : Disk} {P : List Seg} {t : Seg} (h : Rec A d P t) {f : File}
    (hf : d.file? t.id = some f) (ha : A' (logP d P ++ visU t.min f.base (f.synced ++ f.pending))) :
    Rec A' (d.apply (.fsync t.id)) P t := by
  have hb := h.base.fsync t.id h.base.tid_ne
  obtain ⟨f', hf', h1, h2, h3, h4, h5, h6, _⟩ := fsync_file h.base.hl hf
  exact .ofTail hb.1 hf' (hb.2 ▸ (h.tsome f hf).keep h1 h2 h3 h4 h5 h6 ha)

theorem Rec.write {A A' : Log → Prop} {d : Disk} {P : List Seg} {t : Seg} (h : Rec A d P t) {f : File}
    (hf : d.file? t.id = some f) (hp : f.pending = []) (hss : f.sealedS = false) (hsp : f.sealedP = false)
    (es : List Entry) (sl : Bool) (hsl : sl = true → f.synced ++ es ≠ [])
    (ha1 : A' (logP d P ++ visU t.min f.base f.synced)) (ha2 : A' (logP d P ++ visU t.min f.base (f.synced ++ es))) :
    Rec A' (d.apply (.write t.id es sl)) P t := by
  have hb := h.base.write t.id es sl h.base.tid_ne
  have hf' : (d.apply (.write t.id es sl)).file? t.id = some (f.wr es sl) := by
    rw [apply_write_file?]; simp [hf]
  have hr := h.tsome f hf
  refine .ofTail hb.1 hf' (hb.2 ▸ ⟨hr.base, hr.lk, hr.mn, hr.vis, ?_, ?_, ha1, ?_⟩)
  · intro hc; simp [File.wr, hss] at hc
  · intro hc
    simp only [File.wr, hsp, Bool.false_or] at hc
    simp only [File.wr, hp, List.nil_append]
    exact hsl hc
  · simp only [File.wr, hp, List.nil_append]; exact ha2

theorem Rec.create {A : Log → Prop} {d : Disk} {P : List Seg} {t : Seg} (h : Rec A d P t)
    (hn : d.file? t.id = none) : Rec A (d.apply (.create t.id t.base)) P t := by
  have hb := h.base.create t.id t.base (h.base.idlt t (by simp))
  have hf' : (d.apply (.create t.id t.base)).file? t.id = some (File.fresh t.id t.base) := by
    rw [apply_create_file? d _ _ hn]; simp
  have hr := h.tnone hn
  refine .ofTail hb.1 hf' (hb.2 ▸ .ofClean rfl (Or.inr rfl) rfl rfl rfl ?_ (fun hc => absurd rfl hc) ?_)
  · exact Nat.le_of_eq hr.1
  · rw [show (File.fresh t.id t.base).synced = [] from rfl, visU_nil, List.append_nil]; exact hr.2

/-- until the fsync recovery may show the log with or without the batch, after it only the log with it -/
theorem QO.write_fsync {A : Log → Prop} {d : Disk} {P : List Seg} {t : Seg} {f : File} (h : QO d P t f)
    (es : List Entry) (sl : Bool) (hsl : sl = true → f.synced ++ es ≠ []) (ha0 : A (absLog d))
    (ha1 : A (logP d P ++ visU t.min f.base (f.synced ++ es))) :
    Rec A (d.apply (.write t.id es sl)) P t ∧
    (∀ {A' : Log → Prop}, A' (logP d P ++ visU t.min f.base (f.synced ++ es)) →
      Rec A' ((d.apply (.write t.id es sl)).apply (.fsync t.id)) P t) ∧
    logP ((d.apply (.write t.id es sl)).apply (.fsync t.id)) P = logP d P ∧
    ∃ f2, ((d.apply (.write t.id es sl)).apply (.fsync t.id)).file? t.id = some f2 ∧ f2.base = f.base ∧
      f2.synced = f.synced ++ es ∧ f2.pending = [] ∧ f2.sealedS = sl ∧ f2.sealedP = false ∧ f2.linked = true := by
  have h1 := (h.toRec ha0).write h.tf h.qt.pend h.qt.ss h.qt.sp es sl hsl (h.log_eq ▸ ha0) ha1
  have hf1 : (d.apply (.write t.id es sl)).file? t.id = some (f.wr es sl) := by
    rw [apply_write_file?, if_pos rfl, h.tf]; rfl
  have hs1 : (f.wr es sl).synced ++ (f.wr es sl).pending = f.synced ++ es := by simp [File.wr, h.qt.pend]
  obtain ⟨f2, hf2, g1, g2, g3, g4, g5, g6, _⟩ := fsync_file h1.base.hl hf1
  have hl1 := (h.base.write t.id es sl h.base.tid_ne).2
  refine ⟨h1, fun ha => h1.fsync hf1 ?_, ((h1.base.fsync t.id h.base.tid_ne).2).trans hl1, f2, hf2, g1, g2.trans hs1, g3, ?_,
    g5, g6⟩
  · rw [hl1, hs1]; exact ha
  · rw [g4]; simp [File.wr, h.qt.ss, h.qt.sp]

theorem Rec.create_clean {A : Log → Prop} {d : Disk} {P : List Seg} {t : Seg} (h : Rec A d P t)
    (hn : d.file? t.id = none) :
    Rec A (d.apply (.create t.id t.base)) P t ∧ CleanTail (d.apply (.create t.id t.base)) t ∧
      fids (d.apply (.create t.id t.base)) = fids d ++ [t.id] :=
  ⟨h.create hn, ⟨File.fresh t.id t.base, by rw [apply_create_file? d _ _ hn, if_pos rfl], rfl, rfl, rfl⟩,
    fids_create d _ _ hn⟩

theorem Rec.deleteIds {A : Log → Prop} {P : List Seg} {t : Seg} (ids : List Nat) {d : Disk} (h : Rec A d P t)
    (hid : ∀ j ∈ ids, ∀ s ∈ P ++ [t], s.id ≠ j) : Rec A (d.applyAll (ids.map .delete)) P t := by
  apply h.deletes
  intro a ha
  obtain ⟨j, hj, rfl⟩ := List.mem_map.1 ha
  exact Or.inr ⟨j, rfl, hid j hj⟩

theorem Rec.deleteIds_toQS {A : Log → Prop} {d : Disk} {P : List Seg} {t : Seg} (h : Rec A d P t) (hc : CleanTail d t)
    (ids : List Nat) (hid : ∀ j ∈ ids, ∀ s ∈ P ++ [t], s.id ≠ j)
    (hsub : ∀ j ∈ fids d, j ∈ ids ∨ j ∈ segIds (P ++ [t])) :
    ∃ f, QS (d.applyAll (ids.map .delete)) P t f ∧ A (absLog (d.applyAll (ids.map .delete))) := by
  obtain ⟨g, hg, hrest⟩ := hc
  refine (h.deleteIds ids hid).toQS ⟨g, ?_, hrest⟩ fun j hj => ?_
  · rw [deletes_file? _ _ _ (fun hj => hid _ hj t List.mem_concat_self rfl)]
    exact hg
  · have := deletes_fids _ _ _ hj
    exact (hsub j this.1).resolve_left this.2

theorem Rec.recommit {A' : Log → Prop} {d : Disk} {P P' : List Seg} {t t' : Seg} (hb : Base d P t) (m : Meta)
    (hm : m.segs = P' ++ [t']) (hn : d.md.nextID ≤ m.nextID) (hsealed : ∀ s ∈ P', SealedOK d s)
    (hchain : chainOK (P' ++ [t']) = true) (hnodup : ((P' ++ [t']).map (·.id)).Nodup)
    (hidlt : ∀ s ∈ P' ++ [t'], s.id < m.nextID) (tsl : t'.sealed = false) (tbm : t'.base ≤ t'.min)
    (tb1 : 1 ≤ t'.base) (htail : ∀ f, d.file? t'.id = some f → RTail A' (logP d P') t' f)
    (hnone : d.file? t'.id = none → t'.min = t'.base ∧ A' (logP d P')) : Rec A' (d.apply (.commit m)) P' t' :=
  ⟨⟨hm, hsealed, hchain, hnodup, hidlt, hb.nodupF, fun j hj => Nat.lt_of_lt_of_le (hb.fidlt j hj) hn, tsl, tbm, tb1,
    hb.hl⟩, htail, hnone⟩

/-- the fresh tail's file does not exist yet, so the log is that of `P` -/
theorem Rec.newTail {A : Log → Prop} {d : Disk} (hn : (fids d).Nodup) (n : Nat) (hlt : ∀ j ∈ fids d, j < n)
    (hl : HL d) {P : List Seg} (hs : ∀ s ∈ P, SealedOK d s) (hid : ∀ s ∈ P, s.id < n) (hnd : (segIds P).Nodup)
    (b : Nat) (hb : 1 ≤ b) (hc : chainOK (P ++ [newSeg n b]) = true) (ha : A (logP d P)) (st : List (Nat × Nat)) :
    Rec A (d.apply (.commit { nextID := n + 1, segs := P ++ [newSeg n b], stable := st })) P (newSeg n b) := by
  refine ⟨⟨rfl, hs, hc, ?_, ?_, hn, fun j hj => Nat.lt_succ_of_lt (hlt j hj), rfl, Nat.le_refl _, hb, hl⟩, ?_,
    fun _ => ⟨rfl, ha⟩⟩
  · rw [List.map_append]
    exact nodup_snoc_lt hnd fun j hj => by obtain ⟨s, hs', rfl⟩ := List.mem_map.1 hj; exact hid s hs'
  · exact forall_mem_concat (fun s h1 => Nat.lt_succ_of_lt (hid s h1)) (Nat.lt_succ_self n)
  · intro f hf
    exact absurd (hlt _ (file?_mem_fids hf)) (Nat.lt_irrefl n)

/-- a meta store that names one fresh, empty tail: every file present is an orphan -/
theorem Rec.fresh {A : Log → Prop} {d : Disk} (hn : (fids d).Nodup) (n : Nat) (hlt : ∀ j ∈ fids d, j < n) (hl : HL d)
    (b : Nat) (hb : 1 ≤ b) (ha : A []) (st : List (Nat × Nat)) :
    Rec A (d.apply (.commit { nextID := n + 1, segs := [newSeg n b], stable := st })) [] (newSeg n b) :=
  Rec.newTail hn n hlt hl (P := []) (fun _ h => nomatch h) (fun _ h => nomatch h) List.nodup_nil b hb rfl ha st

theorem Base.newTail_create {A' : Log → Prop} {d : Disk} {P : List Seg} {t : Seg} (h : Base d P t)
    {P' : List Seg} (hs : ∀ s ∈ P', SealedOK d s) (hid : ∀ s ∈ P', s.id < d.md.nextID) (hnd : (segIds P').Nodup)
    (b : Nat) (hb : 1 ≤ b) (hc : chainOK (P' ++ [newSeg d.md.nextID b]) = true) (ha : A' (logP d P')) :
    Rec A' ((d.applyAll ((newTailActs d.md P' b).take 1))) P' (newSeg d.md.nextID b) ∧
    Rec A' (d.applyAll (newTailActs d.md P' b)) P' (newSeg d.md.nextID b) ∧
    CleanTail (d.applyAll (newTailActs d.md P' b)) (newSeg d.md.nextID b) ∧
    fids (d.applyAll (newTailActs d.md P' b)) = fids d ++ [d.md.nextID] := by
  have h1 := Rec.newTail h.nodupF d.md.nextID h.fidlt h.hl hs hid hnd b hb hc ha d.md.stable
  exact ⟨h1, h1.create_clean h.fresh_none⟩

def sealSeg (t : Seg) (mx : Nat) : Seg := { t with sealed := true, max := mx }

def rotCommit (d : Disk) (P : List Seg) (t : Seg) (mx : Nat) : Act :=
  .commit ⟨d.md.nextID + 1, P ++ [sealSeg t mx] ++ [newSeg d.md.nextID (mx + 1)], d.md.stable⟩

theorem Rec.rotate {A A' : Log → Prop} {d : Disk} {P : List Seg} {t : Seg} (h : Rec A d P t) {f : File}
    (hf : d.file? t.id = some f) (hss : f.sealedS = true) (mx : Nat) (hmn : t.min ≤ mx)
    (hmx : mx < f.base + f.synced.length) (st : List (Nat × Nat))
    (ha : A' (logP d P ++ visF f { t with sealed := true, max := mx })) :
    Rec A' (d.apply (.commit ⟨d.md.nextID + 1, P ++ [{ t with sealed := true, max := mx }] ++ [newSeg d.md.nextID (mx + 1)], st⟩))
      (P ++ [{ t with sealed := true, max := mx }]) (newSeg d.md.nextID (mx + 1)) := by
  have hb := h.base
  have hr := h.tsome f hf
  have hs := hr.ss hss
  have hlk : f.linked = true := hr.lk.resolve_right fun h1 => by rw [hss] at h1; cases h1.2
  have hnd : (segIds (P ++ [sealSeg t mx])).Nodup := by
    have := hb.nodupS
    rw [List.map_append] at this
    rw [segIds_append]; exact this
  refine Rec.newTail hb.nodupF d.md.nextID hb.fidlt hb.hl (P := P ++ [sealSeg t mx]) ?_ ?_ hnd (mx + 1)
    (Nat.succ_pos mx) (chainOK_snoc_newSeg (a := sealSeg t mx) (chainOK_retail hb.chain rfl rfl) _) ?_ st
  · exact forall_mem_concat hb.sealed ⟨f, hf, ⟨hr.base, hs.1, hs.2.1, hb.tbm, hb.tb1, rfl, hss, hlk, hmn, hmx⟩⟩
  · exact forall_mem_concat (fun s h1 => hb.idlt s (List.mem_append_left _ h1)) (hb.idlt t List.mem_concat_self)
  · rw [logP_append, logP_single, segEntries_some (s := sealSeg t mx) hf]; exact ha

theorem rotateActs_eq {d : Disk} {P : List Seg} {t : Seg} {f : File} (hb : Base d P t) (hf : d.file? t.id = some f) :
    rotateActs d = [rotCommit d P t f.lastIdx, .create d.md.nextID (f.lastIdx + 1)] := by
  unfold rotateActs rotCommit sealSeg
  rw [hb.segs, List.getLast?_concat]
  simp only [hf, newTailActs]
  rw [setSeg_tail (t' := { t with sealed := true, max := f.lastIdx }) hb.tid_ne rfl]

theorem rotate_create {A : Log → Prop} {d : Disk} {P : List Seg} {t : Seg} (h : Rec A d P t) {f : File}
    (hf : d.file? t.id = some f) (hss : f.sealedS = true) :
    let d3 := d.apply (rotCommit d P t f.lastIdx)
    let d4 := d3.apply (.create d.md.nextID (f.lastIdx + 1))
    Rec A d3 (P ++ [sealSeg t f.lastIdx]) (newSeg d.md.nextID (f.lastIdx + 1)) ∧
    Rec A d4 (P ++ [sealSeg t f.lastIdx]) (newSeg d.md.nextID (f.lastIdx + 1)) ∧
    CleanTail d4 (newSeg d.md.nextID (f.lastIdx + 1)) ∧ fids d4 = fids d ++ [d.md.nextID] ∧ fids d3 = fids d := by
  intro d3 d4
  have hr := h.tsome f hf
  have hs := hr.ss hss
  have hlen : 0 < f.synced.length := List.length_pos_iff.2 hs.2.2
  have hc : f.content = f.synced := by rw [File.content, hs.1, List.append_nil]
  have hli : f.lastIdx + 1 = f.base + f.synced.length := by
    rw [File.lastIdx, hc]; exact Nat.sub_add_cancel (Nat.le_trans hlen (Nat.le_add_left _ _))
  have h3 : Rec A d3 _ _ := h.rotate hf hss f.lastIdx (Nat.lt_succ_iff.1 (show t.min < f.lastIdx + 1 from hli ▸ hr.vis hs.2.2))
    (show f.lastIdx < f.base + f.synced.length from hli ▸ Nat.lt_succ_self _) d.md.stable (by
    rw [visF_sealed_full _ _ _ (by rw [hc, hli]; exact Nat.le_refl _), hc]
    exact hr.a1)
  obtain ⟨h4, hc, hfid⟩ := h3.create_clean h.base.fresh_none
  exact ⟨h3, h4, hc, hfid, rfl⟩

end RaftWal.Crash
