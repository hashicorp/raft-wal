/-
  Proofs/ConcWWake.lean — `WakeInv`: no panic anywhere; every writer blocked on a channel has somebody who will close
  it; a queued trigger always has its `awaitRotate` channel.  Preserved by every step that does not overwrite a pending
  `awaitRotate` channel (`overwrites`).
-/
import RaftWal.Proofs.ConcWMutex
namespace RaftWal.ConcW

/-- the step of `t` is triggerRotateLocked of a sealing writer while `awaitRotate` is still set: the pending channel is
    overwritten (this is what a woken writer, which does not look at `awaitRotate` again, can do) -/
def overwrites (s : Sys) : Tid → Bool
  | .writer i => match s.writers[i]? with
    | some w => w.pc == .use && w.seals && !s.closed && s.await.isSome
    | none => false
  | _ => false

def NoOverwrite (s : Sys) : List Tid → Prop
  | [] => True
  | t :: ts => overwrites s t = false ∧ NoOverwrite (step fixed s t) ts

instance decNoOverwrite : (s : Sys) → (sched : List Tid) → Decidable (NoOverwrite s sched)
  | _, [] => inferInstanceAs (Decidable True)
  | s, t :: ts => @instDecidableAnd _ _ _ (decNoOverwrite (step fixed s t) ts)

/-- somebody has closed `ch` or is going to -/
def WillBeWoken (s : Sys) (ch : Nat) : Prop := ch ∈ s.closedChans ∨ s.await = some ch ∨ s.rpc = .closing (some ch)

def RInv (s : Sys) : RPc → Prop
  | .got | .locked => s.trigQueued = false ∧ (s.closed = false → s.await ≠ none)
  | .closing (some c) => c < s.nextChan ∧ c ∉ s.closedChans ∧ s.await ≠ some c
  | .closing none => False
  | _ => True

/-- holds as long as no sealing writer has overwritten a pending `awaitRotate` channel -/
structure WakeInv (s : Sys) : Prop where
  bad : s.bad = false
  await_ok : ∀ c, s.await = some c → c < s.nextChan ∧ c ∉ s.closedChans
  closed_lt : ∀ c ∈ s.closedChans, c < s.nextChan
  waiting_ok : ∀ w ∈ s.writers, ∀ ch, w.pc = .waiting ch → WillBeWoken s ch
  rot : RInv s s.rpc
  q_await : s.trigQueued = true → s.closed = false → s.await ≠ none
  done_await : s.cpc = .done → s.await = none

theorem wakeInv_init (seals : List Bool) : WakeInv (init seals) :=
  ⟨rfl, nofun, nofun, fun w hw => by rw [init_start hw]; exact nofun, trivial, nofun, fun _ => rfl⟩

/-- `hno`: if the writer queues a rotation it has found `awaitRotate` clear -/
theorem wakeInv_wmove {s s' : Sys} {i : Nat} {w : Writer} (h0 : MutexInv s) (h1 : WakeInv s) (hm : WMove s i w s')
    (hno : w.pc = .use → w.seals = true → s.closed = false → s.await = none) : WakeInv s' := by
  cases hm with
  | stay => exact h1
  | @step _ pc' ht =>
    refine { h1 with waiting_ok := forall_mem_set h1.waiting_ok fun ch e => ?_ }
    have e : _ = WPc.waiting ch := e
    subst e
    cases ht with
    | wait _ _ ha => exact Or.inr (Or.inl ha)
  | queue hpc hs hc =>
    have ha := hno hpc hs hc
    refine { h1 with await_ok := ?_, closed_lt := ?_, waiting_ok := forall_mem_set ?_ nofun, rot := ?_,
                     q_await := nofun, done_await := ?_ }
    · intro c e
      cases e
      exact ⟨Nat.lt_succ_self _, fun hm => Nat.lt_irrefl _ (h1.closed_lt _ hm)⟩
    · exact fun c hm => Nat.lt_succ_of_lt (h1.closed_lt c hm)
    · intro w' hw' ch hpc
      rcases h1.waiting_ok w' hw' ch hpc with h | h | h
      · exact Or.inl h
      · rw [ha] at h; cases h
      · exact Or.inr (Or.inr h)
    · have hr := h1.rot
      show RInv _ s.rpc
      cases hrp : s.rpc with
      | got | locked => rw [hrp] at hr; exact absurd ha (hr.2 hc)
      | closing x =>
        rw [hrp] at hr
        cases x with
        | none => exact hr
        | some c => exact ⟨Nat.lt_succ_of_lt hr.1, hr.2.1, fun e => by cases e; exact Nat.lt_irrefl _ hr.1⟩
      | _ => trivial
    · intro hd
      have := h0.closed_false.mp hc
      rw [show s.cpc = .done from hd] at this
      cases this

theorem wakeInv_rstep {s s' : Sys} (h0 : MutexInv s) (h1 : WakeInv s) (ht : RStep s s') : WakeInv s' := by
  have hrot := h1.rot
  -- as long as the goroutine is not about to close a channel, a waiting writer's channel is closed or is `awaitRotate`
  have waiting : ∀ {s' : Sys}, s'.writers = s.writers → s'.closedChans = s.closedChans → s'.await = s.await →
      (∀ x, s.rpc ≠ .closing x) → ∀ w ∈ s'.writers, ∀ ch, w.pc = .waiting ch → WillBeWoken s' ch := by
    intro s' hw hcc ha hn w hm ch hpc
    rcases h1.waiting_ok w (hw ▸ hm) ch hpc with h | h | h
    · exact Or.inl (hcc ▸ h)
    · exact Or.inr (Or.inl (ha ▸ h))
    · exact absurd h (hn _)
  cases ht with
  | stay => exact h1
  | recv hr hq =>
    exact { h1 with
      waiting_ok := waiting rfl rfl rfl (hr ▸ nofun)
      rot := ⟨rfl, h1.q_await hq⟩
      q_await := nofun }
  | recvClosed hr hq hc =>
    refine { h1 with waiting_ok := waiting rfl rfl rfl (hr ▸ nofun), rot := ⟨hq, fun hcl => ?_⟩ }
    have := h0.closed_false.mp hcl
    rw [h0.trigClosed_iff.mp hc] at this
    cases this
  | lock hr =>
    rw [hr] at hrot
    exact { h1 with waiting_ok := waiting rfl rfl rfl (hr ▸ nofun), rot := hrot }
  | leave hr => exact { h1 with waiting_ok := waiting rfl rfl rfl (hr ▸ nofun), rot := trivial }
  | rotate hr hc =>
    rw [hr] at hrot
    obtain ⟨c, ha⟩ := Option.ne_none_iff_exists'.mp (hrot.2 hc)
    refine { h1 with await_ok := nofun, waiting_ok := ?_, rot := ?_, q_await := ?_, done_await := fun _ => rfl }
    · intro w hw ch hpc
      rcases h1.waiting_ok w hw ch hpc with h | h | h
      · exact Or.inl h
      · exact Or.inr (Or.inr (congrArg RPc.closing h))
      · rw [hr] at h; cases h
    · show RInv _ (.closing s.await)
      rw [ha]
      exact ⟨(h1.await_ok c ha).1, (h1.await_ok c ha).2, nofun⟩
    · intro hq
      rw [hrot.1] at hq
      cases hq
  | wake c hr =>
    rw [hr] at hrot
    refine { h1 with await_ok := ?_, closed_lt := ?_, waiting_ok := ?_, rot := trivial }
    · intro a ha
      refine ⟨(h1.await_ok a ha).1, fun hm => ?_⟩
      rcases List.mem_cons.mp hm with rfl | hm
      · exact hrot.2.2 ha
      · exact (h1.await_ok a ha).2 hm
    · intro a hm
      rcases List.mem_cons.mp hm with rfl | hm
      · exact hrot.1
      · exact h1.closed_lt a hm
    · intro w hw ch hpc
      rcases h1.waiting_ok w hw ch hpc with h | h | h
      · exact Or.inl (List.mem_cons_of_mem _ h)
      · exact Or.inr (Or.inl h)
      · rw [hr] at h
        cases h
        exact Or.inl List.mem_cons_self
  | panic hp =>
    exfalso
    rcases hp with ⟨_, hc, he⟩ | hr | ⟨c, hr, hm⟩
    · have := h0.closed_false.mp hc
      rw [h0.stateEmpty_iff.mp he] at this
      cases this
    · rw [hr] at hrot; exact hrot
    · rw [hr] at hrot; exact hrot.2.1 hm

theorem wakeInv_cstep {s s' : Sys} (h0 : MutexInv s) (h1 : WakeInv s) (ht : CStep s s') : WakeInv s' := by
  have hrot := h1.rot
  cases ht with
  | stay => exact h1
  | flag hcp =>
    refine { h1 with rot := ?_, q_await := nofun, done_await := nofun }
    show RInv _ s.rpc
    cases hr : s.rpc with
    | got | locked => rw [hr] at hrot; exact ⟨hrot.1, nofun⟩
    | closing x => rw [hr] at hrot; cases x <;> exact hrot
    | _ => trivial
  | lock hcp => exact { h1 with done_await := nofun }
  | finish hcp =>
    have hcl : s.closed = true := h0.closed_iff.mpr (hcp ▸ nofun)
    refine { h1 with await_ok := nofun, closed_lt := ?_, waiting_ok := ?_, rot := ?_, q_await := ?_,
                     done_await := fun _ => rfl }
    · intro a hm
      rcases List.mem_append.mp hm with hm | hm
      · exact (h1.await_ok a (Option.mem_toList.mp hm)).1
      · exact h1.closed_lt a hm
    · intro w hw ch hpc
      rcases h1.waiting_ok w hw ch hpc with h | h | h
      · exact Or.inl (List.mem_append_right _ h)
      · exact Or.inl (List.mem_append_left _ (Option.mem_toList.mpr h))
      · exact Or.inr (Or.inr h)
    · show RInv _ s.rpc
      cases hr : s.rpc with
      | got | locked => rw [hr] at hrot; exact ⟨hrot.1, fun h => absurd (hcl ▸ h) nofun⟩
      | closing x =>
        rw [hr] at hrot
        cases x with
        | none => exact hrot
        | some c =>
          refine ⟨hrot.1, fun hm => ?_, nofun⟩
          rcases List.mem_append.mp hm with hm | hm
          · exact hrot.2.2 (Option.mem_toList.mp hm)
          · exact hrot.2.1 hm
      | _ => trivial
    · intro _ h
      rw [show s.closed = true from hcl] at h
      cases h

theorem wakeInv_step (s : Sys) (t : Tid) (h0 : MutexInv s) (h1 : WakeInv s) (hno : overwrites s t = false) :
    WakeInv (step fixed s t) := by
  cases t with
  | writer i =>
    show WakeInv (stepWriter fixed s i)
    cases hw : s.writers[i]? with
    | none => rw [stepWriter_none _ _ _ hw]; exact h1
    | some w =>
      refine wakeInv_wmove h0 h1 (h0.writer_cases hw) ?_
      intro hpc hs hc
      have : (w.pc == .use && w.seals && !s.closed && s.await.isSome) = false := by
        rw [← hno]; unfold overwrites; dsimp only; rw [hw]
      rw [hpc, hs, hc] at this
      exact Option.not_isSome_iff_eq_none.mp (Bool.eq_false_iff.mp this)
  | rotator => exact wakeInv_rstep h0 h1 (stepRotator_cases s)
  | closer => exact wakeInv_cstep h0 h1 h0.closer_cases

theorem inv_run_noOverwrite (sched : List Tid) (s : Sys) (h0 : MutexInv s) (h1 : WakeInv s)
    (hno : NoOverwrite s sched) :
    MutexInv (run fixed s sched) ∧ WakeInv (run fixed s sched) := by
  induction sched generalizing s with
  | nil => exact ⟨h0, h1⟩
  | cons t ts ih => exact ih _ (mutexInv_step s t h0) (wakeInv_step s t h0 h1 hno.1) hno.2

end RaftWal.ConcW
