/-
  Proofs/VerifierProps.lean — theorems about the verifier model (C16, C17, C18).

  `verify` never resets the incoming report's `err` on the clean path, so the verdict theorems need a hypothesis on
  `r.err` (two examples show it); it holds for every report `updateVerifyState` creates (`uvs_report_err`).
-/
import RaftWal.Proofs.VerifierHash
import RaftWal.Proofs.VerifierOps
namespace RaftWal.Verifier
open RaftWal

/-- `herr` is needed in `verify_verdict` and `verify_clean`: an incoming in-flight mark survives although `written = 0`
    and the read-back is clean -/
example :
    let n : Node := {}
    let r : Report := { start := 0, stop := 0, expected := 0, written := 0, err := .checksumInFlight }
    n.store.closed = false ∧ (n.verify r).2.err = .checksumInFlight ∧
      ¬ (r.written ≠ 0 ∧ r.written ≠ r.expected) := by decide

/-- same for the at-rest verdict: it survives a clean read-back -/
example :
    let n : Node := {}
    let r : Report := { start := 0, stop := 0, expected := 0, written := 0, err := .checksumStorage }
    (n.verify r).2.err = .checksumStorage ∧ readRange n r.start (r.stop - r.start) = some [] ∧
      chain 0 [] = r.expected := by decide

/-- **C17 verdict table**: the report carries a checksum mismatch exactly when the node wrote a different
    sum than the leader (in flight), or — the written sum being absent or equal — it holds the whole range and
    reads back a sequence whose chain differs from the leader's sum (at rest).
    `herr`: each conjunct is needed for the iff of the same name (the two examples above). -/
theorem verify_verdict (n : Node) (r : Report) (hopen : n.store.closed = false)
    (herr : r.err ≠ .checksumInFlight ∧ r.err ≠ .checksumStorage) :
    ((n.verify r).2.err = .checksumInFlight ↔ (r.written ≠ 0 ∧ r.written ≠ r.expected)) ∧
    ((n.verify r).2.err = .checksumStorage ↔
        (¬ (r.written ≠ 0 ∧ r.written ≠ r.expected) ∧ n.store.firstIndex ≤ r.start ∧
         ∃ es, readRange n r.start (r.stop - r.start) = some es ∧ chain 0 es ≠ r.expected)) := by
  by_cases h1 : r.written ≠ 0 ∧ r.written ≠ r.expected
  · rw [verify_inflight n r h1]
    exact ⟨⟨fun _ => h1, fun _ => rfl⟩, nofun, fun h => absurd h1 h.1⟩
  by_cases h2 : n.store.firstIndex > r.start
  · rw [verify_range n r h1 hopen h2]
    exact ⟨⟨nofun, fun h => absurd h h1⟩, nofun, fun h => absurd h.2.1 (Nat.not_le.mpr h2)⟩
  rw [verify_read n r h1 hopen (Nat.le_of_not_lt h2)]
  cases readRange n r.start (r.stop - r.start) with
  | none => exact ⟨⟨nofun, fun h => absurd h h1⟩, nofun, fun ⟨_, _, _, he, _⟩ => nomatch he⟩
  | some es =>
    simp only []
    by_cases h3 : chain 0 es ≠ r.expected
    · rw [if_pos h3]
      exact ⟨⟨nofun, fun h => absurd h h1⟩, fun _ => ⟨h1, Nat.not_lt.mp h2, es, rfl, h3⟩, fun _ => rfl⟩
    · rw [if_neg h3]
      exact ⟨⟨fun h => absurd h herr.1, fun h => absurd h h1⟩, fun h => absurd h herr.2,
        fun ⟨_, _, _, he, hne⟩ => absurd (Option.some.inj he ▸ hne) h3⟩

/-- for the reports `updateVerifyState` creates -/
theorem verify_verdict_fresh (n : Node) (r : Report) (hopen : n.store.closed = false) (herr : r.err = .none) :
    ((n.verify r).2.err = .checksumInFlight ↔ (r.written ≠ 0 ∧ r.written ≠ r.expected)) ∧
    ((n.verify r).2.err = .checksumStorage ↔
        (¬ (r.written ≠ 0 ∧ r.written ≠ r.expected) ∧ n.store.firstIndex ≤ r.start ∧
         ∃ es, readRange n r.start (r.stop - r.start) = some es ∧ chain 0 es ≠ r.expected)) :=
  verify_verdict n r hopen (by rw [herr]; exact ⟨nofun, nofun⟩)

/-- the clean path: `verify` fills in the read sum and touches nothing else of the report -/
theorem verify_clean_report (n : Node) (r : Report) (es : List Log) (hopen : n.store.closed = false)
    (hw : r.written = 0 ∨ r.written = r.expected) (hfirst : n.store.firstIndex ≤ r.start)
    (hread : readRange n r.start (r.stop - r.start) = some es) (hexp : r.expected = chain 0 es) :
    (n.verify r).2 = { r with read := r.expected } := by
  rw [verify_read n r (fun h => hw.elim h.1 h.2) hopen hfirst, hread]
  simp only []
  rw [if_neg (not_not_intro hexp.symm), hexp]

/-- why `herr` is exactly what `verify_clean` needs -/
theorem verify_clean_err (n : Node) (r : Report) (es : List Log) (hopen : n.store.closed = false)
    (hw : r.written = 0 ∨ r.written = r.expected) (hfirst : n.store.firstIndex ≤ r.start)
    (hread : readRange n r.start (r.stop - r.start) = some es) (hexp : r.expected = chain 0 es) :
    (n.verify r).2.err = r.err :=
  congrArg (·.err) (verify_clean_report n r es hopen hw hfirst hread hexp)

/-- **C16 no false alarm**: if the node wrote what the leader summed (or has no written sum), holds the range, and
    reads back exactly the entries `es` the leader hashed, the report carries no error at all.
    `herr` is necessary and sufficient (`verify_clean_err`). -/
theorem verify_clean (n : Node) (r : Report) (es : List Log) (hopen : n.store.closed = false)
    (herr : r.err = .none)
    (hw : r.written = 0 ∨ r.written = r.expected) (hfirst : n.store.firstIndex ≤ r.start)
    (hread : readRange n r.start (r.stop - r.start) = some es) (hexp : r.expected = chain 0 es) :
    (n.verify r).2.err = .none ∧ (n.verify r).2.read = r.expected :=
  have h := verify_clean_report n r es hopen hw hfirst hread hexp
  ⟨(congrArg (·.err) h).trans herr, congrArg (·.read) h⟩

/-- **C16**: a node that lacks the beginning of the range reports ErrRangeMismatch, not corruption -/
theorem verify_range_mismatch (n : Node) (r : Report) (hopen : n.store.closed = false)
    (hw : r.written = 0 ∨ r.written = r.expected) (hfirst : n.store.firstIndex > r.start) :
    (n.verify r).2.err = .rangeMismatch := by
  rw [verify_range n r (fun h => hw.elim h.1 h.2) hopen hfirst]

/-- the running-sum invariant over an abstract stored sequence `S` whose first entry has index `F` -/
def SumOver (F : Nat) (S : List Log) (cs : UInt64) (st : Nat) : Prop :=
  (st = 0 → cs = 0) ∧ (st ≠ 0 → F ≤ st ∧ st < F + S.length ∧ cs = chain 0 (S.drop (st - F)))

theorem sumOver_nil {F : Nat} {cs : UInt64} {st : Nat} (F' : Nat) (h : SumOver F [] cs st) : SumOver F' [] cs st :=
  ⟨h.1, fun hne => absurd (h.2 hne).2.1 (Nat.not_lt.mpr (h.2 hne).1)⟩

theorem sumOver_step {F : Nat} {S : List Log} {l l' : Log} {cs cs' : UInt64} {st st' : Nat}
    (hP : SumOver F S cs st) (hidx : l.index = F + S.length) (hpos : 1 ≤ l.index)
    (hstep : (st' = (if st = 0 then l.index else st) ∧ cs' = checksumLog cs l') ∨
             (st' = l.index ∧ cs' = checksumLog 0 l')) :
    SumOver F (S ++ [l']) cs' st' := by
  have hlen : (S ++ [l']).length = S.length + 1 := List.length_append
  have start : st' = l.index → cs' = checksumLog 0 l' → SumOver F (S ++ [l']) cs' st' := by
    intro hst hcs
    rw [hst, hcs]
    refine ⟨fun h => absurd h (Nat.ne_of_gt hpos), fun _ => ?_⟩
    rw [hidx, hlen, Nat.add_sub_cancel_left, List.drop_left]
    exact ⟨Nat.le_add_right _ _, Nat.add_lt_add_left (Nat.lt_succ_self _) F, rfl⟩
  rcases hstep with ⟨hst, hcs⟩ | ⟨hst, hcs⟩
  · by_cases h0 : st = 0
    · exact start (by rw [hst, if_pos h0]) (by rw [hcs, hP.1 h0])
    · rw [if_neg h0] at hst
      obtain ⟨a, b, c⟩ := hP.2 h0
      rw [hst, hcs, c]
      refine ⟨fun h => absurd h h0, fun _ => ⟨a, hlen ▸ Nat.lt_succ_of_lt b, ?_⟩⟩
      rw [List.drop_append_of_le_length (Nat.le_of_lt (Nat.sub_lt_left_of_lt_add a b)), chain_append]
      rfl
  · exact start hst hcs

theorem sumOver_drop {F : Nat} {S : List Log} {cs : UInt64} {st : Nat} (k : Nat)
    (h : SumOver F S cs st) (hk : st ≠ 0 → F + k ≤ st) : SumOver (F + k) (S.drop k) cs st := by
  refine ⟨h.1, fun h0 => ?_⟩
  obtain ⟨a, b, c⟩ := h.2 h0
  have hk' : k ≤ st - F := Nat.le_sub_of_add_le' (hk h0)
  have hkS : k ≤ S.length := Nat.le_of_lt (Nat.lt_of_le_of_lt hk' (Nat.sub_lt_left_of_lt_add a b))
  rw [List.drop_drop, List.length_drop, Nat.sub_add_eq, Nat.add_sub_of_le hk', Nat.add_assoc, Nat.add_sub_of_le hkS]
  exact ⟨hk h0, b, c⟩

open Spec in
theorem consecutiveFrom_index (m : Nat) (ls : List Log) (h : consecutiveFrom m ls = true) :
    ∀ k (hk : k < ls.length), (ls[k]'hk).index = m + k := by
  induction ls generalizing m with
  | nil => exact fun k hk => absurd hk (Nat.not_lt_zero _)
  | cons l ls ih =>
    rw [consecutiveFrom_cons] at h
    intro k hk
    cases k with
    | zero => exact h.1
    | succ k => exact (ih (m + 1) h.2 k (Nat.lt_of_succ_lt_succ hk)).trans (Nat.add_right_comm m 1 k ▸ rfl)

open Spec in
/-- the running sum is carried over whatever consecutive sequence `S` the batch is appended to: the store is not known
    while `upd` runs -/
theorem upd_spec {ls : List Log} {cs : UInt64} {st : Nat} {acc : List Log} {rs : List Report}
    {out : List Log} {cs' : UInt64} {st' : Nat} {reps : List Report}
    (h : Node.storeLogs.upd ls cs st acc rs = some (out, cs', st', reps)) :
    ∃ ls', out = acc.reverse ++ ls' ∧ ls'.length = ls.length ∧
      (∀ k (h1 : k < ls'.length) (h2 : k < ls.length), Transp (ls'[k]'h1) (ls[k]'h2)) ∧
      (∀ F S, SumOver F S cs st → consecutiveFrom (F + S.length) ls' = true → 1 ≤ F + S.length →
        SumOver F (S ++ ls') cs' st') := by
  induction ls generalizing cs st acc rs with
  | nil =>
    rw [Node.storeLogs.upd] at h
    cases h
    exact ⟨[], (List.append_nil _).symm, rfl, fun k h1 => absurd h1 (Nat.not_lt_zero _),
      fun F S hP _ _ => (List.append_nil S).symm ▸ hP⟩
  | cons l ls ih =>
    rw [Node.storeLogs.upd] at h
    cases huvs : updateVerifyState l cs st with
    | none => rw [huvs] at h; cases h
    | some u =>
      obtain ⟨l', cs1, st1, r⟩ := u
      rw [huvs] at h
      obtain ⟨ls'', hout, hlen, htr, hsum⟩ := ih h
      obtain ⟨htr0, hstep⟩ := uvs_spec huvs
      refine ⟨l' :: ls'', ?_, congrArg (· + 1) hlen, ?_, ?_⟩
      · rw [hout, List.reverse_cons, List.append_assoc]; rfl
      · intro k h1 h2
        cases k with
        | zero => exact htr0
        | succ k => exact htr k (Nat.lt_of_succ_lt_succ h1) (Nat.lt_of_succ_lt_succ h2)
      · intro F S hP hcons hpos
        rw [consecutiveFrom_cons, htr0.1] at hcons
        have h1 := sumOver_step hP hcons.1 (hcons.1 ▸ hpos) hstep
        have h2 := hsum F (S ++ [l']) h1 (by rw [List.length_append]; exact hcons.2)
          (by rw [List.length_append, ← Nat.add_assoc]; exact Nat.le_add_right_of_le hpos)
        rw [List.append_assoc] at h2
        exact h2

/-- entries of the node's store with index in `[i, last]` -/
def storeFrom (n : Node) (i : Nat) : List Log := n.store.entries.drop (i - n.store.first)

/-- invariant: while a running sum exists it is the chain over the stored entries from its start index -/
def SumInv (n : Node) : Prop :=
  (n.sumStartIdx = 0 → n.checksum = 0) ∧
  (n.sumStartIdx ≠ 0 →
    (¬ n.store.entries.isEmpty ∧ n.store.first ≤ n.sumStartIdx ∧ n.sumStartIdx ≤ n.store.lastIndex ∧
     n.checksum = chain 0 (storeFrom n n.sumStartIdx)))

/-- every entry of the store has the index its position says -/
def StoreWF (n : Node) : Prop :=
  ∀ k (h : k < n.store.entries.length), (n.store.entries[k]'h).index = n.store.first + k

theorem sumInv_iff_sumOver (n : Node) :
    SumInv n ↔ SumOver n.store.first n.store.entries n.checksum n.sumStartIdx := by
  have key (P : Prop) :
      (¬ n.store.entries.isEmpty = true ∧ n.store.first ≤ n.sumStartIdx ∧ n.sumStartIdx ≤ n.store.lastIndex ∧ P) ↔
      (n.store.first ≤ n.sumStartIdx ∧ n.sumStartIdx < n.store.first + n.store.entries.length ∧ P) := by
    rw [Spec.SLog.lastIndex]
    cases n.store.entries with
    | nil => exact ⟨fun h => absurd rfl h.1, fun h => absurd h.2.1 (Nat.not_lt.mpr h.1)⟩
    | cons e es =>
      exact ⟨fun h => ⟨h.2.1, Nat.lt_succ_of_le h.2.2.1, h.2.2.2⟩, fun h => ⟨nofun, h.1, Nat.le_of_lt_succ h.2.1, h.2.2⟩⟩
  exact and_congr_right fun _ => imp_congr_right fun _ => key _

open Spec in
/-- `F` is the new `first`: the old one, or free when the store was empty -/
theorem sumInv_append {n m : Node} {F : Nat} {ls : List Log} (h : SumInv n) (hwf : StoreWF n)
    (hF : n.store.entries = [] ∨ F = n.store.first)
    (hcons : consecutiveFrom (F + n.store.entries.length) ls = true)
    (hm : m.store = { n.store with first := F, entries := n.store.entries ++ ls })
    (hsum : SumOver F n.store.entries n.checksum n.sumStartIdx →
      SumOver F (n.store.entries ++ ls) m.checksum m.sumStartIdx) :
    SumInv m ∧ StoreWF m := by
  rw [sumInv_iff_sumOver] at h ⊢
  unfold StoreWF at *
  rw [hm]
  refine ⟨hsum ?_, fun k hk => ?_⟩
  · rcases hF with he | rfl
    · rw [he] at h ⊢; exact sumOver_nil F h
    · exact h
  · by_cases hk' : k < n.store.entries.length
    · rw [List.getElem_append_left hk', hwf k hk']
      rcases hF with he | rfl
      · rw [he] at hk'; exact absurd hk' (Nat.not_lt_zero _)
      · rfl
    · rw [List.getElem_append_right (Nat.le_of_not_lt hk'), consecutiveFrom_index _ _ hcons, Nat.add_assoc,
        Nat.add_sub_of_le (Nat.le_of_not_lt hk')]

/-- the middleware hands the underlying store the same entries, except that a leader's checkpoint
    (empty Extensions) gains the 24-byte metadata -/
theorem storeLogs_transparent (n : Node) (logs : List Log) :
    let (_, passed, _) := n.storeLogs logs
    passed.length ≤ logs.length ∧
    ∀ k (h1 : k < passed.length) (h2 : k < logs.length),
      let a := passed[k]'h1
      let b := logs[k]'h2
      a.index = b.index ∧ a.term = b.term ∧ a.typ = b.typ ∧ a.data = b.data ∧ a.time = b.time ∧
      (a.ext = b.ext ∨ (isCheckpoint b = .yes ∧ b.ext = [] ∧ a.ext.length = 24)) := by
  show (n.storeLogs logs).2.1.length ≤ logs.length ∧
    ∀ k (h1 : k < (n.storeLogs logs).2.1.length) (h2 : k < logs.length), Transp ((n.storeLogs logs).2.1[k]'h1) (logs[k]'h2)
  rcases storeLogs_cases n logs with ⟨b, h⟩ | ⟨passed, cs, st, reports, _, hupd, h⟩
  · rw [h]; exact ⟨Nat.zero_le _, fun k h1 => absurd h1 (Nat.not_lt_zero _)⟩
  · have hp : (n.storeLogs logs).2.1 = passed := by rcases h with h | ⟨_, h⟩ <;> rw [h]
    obtain ⟨ls', hout, hlen, htr, _⟩ := upd_spec hupd
    rw [List.reverse_nil, List.nil_append] at hout
    rw [hp, hout]
    exact ⟨Nat.le_of_eq hlen, htr⟩

/-- outstanding = sitting in the 1-slot channel or being delivered -/
def outstanding (n : Node) : Nat := (if n.queued.isSome then 1 else 0) + (if n.busy.isSome then 1 else 0)

/-- **C18 report_or_drop_once** accounting invariant -/
def Acct (n : Node) : Prop := n.cpWritten = n.verified + n.dropped + outstanding n ∧ (n.queued.isSome → n.busy.isSome)

/-- `Acct` with `k` checkpoints written but not yet handed to `trigger` -/
def AcctK (n : Node) (k : Nat) : Prop :=
  n.cpWritten = n.verified + n.dropped + outstanding n + k ∧ (n.queued.isSome → n.busy.isSome)

theorem queued_none_of_idle {n : Node} (h : n.queued.isSome → n.busy.isSome) (hb : n.busy = none) : n.queued = none :=
  Option.not_isSome_iff_eq_none.mp fun hq => by rw [hb] at h; exact absurd (h hq) nofun

/-- in each of the three cases the two sides of the count differ only in where a `1` stands -/
theorem acctK_trigger (n : Node) (r : Report) (k : Nat) (h : AcctK n (k + 1)) : AcctK (n.trigger r) k := by
  obtain ⟨h1, h2⟩ := h
  unfold AcctK outstanding at *
  rcases trigger_cases n r with ⟨hb, ht⟩ | ⟨b, hb, hq, ht⟩ | ⟨b, q, hb, hq, ht⟩
  · obtain ⟨w, f, b, hk⟩ := take_eq n r
    have hq := queued_none_of_idle h2 hb
    rw [hb, hq] at h1
    rw [ht, hk, hq]
    exact ⟨h1.trans (Nat.add_right_comm _ k 1), fun _ => rfl⟩
  · rw [hb, hq] at h1
    rw [ht, hb]
    exact ⟨h1.trans (Nat.add_right_comm _ k 1), fun _ => rfl⟩
  · rw [hb, hq] at h1
    rw [ht, hb, hq]
    exact ⟨h1.trans (Nat.add_right_comm _ k 1), fun _ => rfl⟩

theorem acctK_foldl_trigger (rs : List Report) (n : Node) (k : Nat) (h : AcctK n (k + rs.length)) :
    AcctK (rs.foldl Node.trigger n) k := by
  induction rs generalizing n k with
  | nil => exact h
  | cons r rs ih => exact ih _ k (acctK_trigger n r _ (Nat.add_right_comm k rs.length 1 ▸ h))

theorem acct_release (n : Node) (h : Acct n) : Acct n.release.1 := by
  obtain ⟨h1, h2⟩ := h
  unfold Acct outstanding at *
  rcases release_cases n with ⟨_, hr⟩ | ⟨r, hb, hq, hr⟩ | ⟨r, q, hb, hq, hr⟩
  · rw [hr]; exact ⟨h1, h2⟩
  · rw [hr]
    rw [hb, hq] at h1
    rw [hq]
    exact ⟨h1.trans (Nat.add_right_comm _ _ 1), nofun⟩
  · obtain ⟨w, f, b, hk⟩ := take_eq { n with busy := none, verified := n.verified + 1, queued := none } q
    rw [hr, hk]
    rw [hb, hq] at h1
    exact ⟨h1.trans (congrArg (· + 1) (Nat.add_right_comm _ _ 1)), nofun⟩

/-- at quiescence every checkpoint is exactly one delivered report or one counted drop -/
theorem quiescent_accounting (n : Node) (h : Acct n) (hq : n.busy = none) : n.cpWritten = n.verified + n.dropped := by
  have h1 := h.1
  rw [outstanding, hq, queued_none_of_idle h.2 hq] at h1
  exact h1

end RaftWal.Verifier
