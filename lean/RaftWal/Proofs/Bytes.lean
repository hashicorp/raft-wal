/-
  Proofs/Bytes.lean — lemmas about the byte-level primitives.
-/
import RaftWal.Model.Bytes
namespace RaftWal

@[simp] theorem putLE_length (n v : Nat) : (putLE n v).length = n := by
  induction n generalizing v with
  | zero => rfl
  | succ n ih => simp [putLE, ih]

@[simp] theorem putBE_length (n v : Nat) : (putBE n v).length = n := by simp [putBE]

@[simp] theorem zeros_length (n : Nat) : (zeros n).length = n := by simp [zeros]

theorem toUInt8_toNat_of_lt {v : Nat} (h : v < 256) : v.toUInt8.toNat = v := by
  simp [Nat.toUInt8]; omega

/-- truncating semantics: what `PutUintNN(uintNN(v))` followed by `UintNN` yields -/
theorem getLE_putLE_mod (n v : Nat) : getLE (putLE n v) = v % 256 ^ n := by
  induction n generalizing v with
  | zero => simp [putLE, getLE, Nat.mod_one]
  | succ n ih =>
    simp only [putLE, getLE]
    rw [ih, toUInt8_toNat_of_lt (Nat.mod_lt _ (by omega)), Nat.pow_succ, Nat.mul_comm (256^n) 256,
      Nat.mod_mul]

theorem getLE_putLE (n v : Nat) (h : v < 256 ^ n) : getLE (putLE n v) = v := by
  rw [getLE_putLE_mod, Nat.mod_eq_of_lt h]

theorem getLE_lt (bs : Bytes) : getLE bs < 256 ^ bs.length := by
  induction bs with
  | nil => simp [getLE]
  | cons b bs ih =>
    simp only [getLE, List.length_cons, Nat.pow_succ]
    have := b.toNat_lt
    omega

theorem putLE_getLE (bs : Bytes) : putLE bs.length (getLE bs) = bs := by
  induction bs with
  | nil => rfl
  | cons b bs ih =>
    rw [List.length_cons, getLE, putLE, Nat.add_mul_mod_self_left, Nat.mod_eq_of_lt b.toNat_lt,
      Nat.add_mul_div_left _ _ (by decide), Nat.div_eq_of_lt b.toNat_lt, Nat.zero_add, ih]
    exact congrArg (· :: bs) UInt8.ofNat_toNat

theorem putLE_injective (n a b : Nat) (ha : a < 256 ^ n) (hb : b < 256 ^ n) (h : putLE n a = putLE n b) : a = b := by
  rw [← getLE_putLE n a ha, ← getLE_putLE n b hb, h]

/-! uvarint round trip (Go's PutUvarint / Uvarint including the 10-byte overflow rule) -/

theorem putUvarint_lt {v : Nat} (h : v < 128) : putUvarint v = [v.toUInt8] := by
  rw [putUvarint, dif_pos h]

theorem putUvarint_ge {v : Nat} (h : ¬ v < 128) :
    putUvarint v = (v % 128 + 128).toUInt8 :: putUvarint (v / 128) := by
  rw [putUvarint, dif_neg h]

theorem uvarintAux_last (i s x : Nat) (b : UInt8) (rest : Bytes) (hi : i < 10) (hb : b.toNat < 128)
    (h9 : i = 9 → b.toNat ≤ 1) : uvarintAux i s x (b :: rest) = .ok (x + b.toNat * 2 ^ s) rest := by
  have h1 : ¬ (i = 9 ∧ b > 1) := fun h => Nat.not_lt.mpr (h9 h.1) (UInt8.lt_iff_toNat_lt.mp h.2)
  rw [uvarintAux, if_neg (Nat.ne_of_lt hi), if_pos (UInt8.lt_iff_toNat_lt.mpr hb), if_neg h1]

theorem uvarintAux_more (i s x : Nat) (b : UInt8) (rest : Bytes) (hi : i < 10) (hb : 128 ≤ b.toNat) :
    uvarintAux i s x (b :: rest) = uvarintAux (i + 1) (s + 7) (x + b.toNat % 128 * 2 ^ s) rest := by
  rw [uvarintAux, if_neg (Nat.ne_of_lt hi), if_neg (fun h => Nat.not_lt.mpr hb (UInt8.lt_iff_toNat_lt.mp h))]

/-- the tenth byte (`i = 9`, shift 63) can only carry one more bit -/
theorem uvarint_tenth {v i s : Nat} (hs : s = 7 * i) (hv : v * 2 ^ s < 2 ^ 64) (h9 : i = 9) : v ≤ 1 := by
  subst hs h9; omega

theorem uvarintAux_put (v i s x : Nat) (rest : Bytes) (hs : s = 7 * i) (hi : i ≤ 9) (hv : v * 2 ^ s < 2 ^ 64) :
    uvarintAux i s x (putUvarint v ++ rest) = .ok (x + v * 2 ^ s) rest := by
  induction v using Nat.strongRecOn generalizing i s x with
  | _ v ih =>
    have hi10 : i < 10 := Nat.lt_succ_of_le hi
    by_cases h : v < 128
    · have hb : v.toUInt8.toNat = v := toUInt8_toNat_of_lt (Nat.lt_trans h (by decide))
      rw [putUvarint_lt h, List.singleton_append, uvarintAux_last i s x _ rest hi10 (hb.symm ▸ h)
        (hb.symm ▸ uvarint_tenth hs hv), hb]
    · have hi8 : i + 1 ≤ 9 :=
        Nat.lt_of_le_of_ne hi (fun h9 => h (Nat.lt_of_le_of_lt (uvarint_tenth hs hv h9) (by decide)))
      have hb : (v % 128 + 128).toUInt8.toNat = v % 128 + 128 :=
        toUInt8_toNat_of_lt (Nat.add_lt_add_right (Nat.mod_lt v (by decide)) 128)
      have hp : 2 ^ (s + 7) = 128 * 2 ^ s := by rw [Nat.pow_add, Nat.mul_comm]
      have hv' : v / 128 * 2 ^ (s + 7) < 2 ^ 64 := by
        rw [hp, ← Nat.mul_assoc]
        exact Nat.lt_of_le_of_lt (Nat.mul_le_mul_right _ (Nat.div_mul_le_self v 128)) hv
      have hlt : v / 128 < v := Nat.div_lt_self (Nat.lt_of_lt_of_le (by decide) (Nat.le_of_not_lt h)) (by decide)
      -- the value: `x + v % 128 * 2 ^ s + v / 128 * (128 * 2 ^ s) = x + v * 2 ^ s`
      rw [putUvarint_ge h, List.cons_append,
        uvarintAux_more i s x _ _ hi10 (Nat.le_trans (Nat.le_add_left 128 _) (Nat.le_of_eq hb.symm)), hb,
        ih (v / 128) hlt (i + 1) (s + 7) _ (by rw [hs, Nat.mul_succ]) hi8 hv', hp,
        Nat.add_mod_right, Nat.mod_mod, Nat.add_assoc, ← Nat.mul_assoc, ← Nat.add_mul, Nat.mod_add_div']

theorem uvarint_put (v : Nat) (hv : v < 2^64) (rest : Bytes) :
    uvarint (putUvarint v ++ rest) = .ok v rest := by
  have := uvarintAux_put v 0 0 0 rest rfl (Nat.zero_le 9) (by simpa using hv)
  simpa [uvarint] using this

theorem crcUpdate_append (c : UInt32) (a b : Bytes) : crcUpdate (crcUpdate c a) b = crcUpdate c (a ++ b) := by
  simp [crcUpdate, List.foldl_append]

theorem crcUpdate_nil (c : UInt32) : crcUpdate c [] = c := by
  simp [crcUpdate]

theorem crc32c_nil : crc32c [] = 0 := by rw [crc32c, crcUpdate_nil]

end RaftWal
