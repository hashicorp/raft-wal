/-
  Proofs/L1L2Link.lean — the mechanised link between the byte-level segment model (L1: Model/Segment.lean,
  Proofs/SegmentChain.lean) and the durability-protocol model (L2: Model/Crash.lean, Proofs/Crash*.lean).

  Model/Crash.lean abstracts a segment file to (fsynced entries, pending batch, sealed flags) and lets a power loss
  keep the pending batch in full or drop it in full (`File.afterPower`); its header refers to the byte-level theorem
  C02 for the claim that a torn batch is recovered as absent or whole.  This file replaces the reference by theorems.

  The L2 counterpart of an L1 chain runs on the disk that holds the one tail file `info.id`, with the REAL L2 functions
  only (`Disk.apply`, `Disk.crash`, `openResult`): an acknowledged append is write + fsync, a restart is a process
  crash + Open, a torn append is write + power loss (`keepPending id = keep`) + Open.  Whether an append seals is L1's
  decision (`l1Seals`); `tag : Bytes → Entry` is arbitrary.

  The refinement (`l1_refines_l2_file`) and its converse (`l2_outcomes_realised`) come from one simulation, `link_sim`,
  parametrised by what a torn step may do (`TornHyp`).
-/
import RaftWal.Proofs.SegmentChain
import RaftWal.Model.Crash
namespace RaftWal
open Crash
open Spec (Acc Batch addEntry addBatch)

/-- the directory right after `createNextSegment` committed and created the tail `id` (base `base`): the meta store
    lists it as the unsealed tail, the file exists (real `.create`: empty, directory entry not yet durable) -/
def l2Fresh (id base : Nat) : Disk :=
  Disk.apply { md := { nextID := id + 1, segs := [newSeg id base], stable := [] }, files := [] } (.create id base)

/-- acknowledged append: `write` then `fsync` (what `storeProg` issues for the tail) -/
def dAppend (id : Nat) (d : Disk) (es : List Entry) (sealing : Bool) : Disk :=
  (d.apply (.write id es sealing)).apply (.fsync id)

/-- Open: the real `openResult` (the disk is left as it is if Open refuses) -/
def dOpen (d : Disk) : Disk := (openResult d).getD d

def dRestart (d : Disk) : Disk := dOpen (d.crash .proc)

/-- torn append: `write`, power loss (`keepPending id = keep`; directory entries survive), then Open -/
def dTorn (id : Nat) (d : Disk) (es : List Entry) (sealing keep : Bool) : Disk :=
  dOpen ((d.apply (.write id es sealing)).crash (.power (fun i => decide (i = id) && keep) (fun _ => true)))

/-- L1's sealing decision for the append of `b` in state `s` (an input of the L2 call): that of the writer the call
    returns, so `false` when the append is refused -/
def l1Seals (info : SegInfo) (s : Writer × Bytes) (b : List Bytes) : Bool :=
  decide (0 < (s.1.append s.2 (indexBatch (chainNext info s.1) b) .none).2.1.indexStart)

/-- the L2 run that corresponds to the L1 chain `evs` from L1 state `s` / L2 disk `d`; `ks`: for every `torn`
    event, in order, whether the batch survived the power loss -/
def l2Run (info : SegInfo) (tag : Bytes → Entry) : (Writer × Bytes) → Disk → List ChainEv → List Bool → Disk
  | _, d, [], _ => d
  | s, d, e :: evs, ks =>
    let s' := match chainStep info s e with | .ok s' => s' | .error _ => s
    match e with
    | .append b => l2Run info tag s' (dAppend info.id d (b.map tag) (l1Seals info s b)) evs ks
    | .restart => l2Run info tag s' (dRestart d) evs ks
    | .torn b _ => l2Run info tag s' (dTorn info.id d (b.map tag) (l1Seals info s b) (ks.headD false)) evs ks.tail

def l2Disk (info : SegInfo) (tag : Bytes → Entry) (evs : List ChainEv) (keep : List Bool) : Disk :=
  l2Run info tag (freshSegment info) (l2Fresh info.id info.base) evs keep

/-- the `Crash.File` (not events) the L2 run reaches -/
def l2Events (info : SegInfo) (tag : Bytes → Entry) (evs : List ChainEv) (keep : List Bool) : File :=
  ((l2Disk info tag evs keep).file? info.id).getD default

def tornCount : List ChainEv → Nat
  | [] => 0
  | .torn _ _ :: evs => tornCount evs + 1
  | .append _ :: evs => tornCount evs
  | .restart :: evs => tornCount evs

/-- the batches the file holds when the torn events survive according to `ks` -/
def keptBatches : List ChainEv → List Bool → List (List Bytes)
  | [], _ => []
  | .append b :: evs, ks => b :: keptBatches evs ks
  | .restart :: evs, ks => keptBatches evs ks
  | .torn b _ :: evs, ks => if ks.headD false then b :: keptBatches evs ks.tail else keptBatches evs ks.tail

theorem chainSpec_kept (evs : List ChainEv) (ks : List Bool) : chainSpec evs (keptBatches evs ks) := by
  induction evs generalizing ks with
  | nil => rfl
  | cons e evs ih =>
    cases e with
    | append b => exact ⟨_, rfl, ih ks⟩
    | restart => exact ih ks
    | torn b m =>
      simp only [keptBatches]
      split
      · exact Or.inr ⟨_, rfl, ih _⟩
      · exact Or.inl (ih _)

/-! ## file-level closed forms of the L2 steps on a disk whose only file is `f` -/

def fWrite (f : File) (es : List Entry) (sealing : Bool) : File :=
  { f with pending := f.pending ++ es, sealedP := f.sealedP || sealing }

def fFsync (f : File) : File :=
  { f with synced := f.synced ++ f.pending, pending := [], sealedS := f.sealedS || f.sealedP, sealedP := false,
           hsynced := true, linked := f.linked || !f.hsynced }

def fPower (keep : Bool) (f : File) : File :=
  { f with synced := if keep then f.synced ++ f.pending else f.synced, pending := [],
           sealedS := f.sealedS || (keep && f.sealedP), sealedP := false, linked := true, hsynced := false }

def fProc (f : File) : File := { f with hsynced := false }

/-- recovery's fsync: issued unless the file shows no commit at all -/
def fRecover (f : File) : File := if f.content.isEmpty && !f.isSealed then f else fFsync f

theorem apply_write_one (d : Disk) (f : File) (h : d.files = [f]) (es : List Entry) (s : Bool) :
    d.apply (.write f.id es s) = { d with files := [fWrite f es s] } := by
  simp [Disk.apply, updFile, h, fWrite]

theorem apply_fsync_one (d : Disk) (f : File) (h : d.files = [f]) :
    d.apply (.fsync f.id) = { d with files := [fFsync f] } := by
  cases hh : f.hsynced <;> simp [Disk.apply, updFile, h, fFsync, Disk.file?, hh]

theorem crash_proc_one (d : Disk) (f : File) (h : d.files = [f]) :
    d.crash .proc = { d with files := [fProc f] } := by
  simp [Disk.crash, h, fProc]

theorem crash_power_one (d : Disk) (f : File) (h : d.files = [f]) (kp : Nat → Bool) :
    d.crash (.power kp (fun _ => true)) = { d with files := [fPower (kp f.id) f] } := by
  simp [Disk.crash, h, fPower, File.afterPower]

/-! ## Open on the two shapes the disk takes -/

/-- the file is the unsealed tail the meta store lists, and the only file -/
structure TailShape (id base : Nat) (d : Disk) (f : File) : Prop where
  files : d.files = [f]
  fid   : f.id = id
  segs  : d.md.segs = [newSeg id base]
  next  : d.md.nextID = id + 1

/-- Open completed the rotation: the file is recorded as sealed, an empty next tail follows it -/
structure RotShape (id : Nat) (d : Disk) (f : File) : Prop where
  rot : ∃ g s1 s2, d.files = [f, g] ∧ d.md.segs = [s1, s2] ∧ s1.id = id ∧ s1.sealed = true ∧ s2.id = id + 1
          ∧ s2.sealed = false ∧ f.id = id ∧ g.id = id + 1 ∧ g.synced = [] ∧ g.pending = [] ∧ g.sealedS = false
          ∧ g.sealedP = false

theorem l2Fresh_shape (id base : Nat) :
    TailShape id base (l2Fresh id base)
      { id := id, base := base, synced := [], pending := [], sealedS := false, sealedP := false, linked := false,
        hsynced := false } := by
  refine ⟨?_, rfl, rfl, rfl⟩
  simp [l2Fresh, Disk.apply, Disk.file?]

theorem TailShape.file? {id base : Nat} {d : Disk} {f : File} (h : TailShape id base d f) : d.file? id = some f := by
  simp [Disk.file?, h.files, h.fid]

/-- what Open does on the tail shape: recovery's fsync (unless the file shows no commit at all), then, if the file
    turns out sealed, the rotation that was not committed -/
theorem openProg_tail {id base : Nat} {d : Disk} {f : File} (h : TailShape id base d f) :
    openProg d = some ((if f.content.isEmpty && !f.isSealed then [] else [.fsync f.id]) ++
      (if f.isSealed then
        newTailActs d.md [{ newSeg id base with sealed := true, max := f.lastIdx }] (f.lastIdx + 1) else [])) := by
  have hf := h.file?
  obtain ⟨h1, h2, h3, h4⟩ := h
  subst h2
  cases hs : f.isSealed <;> simp [openProg, h3, newSeg, hf, hs, orphanDeletes, h1, setSeg]

theorem open_tail_unsealed {id base : Nat} {d : Disk} {f : File} (h : TailShape id base d f)
    (hs : f.isSealed = false) : dOpen d = { d with files := [fRecover f] } := by
  rw [dOpen, openResult, openProg_tail h, hs, fRecover, hs, if_neg Bool.false_ne_true, List.append_nil]
  by_cases he : (f.content.isEmpty && !false) = true
  · rw [if_pos he, if_pos he, ← h.files]
    rfl
  · rw [if_neg he, if_neg he, ← apply_fsync_one d f h.files]
    rfl

def rotMeta (m : Meta) (id base last : Nat) : Meta :=
  { m with nextID := m.nextID + 1,
           segs := [{ newSeg id base with sealed := true, max := last }, newSeg m.nextID (last + 1)] }

theorem open_tail_sealed {id base : Nat} {d : Disk} {f : File} (h : TailShape id base d f)
    (hs : f.isSealed = true) : RotShape id (dOpen d) (fFsync f) := by
  have ho : dOpen d = ⟨rotMeta d.md id base f.lastIdx,
      [fFsync f, { id := id + 1, base := f.lastIdx + 1, synced := [], pending := [], sealedS := false,
                   sealedP := false, linked := false, hsynced := false }]⟩ := by
    rw [dOpen, openResult, openProg_tail h, hs, Bool.not_true, Bool.and_false, if_neg Bool.false_ne_true, if_pos rfl]
    show ((d.apply (.fsync f.id)).apply (.commit (rotMeta d.md id base f.lastIdx))).apply
      (.create d.md.nextID (f.lastIdx + 1)) = _
    rw [apply_fsync_one d f h.files, h.next]
    simp [Disk.apply, Disk.file?, fFsync, h.fid]
  rw [ho]
  exact ⟨_, _, _, rfl, rfl, rfl, rfl, h.next, rfl, h.fid, rfl, rfl, rfl, rfl, rfl⟩

/-- a restart of the rotated directory leaves the sealed file alone: Open finds the new tail empty -/
theorem restart_rot {id : Nat} {d : Disk} {f : File} (h : RotShape id d f) : RotShape id (dRestart d) (fProc f) := by
  obtain ⟨g, s1, s2, h1, h2, h3, h4, h5, h6, h7, h8, h9, h10, h11, h12⟩ := h
  have hp : openProg { d with files := [fProc f, fProc g] } = some [] := by
    simp [openProg, h2, h3, h4, h5, h6, h7, h8, Disk.file?, fProc, File.content, File.isSealed, h9, h10, h11, h12,
      orphanDeletes]
  have hr : dRestart d = { d with files := [fProc f, fProc g] } := by
    rw [dRestart, dOpen, openResult, Disk.crash, h1]
    exact congrArg (fun o => (Option.map _ o).getD _) hp
  rw [hr]
  exact ⟨fProc g, s1, s2, rfl, h2, h3, h4, h5, h6, h7, h8, h9, h10, h11, h12⟩

theorem open_tail {id base : Nat} {d : Disk} {f : File} (h : TailShape id base d f) :
    (f.isSealed = false ∧ TailShape id base (dOpen d) (fRecover f))
    ∨ (f.isSealed = true ∧ RotShape id (dOpen d) (fRecover f)) := by
  cases hs : f.isSealed
  · left
    refine ⟨rfl, ?_⟩
    rw [open_tail_unsealed h hs]
    refine ⟨rfl, ?_, h.segs, h.next⟩
    rw [fRecover]; split
    · exact h.fid
    · exact h.fid
  · right
    refine ⟨rfl, ?_⟩
    have : fRecover f = fFsync f := by simp [fRecover, hs]
    rw [this]; exact open_tail_sealed h hs

theorem RotShape.file? {id : Nat} {d : Disk} {f : File} (h : RotShape id d f) : d.file? id = some f := by
  obtain ⟨g, s1, s2, h1, _, _, _, _, _, h7, _⟩ := h
  simp [Disk.file?, h1, h7]

theorem dAppend_tail {id base : Nat} {d : Disk} {f : File} (h : TailShape id base d f) (es : List Entry) (s : Bool) :
    TailShape id base (dAppend id d es s) (fFsync (fWrite f es s)) := by
  obtain ⟨h1, h2, h3, h4⟩ := h
  subst h2
  rw [dAppend, apply_write_one d f h1]
  have := apply_fsync_one { d with files := [fWrite f es s] } (fWrite f es s) rfl
  rw [show (fWrite f es s).id = f.id from rfl] at this
  rw [this]
  exact ⟨rfl, rfl, h3, h4⟩

theorem dRestart_tail {id base : Nat} {d : Disk} {f : File} (h : TailShape id base d f) :
    ((fProc f).isSealed = false ∧ TailShape id base (dRestart d) (fRecover (fProc f)))
    ∨ ((fProc f).isSealed = true ∧ RotShape id (dRestart d) (fRecover (fProc f))) := by
  have h' : TailShape id base (d.crash .proc) (fProc f) := by
    rw [crash_proc_one d f h.files]; exact ⟨rfl, h.fid, h.segs, h.next⟩
  exact open_tail h'

theorem dTorn_tail {id base : Nat} {d : Disk} {f : File} (h : TailShape id base d f) (es : List Entry)
    (s keep : Bool) :
    ((fPower keep (fWrite f es s)).isSealed = false
        ∧ TailShape id base (dTorn id d es s keep) (fRecover (fPower keep (fWrite f es s))))
    ∨ ((fPower keep (fWrite f es s)).isSealed = true
        ∧ RotShape id (dTorn id d es s keep) (fRecover (fPower keep (fWrite f es s)))) := by
  obtain ⟨h1, h2, h3, h4⟩ := h
  subst h2
  have h' : TailShape f.id base ((d.apply (.write f.id es s)).crash
      (.power (fun i => decide (i = f.id) && keep) (fun _ => true))) (fPower keep (fWrite f es s)) := by
    rw [apply_write_one d f h1, crash_power_one _ (fWrite f es s) rfl]
    simp only [show (fWrite f es s).id = f.id from rfl, decide_true, Bool.true_and]
    exact ⟨rfl, rfl, h3, h4⟩
  exact open_tail h'

/-- the L2 file that stands for an L1 state: the tags of the entries, all fsynced, sealed iff L1 wrote the index
    frame; `l` and `h` are the two flags (`linked`, `hsynced`) the link does not look at -/
def linkFile (id base : Nat) (es : List Entry) (s l h : Bool) : File :=
  { id := id, base := base, synced := es, pending := [], sealedS := s, sealedP := false, linked := l, hsynced := h }

theorem fRecover_linkFile (id base : Nat) (es : List Entry) (s l h : Bool) :
    ∃ l' h', fRecover (linkFile id base es s l h) = linkFile id base es s l' h' := by
  rw [fRecover]
  split
  · exact ⟨l, h, rfl⟩
  · exact ⟨l || !h, true, by rw [fFsync, linkFile, List.append_nil, Bool.or_false]; rfl⟩

/-- L2 disk `d` and L1 writer `w` with ghost batches `bs` describe the same tail file -/
structure LinkRel (info : SegInfo) (tag : Bytes → Entry) (d : Disk) (w : Writer) (bs : List (List Bytes)) : Prop where
  ex : ∃ l h, TailShape info.id info.base d
          (linkFile info.id info.base (bs.flatten.map tag) (decide (w.indexStart > 0)) l h)
        ∨ (RotShape info.id d (linkFile info.id info.base (bs.flatten.map tag) (decide (w.indexStart > 0)) l h)
            ∧ w.indexStart > 0)

theorem rel_fresh (info : SegInfo) (tag : Bytes → Entry) :
    LinkRel info tag (l2Fresh info.id info.base) (freshSegment info).1 [] :=
  ⟨false, false, Or.inl (l2Fresh_shape info.id info.base)⟩

theorem rel_of_open {info : SegInfo} {tag : Bytes → Entry} {d : Disk} {w : Writer} {bs : List (List Bytes)}
    {f1 : File} {l h : Bool}
    (hf1 : f1 = linkFile info.id info.base (bs.flatten.map tag) (decide (w.indexStart > 0)) l h)
    (ho : (f1.isSealed = false ∧ TailShape info.id info.base d (fRecover f1))
          ∨ (f1.isSealed = true ∧ RotShape info.id d (fRecover f1))) : LinkRel info tag d w bs := by
  subst hf1
  obtain ⟨l', h', hr⟩ := fRecover_linkFile info.id info.base (bs.flatten.map tag) (decide (w.indexStart > 0)) l h
  rw [hr] at ho
  rcases ho with ⟨_, hT⟩ | ⟨hs, hR⟩
  · exact ⟨l', h', Or.inl hT⟩
  · exact ⟨l', h', Or.inr ⟨hR, of_decide_eq_true ((Bool.or_false _).symm.trans hs)⟩⟩

theorem LinkRel.tail {info : SegInfo} {tag : Bytes → Entry} {d : Disk} {w : Writer} {bs : List (List Bytes)}
    (h : LinkRel info tag d w bs) (hidx : w.indexStart = 0) :
    ∃ l h, TailShape info.id info.base d (linkFile info.id info.base (bs.flatten.map tag) false l h) := by
  obtain ⟨l, h', hT | ⟨_, hpos⟩⟩ := h
  · exact ⟨l, h', (show decide (w.indexStart > 0) = false by rw [hidx]; rfl) ▸ hT⟩
  · exact absurd hidx (Nat.ne_of_gt hpos)

theorem rel_restart {info : SegInfo} {tag : Bytes → Entry} {d : Disk} {w : Writer} {bs : List (List Bytes)}
    (h : LinkRel info tag d w bs) : LinkRel info tag (dRestart d) w bs := by
  obtain ⟨l, h', hT | ⟨hR, hpos⟩⟩ := h
  · exact rel_of_open (l := l) (h := false) rfl (dRestart_tail hT)
  · exact ⟨l, false, Or.inr ⟨restart_rot hR, hpos⟩⟩

theorem rel_append {info : SegInfo} {tag : Bytes → Entry} {d : Disk} {w w' : Writer} {bs : List (List Bytes)}
    (b : List Bytes) (h : LinkRel info tag d w bs) (hidx : w.indexStart = 0) :
    LinkRel info tag (dAppend info.id d (b.map tag) (decide (0 < w'.indexStart))) w' (bs ++ [b]) := by
  obtain ⟨l, h', hT⟩ := h.tail hidx
  refine ⟨l || !h', true, Or.inl ?_⟩
  rw [List.flatten_append, List.flatten_singleton, List.map_append]
  exact dAppend_tail hT (b.map tag) (decide (0 < w'.indexStart))

theorem rel_torn_absent {info : SegInfo} {tag : Bytes → Entry} {d : Disk} {w : Writer} {bs : List (List Bytes)}
    (es : List Entry) (s : Bool) (h : LinkRel info tag d w bs) (hidx : w.indexStart = 0) :
    LinkRel info tag (dTorn info.id d es s false) w bs := by
  obtain ⟨l, h', hT⟩ := h.tail hidx
  exact rel_of_open (l := true) (h := false) (by rw [hidx]; rfl) (dTorn_tail hT es s false)

theorem rel_torn_whole {info : SegInfo} {tag : Bytes → Entry} {d : Disk} {w w' : Writer} {bs : List (List Bytes)}
    (b : List Bytes) (h : LinkRel info tag d w bs) (hidx : w.indexStart = 0) :
    LinkRel info tag (dTorn info.id d (b.map tag) (decide (0 < w'.indexStart)) true) w' (bs ++ [b]) := by
  obtain ⟨l, h', hT⟩ := h.tail hidx
  exact rel_of_open (l := true) (h := false)
    (by rw [List.flatten_append, List.flatten_singleton, List.map_append]; rfl)
    (dTorn_tail hT (b.map tag) (decide (0 < w'.indexStart)) true)

theorem l1Seals_eq {info : SegInfo} {w : Writer} {file : Bytes} {bs : List (List Bytes)} (b : List Bytes)
    {w' : Writer} {file' : Bytes} (hI : ChainInv info w file bs)
    (happ : w.append file (indexBatch (info.base + bs.flatten.length) b) .none = (none, w', file')) :
    l1Seals info (w, file) b = decide (0 < w'.indexStart) := by
  simp only [l1Seals, chainNext, hI.next, happ]

/-- what a torn append from an invariant state may do.  `C`: may a CRC-32C collision occur at all; `A mask k`: may the
    mask `mask` end with the batch absent (`k = false`) / whole (`k = true`).  The refinement takes `True` for both
    (`chainStep_torn_inv`); its converse takes `False` and `mask = fun _ => k` (constant masks: `torn_const_step`). -/
def TornTri (C : Prop) (A : (Nat → Bool) → Bool → Prop) (info : SegInfo) (bs : List (List Bytes)) (b : List Bytes)
    (mask : Nat → Bool) (w : Writer) (file : Bytes) : Prop :=
  (C ∧ TornCollision info (w, file) b mask)
  ∨ (A mask false ∧ ∃ k, chainStep info (w, file) (.torn b mask) = .ok (w, file ++ zeros k)
          ∧ ChainInv info w (file ++ zeros k) bs)
  ∨ (A mask true ∧ ∃ w' file', chainStep info (w, file) (.torn b mask) = .ok (w', file')
          ∧ w.append file (indexBatch (info.base + bs.flatten.length) b) .none = (none, w', file')
          ∧ ChainInv info w' file' (bs ++ [b]))

def TornHyp (C : Prop) (A : (Nat → Bool) → Bool → Prop) (info : SegInfo) (evs : List ChainEv) : Prop :=
  ∀ b mask, ChainEv.torn b mask ∈ evs → ∀ (bs : List (List Bytes)) (w : Writer) (file : Bytes),
    RunWF info (bs ++ [b]) → (∀ p ∈ b, p.length ≤ maxEntrySize) → ChainInv info w file bs → w.indexStart = 0 →
    TornTri C A info bs b mask w file

/-- the Boolean `ks` holds for each torn event is one `A` allows its mask to produce -/
def MasksAgree (A : (Nat → Bool) → Bool → Prop) : List ChainEv → List Bool → Prop
  | [], _ => True
  | .torn _ m :: evs, ks => A m (ks.headD false) ∧ MasksAgree A evs ks.tail
  | .append _ :: evs, ks => MasksAgree A evs ks
  | .restart :: evs, ks => MasksAgree A evs ks

/-- no batch event of the chain finds the segment sealed (`ChainWF.fits` implies it; so does a run without error) -/
def NoSealedAppend (info : SegInfo) (evs : List ChainEv) : Prop :=
  ∀ pre e post w file bs, evs = pre ++ e :: post → e.batches ≠ [] → ChainOK info pre w file bs → w.indexStart = 0

def LinkSimGoal (C : Prop) (A : (Nat → Bool) → Bool → Prop) (info : SegInfo) (tag : Bytes → Entry)
    (pre evs : List ChainEv) (s : Writer × Bytes) (d : Disk) (bs : List (List Bytes)) : Prop :=
  (C ∧ ChainCollision info (pre ++ evs))
  ∨ ∃ (w' : Writer) (file' : Bytes) (keep : List Bool), keep.length = tornCount evs
      ∧ ChainOK info (pre ++ evs) w' file' (bs ++ keptBatches evs keep)
      ∧ LinkRel info tag (l2Run info tag s d evs keep) w' (bs ++ keptBatches evs keep)
      ∧ MasksAgree A evs keep

theorem link_sim (C : Prop) (A : (Nat → Bool) → Bool → Prop) (info : SegInfo) (tag : Bytes → Entry)
    (evs : List ChainEv) :
    ∀ (pre : List ChainEv) (w : Writer) (file : Bytes) (bs : List (List Bytes)) (d : Disk),
      TornHyp C A info evs →
      ChainSizes info (pre ++ evs) → NoSealedAppend info (pre ++ evs) →
      ChainOK info pre w file bs → LinkRel info tag d w bs →
      LinkSimGoal C A info tag pre evs (w, file) d bs := by
  induction evs with
  | nil =>
    intro pre w file bs d _ _ _ hok hrel
    refine Or.inr ⟨w, file, [], rfl, ?_, ?_, trivial⟩
    · rw [List.append_nil]; exact (List.append_nil bs).symm ▸ hok
    · exact (List.append_nil bs).symm ▸ hrel
  | cons e evs ih =>
    intro pre w file bs d htorn hwf hns hok hrel
    have hassoc : pre ++ e :: evs = (pre ++ [e]) ++ evs := List.append_cons pre e evs
    have hwf1 : ChainSizes info (pre ++ [e]) := (hassoc ▸ hwf).of_append
    -- what remains once the step is understood: it took the chain to `s1` and the disk to `d1`, with batches `bs1`,
    -- consuming the Booleans `k`
    have hfin : ∀ (s1 : Writer × Bytes) (k : List Bool) (bs1 : List (List Bytes)) (d1 : Disk),
        ChainOK info (pre ++ [e]) s1.1 s1.2 bs1 → LinkRel info tag d1 s1.1 bs1 →
        (∀ keep : List Bool, bs ++ keptBatches (e :: evs) (k ++ keep) = bs1 ++ keptBatches evs keep) →
        (∀ keep : List Bool, l2Run info tag (w, file) d (e :: evs) (k ++ keep) = l2Run info tag s1 d1 evs keep) →
        (tornCount (e :: evs) = tornCount evs + k.length) →
        (∀ keep : List Bool, MasksAgree A evs keep → MasksAgree A (e :: evs) (k ++ keep)) →
        LinkSimGoal C A info tag pre (e :: evs) (w, file) d bs := by
      intro s1 k bs1 d1 hok1 hrel1 hkb hl2 htc hag
      rw [hassoc] at hwf hns
      rw [LinkSimGoal, hassoc]
      rcases ih (pre ++ [e]) s1.1 s1.2 bs1 d1 (fun b mask hm => htorn b mask (List.mem_cons_of_mem _ hm)) hwf hns
          hok1 hrel1 with hc | ⟨w', file', keep, h1, h2, h3, h4⟩
      · exact Or.inl hc
      · refine Or.inr ⟨w', file', k ++ keep, ?_, ?_, ?_, hag keep h4⟩
        · rw [List.length_append, h1, htc, Nat.add_comm]
        · rw [hkb]; exact h2
        · rw [hl2, hkb]; exact h3
    cases e with
    | restart =>
      have hst := chainStep_restart_inv info hwf.base_lt hwf.id_lt hwf.codec_lt bs w file hok.inv
      refine hfin (w, file) [] bs (dRestart d) (hok.snoc hst hok.ghost.snoc_restart) (rel_restart hrel)
        (fun _ => rfl) (fun keep => ?_) rfl (fun _ h => h)
      simp only [l2Run, hst, List.nil_append]
    | append b =>
      obtain ⟨hrwf, hmax, _, _⟩ := chainOK_batch_setup (b := b) rfl hwf1 hok
      have hidx : w.indexStart = 0 := hns pre _ evs w file bs rfl (List.cons_ne_nil _ _) hok
      obtain ⟨w1, file1, hst, happ, _⟩ := chainStep_append_inv info bs b hrwf hmax w file hok.inv hidx
      refine hfin (w1, file1) [] (bs ++ [b]) (dAppend info.id d (b.map tag) (decide (0 < w1.indexStart)))
        (hok.snoc hst (hok.ghost.snoc_whole rfl hwf1 happ)) (rel_append b hrel hidx)
        (fun _ => List.append_cons bs b _) (fun keep => ?_) rfl (fun _ h => h)
      simp only [l2Run, hst, List.nil_append, l1Seals_eq b hok.inv happ]
    | torn b mask =>
      obtain ⟨hrwf, hmax, _, _⟩ := chainOK_batch_setup (b := b) rfl hwf1 hok
      have hidx : w.indexStart = 0 := hns pre _ evs w file bs rfl (List.cons_ne_nil _ _) hok
      obtain ⟨w1, file1, happ⟩ := chain_append_ok info bs b hrwf hmax w file hok.inv hidx
      have hl2 : ∀ (k : Bool) (s1 : Writer × Bytes) (keep : List Bool),
          chainStep info (w, file) (.torn b mask) = .ok s1 →
          l2Run info tag (w, file) d (.torn b mask :: evs) ([k] ++ keep)
            = l2Run info tag s1 (dTorn info.id d (b.map tag) (decide (0 < w1.indexStart)) k) evs keep := by
        intro k s1 keep hst
        simp only [l2Run, hst, l1Seals_eq b hok.inv happ, List.cons_append, List.nil_append, List.headD_cons,
          List.tail_cons]
      rcases htorn b mask List.mem_cons_self bs w file hrwf hmax hok.inv hidx with
        ⟨hC, hcol⟩ | ⟨hA, k, hst, _⟩ | ⟨hA, w2, file2, hst, happ2, _⟩
      · exact Or.inl ⟨hC, pre, b, mask, evs, (w, file), rfl, hok.run, hcol⟩
      · exact hfin (w, file ++ zeros k) [false] bs _ (hok.snoc hst (hok.ghost.snoc_absent b mask k hidx))
          (rel_torn_absent _ _ hrel hidx) (fun _ => rfl) (fun keep => hl2 false _ keep hst) rfl (fun _ h => ⟨hA, h⟩)
      · obtain ⟨rfl, rfl⟩ : w1 = w2 ∧ file1 = file2 := by
          rw [happ] at happ2; exact ⟨congrArg (·.2.1) happ2, congrArg (·.2.2) happ2⟩
        exact hfin (w1, file1) [true] (bs ++ [b]) _ (hok.snoc hst (hok.ghost.snoc_whole rfl hwf1 happ))
          (rel_torn_whole b hrel hidx) (fun _ => List.append_cons bs b _) (fun keep => hl2 true _ keep hst) rfl
          (fun _ h => ⟨hA, h⟩)

/-- `ChainWF.fits`: only the last batch event may seal, so no batch event finds the segment sealed -/
theorem noSealedAppend_of_wf {info : SegInfo} {evs : List ChainEv} (hwf : ChainWF info evs) :
    NoSealedAppend info evs :=
  fun _ _ _ _ _ _ h1 h2 h3 => h3.unsealed (hwf.prefix_fits h1 h2)

theorem noSealedAppend_of_run {info : SegInfo} {evs : List ChainEv} {s : Writer × Bytes}
    (hwf : ChainSizes info evs) (hrun : chainRun info (freshSegment info) evs = .ok s) : NoSealedAppend info evs := by
  intro pre e post w file bs h1 h2 h3
  refine Nat.eq_zero_of_not_pos fun hpos => ?_
  obtain ⟨b, hb⟩ : ∃ b, e.batches = [b] := by
    cases e with
    | restart => exact absurd rfl h2
    | append b => exact ⟨b, rfl⟩
    | torn b m => exact ⟨b, rfl⟩
  have hbne : b ≠ [] := hwf.nonempty b (by
    rw [h1, chainBatches_append, chainBatches_cons, hb]
    exact List.mem_append_right _ (List.mem_append_left _ List.mem_cons_self))
  have h4 : chainRun info (freshSegment info) (pre ++ [e]) = .error .sealed := by
    rw [chainRun_snoc info _ _ pre _ h3.run, chainStep_sealed info w file e b hb hbne hpos]
  rw [h1, List.append_cons, chainRun_append_error info _ _ post _ h4] at hrun
  cases hrun

theorem tornHyp_any (info : SegInfo) (evs : List ChainEv) : TornHyp True (fun _ _ => True) info evs := by
  intro b mask _ bs w file hrwf hmax hI hidx
  rcases chainStep_torn_inv info bs b mask hrwf hmax w file hI hidx with h | h | h
  · exact Or.inl ⟨trivial, h⟩
  · exact Or.inr (Or.inl ⟨trivial, h⟩)
  · exact Or.inr (Or.inr ⟨trivial, h⟩)

/-- what the link says about a final L1 state `(w, file)` with ghost batches `bs`, for the survival choices `keep` -/
structure LinkResult (info : SegInfo) (tag : Bytes → Entry) (evs : List ChainEv) (w : Writer) (file : Bytes)
    (bs : List (List Bytes)) (keep : List Bool) : Prop where
  /-- the byte level: the conclusion of `chain_atomic` -/
  l1       : ChainResult info evs w file bs
  keep_len : keep.length = tornCount evs
  /-- `bs` is what `keep` selects: each Boolean is `chainSpec`'s choice for its torn event (`chainSpec_kept`) -/
  keep_bs  : bs = keptBatches evs keep
  /-- the L2 file is the file `info.id` of the L2 disk (not a default) -/
  file     : (l2Disk info tag evs keep).file? info.id = some (l2Events info tag evs keep)
  id       : (l2Events info tag evs keep).id = info.id
  base     : (l2Events info tag evs keep).base = info.base
  /-- what L2 says the file holds = what L1 reads back (`ChainResult.readable`) -/
  content  : (l2Events info tag evs keep).content = bs.flatten.map tag
  pending  : (l2Events info tag evs keep).pending = []
  /-- L2's sealed flag = L1's index frame -/
  isSealed : (l2Events info tag evs keep).isSealed = decide (w.indexStart > 0)

theorem link_of_fresh (C : Prop) (A : (Nat → Bool) → Bool → Prop) (info : SegInfo) (tag : Bytes → Entry)
    (evs : List ChainEv) (htorn : TornHyp C A info evs) (hwf : ChainSizes info evs) (hns : NoSealedAppend info evs) :
    (C ∧ ChainCollision info evs)
    ∨ ∃ w file keep, MasksAgree A evs keep ∧ LinkResult info tag evs w file (keptBatches evs keep) keep := by
  rcases link_sim C A info tag evs [] _ _ [] _ htorn hwf hns (chainOK_nil info) (rel_fresh info tag) with
    hc | ⟨w, file, keep, hlen, hok, ⟨l, h, hsh⟩, hag⟩
  · exact Or.inl hc
  · have h1 := hsh.elim TailShape.file? (fun h => h.1.file?)
    have hf := congrArg (fun o => Option.getD o default) h1
    change l2Events info tag evs keep = _ at hf
    exact Or.inr ⟨w, file, keep, hag, chainResult_of_ok info evs hwf w file _ hok, hlen, rfl, hf ▸ h1, by rw [hf]; rfl,
      by rw [hf]; rfl, by rw [hf]; exact List.append_nil _, by rw [hf]; rfl, by rw [hf]; exact Bool.or_false _⟩

/-- **L1 refines L2 on one tail file** (MAIN THEOREM).  Every chain of acknowledged appends, restarts and torn
    appends on a fresh segment either meets a CRC-32C collision (the residual of `chain_atomic`) or runs, at the byte
    level, to a state `(w, file)` holding batches `bs` (`ChainResult`: readable, nothing else readable) that is one
    of the outcomes the L2 crash model allows: there is a choice `keep` of `keepPending` for the power losses such
    that the REAL L2 actions and crashes (`Disk.apply`, `Disk.crash`, `openResult`) lead to a file whose content is
    `bs`, entry for entry, with nothing pending and the same sealed flag. -/
theorem l1_refines_l2_file (tag : Bytes → Entry) (info : SegInfo) (evs : List ChainEv) (hwf : ChainWF info evs) :
    ChainCollision info evs
    ∨ ∃ (w : Writer) (file : Bytes) (bs : List (List Bytes)) (keep : List Bool),
        LinkResult info tag evs w file bs keep := by
  rcases link_of_fresh True (fun _ _ => True) info tag evs (tornHyp_any info evs) hwf.sizes
      (noSealedAppend_of_wf hwf) with ⟨_, hc⟩ | ⟨w, file, keep, _, h⟩
  · exact Or.inl hc
  · exact Or.inr ⟨w, file, _, keep, h⟩

theorem l1_l2_read {info : SegInfo} {tag : Bytes → Entry} {evs : List ChainEv} {w : Writer} {file : Bytes}
    {bs : List (List Bytes)} {keep : List Bool} (h : LinkResult info tag evs w file bs keep)
    (hmin : info.min = info.base) (k : Nat) (hk : k < (l2Events info tag evs keep).content.length)
    (bufSize : Nat) (hbuf : 8 ≤ bufSize) :
    ∃ p, w.getLog file (info.base + k) bufSize = .ok p ∧ tag p = (l2Events info tag evs keep).content[k] := by
  have hc := h.content
  have hk' : k < bs.flatten.length := by rw [hc, List.length_map] at hk; exact hk
  refine ⟨_, h.l1.readable hmin k hk' bufSize hbuf, ?_⟩
  simp only [hc, List.getElem_map]

/-- the same for every chain that runs without error (`ChainSizes` only; covers chains in which a torn sealing
    append is recovered as absent and further appends follow) -/
theorem l1_refines_l2_file_of_run (tag : Bytes → Entry) (info : SegInfo) (evs : List ChainEv)
    (hwf : ChainSizes info evs) (s : Writer × Bytes) (hrun : chainRun info (freshSegment info) evs = .ok s) :
    ChainCollision info evs
    ∨ ∃ (bs : List (List Bytes)) (keep : List Bool), LinkResult info tag evs s.1 s.2 bs keep := by
  rcases link_of_fresh True (fun _ _ => True) info tag evs (tornHyp_any info evs) hwf
      (noSealedAppend_of_run hwf hrun) with ⟨_, hc⟩ | ⟨w, file, keep, _, h⟩
  · exact Or.inl hc
  · obtain rfl : s = (w, file) := Except.ok.inj (hrun.symm.trans h.l1.run)
    exact Or.inr ⟨_, keep, h⟩

/-! ## the converse: every `keepPending` choice of L2 is realised at L1 by a chunk mask -/

/-- a torn append all of whose chunks landed is recovered whole, one none of whose chunks landed is recovered as
    absent: no CRC residual for these two masks -/
theorem torn_const_step (info : SegInfo) (bs : List (List Bytes)) (b : List Bytes) (hwf : RunWF info (bs ++ [b]))
    (w : Writer) (file : Bytes) (hI : ChainInv info w file bs) (w' : Writer) (file' : Bytes)
    (happ : w.append file (indexBatch (info.base + bs.flatten.length) b) .none = (none, w', file')) :
    chainStep info (w, file) (.torn b (fun _ => true)) = .ok (w', file')
    ∧ ∃ k, chainStep info (w, file) (.torn b (fun _ => false)) = .ok (w, file ++ zeros k) := by
  obtain ⟨s, hInv, hInv', hcb', _, _, hlen, hCI'⟩ := chain_append_setup info bs b hwf w file hI w' file' happ
  have hA' := addBatch_bytes ((ackBatches bs).foldl addBatch (acc0 info)) ⟨b, s⟩
  have hstep : ∀ mask, chainStep info (w, file) (.torn b mask)
      = recoverTail info (tearImage file file' w.writeOffset (w'.writeOffset - w.writeOffset) mask) := by
    intro mask; simp only [chainStep, chainNext, hI.next, happ]
  constructor
  · obtain ⟨k', kb, hf', hf, himg⟩ := torn_image _ hInv hInv' hcb' hA' (fun _ => true)
    have : tearImage file file' w.writeOffset (w'.writeOffset - w.writeOffset) (fun _ => true) = file' := by
      rw [himg, tornFrom_true]
      conv => rhs; rw [hf', hA', hInv.bytes]
      simp only [List.append_assoc]
    rw [hstep, this]
    exact recover_inv info hwf.base_lt hwf.id_lt hwf.codec_lt _ w' file' hCI'
  · obtain ⟨k', kb, hf', hf, himg⟩ := torn_image _ hInv hInv' hcb' hA' (fun _ => false)
    -- the image and the old file are the old prefix followed by zeros; the image is as long as the new file
    have hk : (w.commitBuf ++ encAll (batchFrames ((ackBatches bs).foldl addBatch (acc0 info)) ⟨b, s⟩)).length + k'
        = kb + (file'.length - file.length) := by
      have hl' := congrArg List.length hf'
      have hl := congrArg List.length hf
      rw [hA', hInv.bytes] at hl'
      simp only [List.length_append, zeros_length] at hl' hl ⊢
      generalize (file.take w.writeOffset).length = p at hl hl'
      generalize (encAll _).length = m at hl' ⊢
      rw [Nat.add_assoc, Nat.add_assoc] at hl'
      rw [hl, hl'] at hlen
      rw [hl, hl', Nat.add_assoc, Nat.add_sub_add_left, Nat.add_sub_cancel' (Nat.le_of_add_le_add_left hlen)]
    refine ⟨file'.length - file.length, ?_⟩
    have hz : ∀ a c : Nat, zeros a ++ zeros c = zeros (a + c) := fun a c => List.replicate_append_replicate
    rw [hstep, himg, tornFrom_false, hz, hk, ← hz, ← List.append_assoc, ← hf]
    exact recover_inv info hwf.base_lt hwf.id_lt hwf.codec_lt _ w _ (chainInv_append_zeros hI _)

/-- the chain with the mask of every torn event replaced by "all chunks landed" / "no chunk landed" as `ks` says -/
def setMasks : List ChainEv → List Bool → List ChainEv
  | [], _ => []
  | .torn b _ :: evs, ks => .torn b (fun _ => ks.headD false) :: setMasks evs ks.tail
  | .append b :: evs, ks => .append b :: setMasks evs ks
  | .restart :: evs, ks => .restart :: setMasks evs ks

theorem chainBatches_setMasks (evs : List ChainEv) (ks : List Bool) : chainBatches (setMasks evs ks) = chainBatches evs := by
  induction evs generalizing ks with
  | nil => rfl
  | cons e evs ih =>
    cases e <;> simp only [setMasks] <;> rw [chainBatches_cons, chainBatches_cons, ih] <;> rfl

theorem tornCount_setMasks (evs : List ChainEv) (ks : List Bool) : tornCount (setMasks evs ks) = tornCount evs := by
  induction evs generalizing ks with
  | nil => rfl
  | cons e evs ih => cases e <;> simp only [setMasks, tornCount, ih]

theorem keptBatches_setMasks (evs : List ChainEv) (ks ks' : List Bool) :
    keptBatches (setMasks evs ks) ks' = keptBatches evs ks' := by
  induction evs generalizing ks ks' with
  | nil => rfl
  | cons e evs ih => cases e <;> simp only [setMasks, keptBatches, ih]

theorem agree_setMasks (evs : List ChainEv) (ks ks' : List Bool) (hlen : ks.length = tornCount evs)
    (hlen' : ks'.length = tornCount evs) (h : MasksAgree (fun mask k => mask = fun _ => k) (setMasks evs ks) ks') :
    ks' = ks := by
  induction evs generalizing ks ks' with
  | nil => rw [List.length_eq_zero_iff.mp hlen, List.length_eq_zero_iff.mp hlen']
  | cons e evs ih =>
    cases e with
    | append b => exact ih ks ks' hlen hlen' h
    | restart => exact ih ks ks' hlen hlen' h
    | torn b m =>
      obtain ⟨k, ks, rfl⟩ := List.exists_cons_of_length_eq_add_one hlen
      obtain ⟨k', ks', rfl⟩ := List.exists_cons_of_length_eq_add_one hlen'
      rw [show k' = k from (congrFun h.1 0).symm,
        ih ks ks' (Nat.succ.inj hlen) (Nat.succ.inj hlen') h.2]

theorem tornHyp_setMasks (info : SegInfo) (evs : List ChainEv) (ks : List Bool) :
    TornHyp False (fun mask k => mask = fun _ => k) info (setMasks evs ks) := by
  intro b mask hm bs w file hrwf hmax hI hidx
  have hc : ∃ c : Bool, mask = fun _ => c := by
    clear hrwf hmax hI hidx
    induction evs generalizing ks with
    | nil => cases hm
    | cons e evs ih =>
      cases e with
      | append c => simp only [setMasks, List.mem_cons, reduceCtorEq, false_or] at hm; exact ih _ hm
      | restart => simp only [setMasks, List.mem_cons, reduceCtorEq, false_or] at hm; exact ih _ hm
      | torn c m =>
        simp only [setMasks, List.mem_cons, ChainEv.torn.injEq] at hm
        rcases hm with ⟨_, hm⟩ | hm
        · exact ⟨_, hm⟩
        · exact ih _ hm
  obtain ⟨c, rfl⟩ := hc
  obtain ⟨w', file', happ⟩ := chain_append_ok info bs b hrwf hmax w file hI hidx
  obtain ⟨ht, k, hf⟩ := torn_const_step info bs b hrwf w file hI w' file' happ
  cases c with
  | false => exact Or.inr (Or.inl ⟨rfl, k, hf, chainInv_append_zeros hI k⟩)
  | true => exact Or.inr (Or.inr ⟨rfl, w', file', ht, happ, chainInv_append info bs b hrwf w file hI w' file' happ⟩)

/-- **every outcome L2's all-or-nothing `afterPower` allows is realised at the byte level**: for every choice
    `keep` of `keepPending` (one per torn event) the chain whose torn events have all their chunks on disk
    (`keep`) or none (`¬ keep`) runs — no CRC residual — to a state that holds exactly the batches `keep` selects,
    and the L2 run with these `keep` describes it. -/
theorem l2_outcomes_realised (tag : Bytes → Entry) (info : SegInfo) (evs : List ChainEv) (hwf : ChainWF info evs)
    (keep : List Bool) (hlen : keep.length = tornCount evs) :
    ∃ (w : Writer) (file : Bytes),
      LinkResult info tag (setMasks evs keep) w file (keptBatches evs keep) keep := by
  have hwf' : ChainWF info (setMasks evs keep) := by
    obtain ⟨h1, h2, h3, h4, h5, h6, h7, h8⟩ := hwf
    refine ⟨?_, ?_, h3, h4, h5, h6, ?_, ?_⟩ <;> rw [chainBatches_setMasks] <;> assumption
  rcases link_of_fresh False (fun mask k => mask = fun _ => k) info tag (setMasks evs keep)
      (tornHyp_setMasks info evs keep) hwf'.sizes (noSealedAppend_of_wf hwf') with ⟨hF, _⟩ | ⟨w, file, keep', hag, h⟩
  · exact hF.elim
  · obtain rfl := agree_setMasks evs keep keep' hlen ((tornCount_setMasks evs keep) ▸ h.keep_len) hag
    rw [keptBatches_setMasks] at h
    exact ⟨w, file, h⟩

/-! ## non-vacuity: the concrete chain of Proofs/SegmentChain.lean

  Seven events (`chainExEvs`): append of 2 entries; torn append, only the header chunk lands (absent); restart; torn
  append of 2 entries, all chunks land (whole); torn append, payload chunk lost (absent); sealing append of a
  100-byte entry; restart of the sealed segment.  `keep = [false, true, false]`. -/

/-- an (arbitrary) tag: length and byte sum of the payload -/
def exTag (p : Bytes) : Entry := 1000 * p.length + (p.map (·.toNat)).sum

example : ChainCollision chainExInfo chainExEvs
    ∨ ∃ w file bs keep, LinkResult chainExInfo exTag chainExEvs w file bs keep :=
  l1_refines_l2_file exTag chainExInfo chainExEvs chainEx_wf

example : ∃ w file, LinkResult chainExInfo exTag (setMasks chainExEvs [false, true, false]) w file
    (keptBatches chainExEvs [false, true, false]) [false, true, false] :=
  l2_outcomes_realised exTag chainExInfo chainExEvs chainEx_wf [false, true, false] rfl

/-- the L2 file of the concrete chain (computed with the real L2 functions): the five surviving entries fsynced,
    nothing pending, sealed -/
def exFile : File := l2Events chainExInfo exTag chainExEvs [false, true, false]

/-- info: ([3006, 9072, 9171, 1024, 104200], [], true, true, 7, 5) -/
#guard_msgs in
#eval (exFile.synced, exFile.pending, exFile.sealedS, exFile.isSealed, exFile.id, exFile.base)

/-- info: true -/
#guard_msgs in
#eval exFile.content == ((keptBatches chainExEvs [false, true, false]).flatten.map exTag)

-- what L1 reads back from the final state of the concrete chain is what the L2 file holds
/-- info: true -/
#guard_msgs in
#eval match chainRun chainExInfo (freshSegment chainExInfo) chainExEvs with
  | .ok (w, file) =>
    (List.range 5).map (fun k => (w.getLog file (chainExInfo.base + k)).toOption.map exTag) == exFile.content.map some
      && decide (w.indexStart > 0) == exFile.isSealed
  | .error _ => false

-- a prefix of the chain (up to the torn append recovered whole)
/-- info: [3006, 9072, 9171, 1024] -/
#guard_msgs in
#eval (l2Events chainExInfo exTag (chainExEvs.take 4) [false, true]).content

#print axioms l1_refines_l2_file
#print axioms l1_refines_l2_file_of_run
#print axioms l1_l2_read
#print axioms l2_outcomes_realised
#print axioms chainSpec_kept

end RaftWal
