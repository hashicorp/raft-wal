/-
  Proofs/SegmentL1.lean — byte-level (L1) theorems about the segment model: the writer produces exactly the
  README layout and the README decoder reads it back; file names.
-/
import RaftWal.Proofs.Segment.Run
import RaftWal.Proofs.Segment.Recover
namespace RaftWal

/-- the spec-side description of a run: batch `i` seals iff it is the last one and
    the writer ended up sealed -/
def specBatches (sealedAtEnd : Bool) (bs : List (List Bytes)) : List Spec.Batch :=
  bs.zipIdx.map (fun (b, i) => { payloads := b, sealing := i + 1 = bs.length && sealedAtEnd })

/-- generous upper bound of the bytes a run can occupy (header, frames with padding, commits, one index frame) -/
def runBytesBound (bs : List (List Bytes)) : Nat :=
  32 + (bs.map (fun b => (b.map (fun p => 16 + p.length)).sum + 8)).sum + (16 + 4 * (bs.map List.length).sum)

/-- side conditions under which the uint32/uint64 arithmetic of the Go code does not wrap -/
structure RunWF (info : SegInfo) (bs : List (List Bytes)) : Prop where
  nonempty : ∀ b ∈ bs, b ≠ []
  base_lt  : info.base < 2^64
  id_lt    : info.id < 2^64
  codec_lt : info.codec < 2^64
  limit_lt : info.sizeLimit < 2^32
  size_lt  : runBytesBound bs < 2^32

theorem RunWF.init {info : SegInfo} {bs : List (List Bytes)} {b : List Bytes} (h : RunWF info (bs ++ [b])) :
    RunWF info bs := by
  refine ⟨fun x hx => h.nonempty x (List.mem_append_left _ hx), h.base_lt, h.id_lt, h.codec_lt, h.limit_lt, ?_⟩
  have := h.size_lt
  simp only [runBytesBound, List.map_append, List.sum_append] at this ⊢
  omega

open Spec (Acc Batch addEntry addBatch)

theorem runBytesBound_eq (bs : List (List Bytes)) : runBytesBound bs = 32 + need bs + (16 + 4 * cnt bs) := rfl

theorem specBatches_aux (s : Bool) (n : Nat) (bs : List (List Bytes)) (k : Nat) (hn : n = k + bs.length) :
    (bs.zipIdx k).map (fun (b, i) => ({ payloads := b, sealing := i + 1 = n && s } : Spec.Batch)) = runBatches s bs := by
  induction bs generalizing k with
  | nil => rfl
  | cons b x ih =>
    cases x with
    | nil =>
      simp only [List.length_cons, List.length_nil] at hn
      simp [List.zipIdx_cons, runBatches, hn]
    | cons b' r =>
      rw [runBatches_cons_ne s b _ (by simp), ← ih (k+1) (hn.trans (Nat.add_right_comm k _ 1))]
      simp only [List.length_cons] at hn
      rw [List.zipIdx_cons, List.map_cons]
      congr 1
      have : ¬ (k + 1 = n) := by omega
      simp [this]

theorem specBatches_eq_runBatches (s : Bool) (bs : List (List Bytes)) : specBatches s bs = runBatches s bs :=
  specBatches_aux s bs.length bs 0 (Nat.zero_add _).symm

theorem specIndexStart_eq_idxPos (base id codec : Nat) (bs : List (List Bytes)) (hne : bs ≠ []) :
    Spec.indexStart base id codec (specBatches true bs) = idxPos ⟨Spec.header base id codec, [], 0⟩ bs := by
  rw [← List.dropLast_concat_getLast hne, specBatches_eq_runBatches, runBatches_concat, idxPos_concat]
  simp only [Spec.indexStart, List.reverse_append, List.reverse_cons, List.reverse_nil, List.nil_append,
    List.cons_append, List.reverse_reverse, Spec.layoutAcc, foldl_addEntry]

theorem run_summary (info : SegInfo) (bs : List (List Bytes)) (hwf : RunWF info bs)
    (w : Writer) (file : Bytes)
    (hrun : (freshSegment info).1.appendAll (freshSegment info).2 info.base bs = some (w, file)) :
    Inv info w file (Spec.layoutAcc info.base info.id info.codec (specBatches (w.indexStart > 0) bs))
    ∧ (bs ≠ [] → w.commitBuf = [] ∧ w.commitIdx = info.base + cnt bs - 1 ∧ 0 < cnt bs)
    ∧ (w.indexStart = 0 ∨ w.indexStart = idxPos (acc0 info) bs)
    ∧ (Spec.layoutAcc info.base info.id info.codec (specBatches (w.indexStart > 0) bs)).bytes.length < 2^32 := by
  have hb := hwf.size_lt
  -- `runBytesBound bs` is the room `run_inv` asks for, at the 32-byte header with no offsets yet
  have e : (Spec.header info.base info.id info.codec).length + need bs + 16 + 4 * (0 + cnt bs) = runBytesBound bs := by
    rw [specHeader_length, Nat.zero_add, Nat.add_assoc _ 16]; rfl
  obtain ⟨h1, h2, h3⟩ := run_inv info bs hwf.nonempty _ _ _ info.base w file (init_inv info) rfl rfl
    (e ▸ hb) hrun
  rw [specBatches_eq_runBatches, Spec.layoutAcc]
  exact ⟨h1, h2, h3, Nat.lt_of_le_of_lt (e ▸ runBatches_length_le _ bs _) hb⟩

theorem run_empty (info : SegInfo) (w : Writer) (file : Bytes)
    (hrun : (freshSegment info).1.appendAll (freshSegment info).2 info.base [] = some (w, file)) :
    w = (freshSegment info).1 ∧ file = zeros info.sizeLimit := by
  simp only [Writer.appendAll, Option.some.injEq, Prod.mk.injEq] at hrun
  exact ⟨hrun.1.symm, hrun.2.symm⟩

/-- **C09** the bytes the writer put in the file up to its write offset are exactly the README layout,
    and everything behind is still zero -/
theorem writer_bytes_eq_spec (info : SegInfo) (bs : List (List Bytes)) (hwf : RunWF info bs)
    (w : Writer) (file : Bytes)
    (hrun : (freshSegment info).1.appendAll (freshSegment info).2 info.base bs = some (w, file)) (hne : bs ≠ []) :
    file.take w.writeOffset = Spec.layout info.base info.id info.codec (specBatches (w.indexStart > 0) bs)
    ∧ (∀ b ∈ file.drop w.writeOffset, b = 0) := by
  obtain ⟨h1, h2, _, _⟩ := run_summary info bs hwf w file hrun
  refine ⟨?_, h1.zeros⟩
  rw [Spec.layout, h1.bytes, (h2 hne).1, List.append_nil]

/-- **C09** for a sealed run the writer's `indexStart` (what goes into the meta store) is the position
    README assigns to the index array -/
theorem writer_indexStart_eq_spec (info : SegInfo) (bs : List (List Bytes)) (hwf : RunWF info bs)
    (w : Writer) (file : Bytes)
    (hrun : (freshSegment info).1.appendAll (freshSegment info).2 info.base bs = some (w, file))
    (hsealed : w.indexStart > 0) :
    w.indexStart = Spec.indexStart info.base info.id info.codec (specBatches true bs) := by
  obtain ⟨_, _, h3, _⟩ := run_summary info bs hwf w file hrun
  have hne : bs ≠ [] := by
    rintro rfl
    rw [(run_empty info w file hrun).1] at hsealed
    exact absurd hsealed (Nat.lt_irrefl 0)
  rw [specIndexStart_eq_idxPos _ _ _ _ hne]
  exact h3.resolve_left (Nat.ne_of_gt hsealed)

/-- **C09** the independent README decoder reads back what the writer wrote -/
theorem spec_decode_writer (info : SegInfo) (bs : List (List Bytes)) (hwf : RunWF info bs)
    (w : Writer) (file : Bytes)
    (hrun : (freshSegment info).1.appendAll (freshSegment info).2 info.base bs = some (w, file)) :
    Spec.decode file = bs.flatten := by
  by_cases hne : bs = []
  · subst hne
    obtain ⟨_, rfl⟩ := run_empty info w file hrun
    rw [Spec.decode]
    have : (zeros info.sizeLimit).drop 32 = zeros (info.sizeLimit - 32) := by simp [zeros]
    rw [this, decodeBody_zeros]; rfl
  · obtain ⟨h1, h2, _, h4⟩ := run_summary info bs hwf w file hrun
    obtain ⟨k, hk⟩ := file_eq_of_inv h1 (h2 hne).1
    rw [hk, Spec.layoutAcc, decode_layout _ (by simp) _ h4, specBatches_eq_runBatches, runBatches_payloads]

theorem natToDigits_go_eq (base n v : Nat) (acc : List Char) :
    natToDigits.go base n v acc = Spec.fixedWidth base n v ++ acc := by
  induction n generalizing v acc with
  | zero => rfl
  | succ n ih =>
    rw [natToDigits.go, ih, Spec.fixedWidth, List.append_assoc]
    rfl

theorem natToDigits_eq (base n v : Nat) : natToDigits base n v = Spec.fixedWidth base n v := by
  rw [natToDigits, natToDigits_go_eq, List.append_nil]

theorem numDigits_le (b : Nat) (w : Nat) (v : Nat) (hv : v < b ^ (w+1)) : numDigits b v ≤ w + 1 := by
  induction w generalizing v with
  | zero =>
    rw [numDigits, dif_pos (Or.inl (by simpa using hv))]
    exact Nat.le_refl 1
  | succ w ih =>
    rw [numDigits]
    split
    · exact Nat.succ_le_succ (Nat.zero_le _)
    · have : v / b < b ^ (w+1) := by
        apply Nat.div_lt_of_lt_mul
        rw [Nat.pow_succ, Nat.mul_comm] at hv; exact hv
      rw [Nat.add_comm]
      exact Nat.succ_le_succ (ih _ this)

theorem fmtPadded_eq (b : Nat) (w v : Nat) (hv : v < b ^ (w+1)) :
    fmtPadded b (w+1) v = String.ofList (Spec.fixedWidth b (w+1) v) := by
  rw [fmtPadded, Nat.max_eq_left (numDigits_le b w v hv), natToDigits_eq]

/-- **C09** file naming: the code's `%020d-%016x.wal` is README's fixed-width naming for all 64-bit values -/
theorem fileName_eq_spec (base id : Nat) (hb : base < 2^64) (hi : id < 2^64) :
    fileName base id = Spec.fileName base id := by
  have h1 : base < 10 ^ (19+1) := Nat.lt_of_lt_of_le hb (by decide)
  have h2 : id < 16 ^ (15+1) := hi
  rw [fileName, Spec.fileName, fmtPadded_eq 10 19 base h1, fmtPadded_eq 16 15 id h2]
  apply String.toList_inj.mp
  simp only [String.toList_append, String.toList_ofList]
  rfl

end RaftWal
