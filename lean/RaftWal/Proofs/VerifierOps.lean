/-
  Proofs/VerifierOps.lean — what each operation of Model/Verifier.lean does, stated once per branch.  The theorems about
  the middleware reason from these equations and do not unfold the model.
-/
import RaftWal.Model.Verifier
import RaftWal.Proofs.Bytes
import RaftWal.Proofs.SpecLog
namespace RaftWal.Verifier
open RaftWal

open Spec in
/-- `F` is the new `first`: free only while the log is empty -/
theorem slog_store_cases (s : SLog) (logs : List Log) :
    ((s.store logs).1 = s ∧ ((s.store logs).2 = none → logs = [])) ∨
    ∃ F, (s.entries = [] ∨ F = s.first) ∧ 1 ≤ F + s.entries.length ∧
      consecutiveFrom (F + s.entries.length) logs = true ∧
      (s.store logs).1 = { s with first := F, entries := s.entries ++ logs } := by
  rcases Bool.eq_false_or_eq_true s.closed with hc | hc
  · rw [SLog.store_of_closed hc]; exact .inl ⟨rfl, nofun⟩
  · cases logs with
    | nil => exact .inl ⟨by rw [SLog.store_nil hc], fun _ => rfl⟩
    | cons l rest =>
      rw [SLog.store_cons hc]
      by_cases ha : s.accepts (l :: rest) = true
      · rw [if_pos ha]
        obtain ⟨hcons, _, hbase⟩ := SLog.accepts_cons_iff.mp ha
        by_cases hE : s.entries = []
        · rw [if_pos hE] at hbase
          rw [if_pos (List.isEmpty_iff.mpr hE)]
          exact .inr ⟨l.index, .inl hE, Nat.le_add_right_of_le hbase, by rw [hE]; exact hcons, rfl⟩
        · rw [if_neg hE, SLog.lastIndex_succ hE] at hbase
          rw [if_neg (fun h => hE (List.isEmpty_iff.mp h))]
          exact .inr ⟨s.first, .inr rfl, Nat.le_add_left_of_le (List.length_pos_iff.mpr hE), hbase ▸ hcons, rfl⟩
      · rw [if_neg ha]; exact .inl ⟨rfl, nofun⟩

open Spec in
theorem slog_delete_cases (s : SLog) (mn mx : Nat) :
    (s.delete mn mx).1 = s ∨
    (∃ k, s.first + k = mx + 1 ∧ s.first ≤ mx ∧
      (s.delete mn mx).1 = { s with first := s.first + k, entries := s.entries.drop k }) ∨
    (∃ j, mx ≥ s.lastIndex ∧ s.entries.isEmpty = false ∧ (s.delete mn mx).1 = { s with entries := s.entries.take j }) := by
  rcases Bool.eq_false_or_eq_true s.closed with h1 | h1
  · rw [SLog.delete_of_closed h1]; exact .inl rfl
  rw [SLog.delete_open h1]
  by_cases h2 : mn > mx
  · rw [if_pos h2]; exact .inl rfl
  rw [if_neg h2]
  by_cases h3 : s.entries.isEmpty = true ∨ mx < s.firstIndex ∨ mn > s.lastIndex
  · rw [if_pos h3]; exact .inl rfl
  rw [if_neg h3]
  have hne : s.entries.isEmpty = false := Bool.eq_false_iff.mpr fun he => h3 (.inl he)
  have hfi := SLog.firstIndex_of_ne (List.isEmpty_eq_false_iff.mp hne)
  rw [hfi] at h3 ⊢
  by_cases h4 : mn ≤ s.first
  · rw [if_pos h4]
    have h6 : s.first ≤ mx := Nat.le_of_not_lt fun h => h3 (.inr (.inl h))
    exact .inr (.inl ⟨mx + 1 - s.first, Nat.add_sub_of_le (Nat.le_succ_of_le h6), h6, rfl⟩)
  rw [if_neg h4]
  by_cases h5 : mx ≥ s.lastIndex
  · rw [if_pos h5]; exact .inr (.inr ⟨mn - s.first, h5, hne, rfl⟩)
  · rw [if_neg h5]; exact .inl rfl

theorem encodeMeta_length (s : Nat) (c : UInt64) : (encodeMeta s c).length = 24 := by
  simp only [encodeMeta, List.length_append, putLE_length]

/-- what the leader encodes the follower decodes (`hs`: indexes are uint64) -/
theorem decodeMeta_encodeMeta (start : Nat) (sum : UInt64) (hs : start < 2 ^ 64) :
    decodeMeta (encodeMeta start sum) = some (start, sum) := by
  have h8 (v : Nat) : (putLE 8 v).length = 8 := putLE_length 8 v
  have h16 (v w : Nat) : (putLE 8 v ++ putLE 8 w).length = 16 := by rw [List.length_append, h8, h8]
  rw [decodeMeta, if_neg (by rw [encodeMeta_length]; omega), encodeMeta, List.drop_left' (h16 _ _), List.append_assoc,
    List.take_left' (h8 _), List.drop_left' (h8 _), List.take_left' (h8 _), List.take_of_length_le (Nat.le_of_eq (h8 _)),
    getLE_putLE 8 _ (by decide), getLE_putLE 8 start hs, getLE_putLE 8 _ sum.toNat_lt, if_neg (not_not_intro rfl)]
  exact congrArg (fun x => some (start, x)) UInt64.ofNat_toNat

theorem uvs_error (l : Log) (cs : UInt64) (st : Nat) (h : isCheckpoint l = .error) :
    updateVerifyState l cs st = none := by
  rw [updateVerifyState, h]

theorem uvs_plain (l : Log) (cs : UInt64) (st : Nat) (h : isCheckpoint l = .no) :
    updateVerifyState l cs st = some (l, checksumLog cs l, (if st = 0 then l.index else st), none) := by
  rw [updateVerifyState, h]

theorem uvs_leader (l : Log) (cs : UInt64) (st : Nat) (h : isCheckpoint l = .yes) (hext : l.ext = []) :
    updateVerifyState l cs st =
      some ({ l with ext := encodeMeta (if st = 0 then l.index else st) cs },
            checksumLog 0 { l with ext := encodeMeta (if st = 0 then l.index else st) cs }, l.index,
            some { start := if st = 0 then l.index else st, stop := l.index, expected := cs, written := cs }) := by
  rw [updateVerifyState, h, hext]
  rfl

theorem uvs_follower (l : Log) (cs : UInt64) (st : Nat) (h : isCheckpoint l = .yes) (hext : l.ext ≠ []) :
    updateVerifyState l cs st =
      (decodeMeta l.ext).map fun m =>
        (l, checksumLog 0 l, l.index,
         some { start := m.1, stop := l.index, expected := m.2,
                written := if m.1 ≠ (if st = 0 then l.index else st) then 0 else cs }) := by
  rw [updateVerifyState, h]
  simp only []
  rw [if_neg (fun h0 => hext (List.eq_nil_of_length_eq_zero h0))]
  cases decodeMeta l.ext with
  | none => rfl
  | some m => rfl

/-- the successful branches: an ordinary entry, a new checkpoint stamped (leader), a checkpoint received with the
    leader's metadata (follower) -/
theorem uvs_cases {l l' : Log} {cs cs' : UInt64} {st st' : Nat} {r : Option Report}
    (h : updateVerifyState l cs st = some (l', cs', st', r)) :
    (isCheckpoint l = .no ∧ l' = l ∧ cs' = checksumLog cs l ∧ st' = (if st = 0 then l.index else st) ∧ r = none) ∨
    (isCheckpoint l = .yes ∧ l.ext = [] ∧ l' = { l with ext := encodeMeta (if st = 0 then l.index else st) cs } ∧
      cs' = checksumLog 0 l' ∧ st' = l.index ∧
      r = some { start := if st = 0 then l.index else st, stop := l.index, expected := cs, written := cs }) ∨
    (isCheckpoint l = .yes ∧ l.ext ≠ [] ∧ l' = l ∧ cs' = checksumLog 0 l ∧ st' = l.index ∧
      ∃ a b, decodeMeta l.ext = some (a, b) ∧
        r = some { start := a, stop := l.index, expected := b,
                   written := if a ≠ (if st = 0 then l.index else st) then 0 else cs }) := by
  cases hcp : isCheckpoint l with
  | error => rw [uvs_error l cs st hcp] at h; cases h
  | no =>
    rw [uvs_plain l cs st hcp] at h
    cases h
    exact .inl ⟨rfl, rfl, rfl, rfl, rfl⟩
  | yes =>
    by_cases hext : l.ext = []
    · rw [uvs_leader l cs st hcp hext] at h
      cases h
      exact .inr (.inl ⟨rfl, hext, rfl, rfl, rfl, rfl⟩)
    · rw [uvs_follower l cs st hcp hext] at h
      cases hd : decodeMeta l.ext with
      | none => rw [hd] at h; cases h
      | some m =>
        rw [hd] at h
        cases h
        exact .inr (.inr ⟨rfl, hext, rfl, rfl, rfl, m.1, m.2, rfl, rfl⟩)

/-- what the middleware may do to an entry on its way to the store -/
def Transp (stored passed : Log) : Prop :=
  stored.index = passed.index ∧ stored.term = passed.term ∧ stored.typ = passed.typ ∧ stored.data = passed.data ∧
  stored.time = passed.time ∧
  (stored.ext = passed.ext ∨ (isCheckpoint passed = .yes ∧ passed.ext = [] ∧ stored.ext.length = 24))

theorem Transp.refl (l : Log) : Transp l l := ⟨rfl, rfl, rfl, rfl, rfl, .inl rfl⟩

theorem uvs_spec {l l' : Log} {cs cs' : UInt64} {st st' : Nat} {r : Option Report}
    (h : updateVerifyState l cs st = some (l', cs', st', r)) :
    Transp l' l ∧
    ((st' = (if st = 0 then l.index else st) ∧ cs' = checksumLog cs l') ∨
     (st' = l.index ∧ cs' = checksumLog 0 l')) := by
  rcases uvs_cases h with ⟨_, rfl, rfl, rfl, _⟩ | ⟨hcp, hext, rfl, rfl, rfl, _⟩ | ⟨_, _, rfl, rfl, rfl, _⟩
  · exact ⟨.refl _, .inl ⟨rfl, rfl⟩⟩
  · exact ⟨⟨rfl, rfl, rfl, rfl, rfl, .inr ⟨hcp, hext, encodeMeta_length _ _⟩⟩, .inr ⟨rfl, rfl⟩⟩
  · exact ⟨.refl _, .inr ⟨rfl, rfl⟩⟩

theorem uvs_report_err (l l' : Log) (cs cs' : UInt64) (st st' : Nat) (r : Report)
    (h : updateVerifyState l cs st = some (l', cs', st', some r)) : r.err = .none ∧ r.read = 0 := by
  rcases uvs_cases h with ⟨_, _, _, _, hr⟩ | ⟨_, _, _, _, _, hr⟩ | ⟨_, _, _, _, _, _, _, _, hr⟩
  · cases hr
  · cases hr; exact ⟨rfl, rfl⟩
  · cases hr; exact ⟨rfl, rfl⟩

/-- what `verify` reads back: the entries the node's store returns for `[start, stop)`, if all reads succeed -/
def readRange (n : Node) (start : Nat) : Nat → Option (List Log)
  | 0 => some []
  | k+1 => match n.getLog start with
    | .error _ => none
    | .ok l => (readRange n (start + 1) k).map (l :: ·)

theorem verify_go_eq (n : Node) (k idx : Nat) (sum : UInt64) :
    Node.verify.go n k idx sum = (readRange n idx k).map (chain sum) := by
  induction k generalizing idx sum with
  | zero => rfl
  | succ k ih =>
    rw [Node.verify.go, readRange]
    cases n.getLog idx with
    | error e => rfl
    | ok l =>
      simp only []
      rw [ih, Option.map_map]; rfl

theorem verify_inflight (n : Node) (r : Report) (hw : r.written ≠ 0 ∧ r.written ≠ r.expected) :
    n.verify r = ({ n with writeFail := n.writeFail + 1 }, { r with err := .checksumInFlight }) := by
  rw [Node.verify, if_pos hw]

theorem verify_closed (n : Node) (r : Report) (hw : ¬ (r.written ≠ 0 ∧ r.written ≠ r.expected))
    (hc : n.store.closed = true) : n.verify r = (n, { r with err := .readError }) := by
  rw [Node.verify, if_neg hw, if_pos hc]

theorem verify_range (n : Node) (r : Report) (hw : ¬ (r.written ≠ 0 ∧ r.written ≠ r.expected))
    (hopen : n.store.closed = false) (hfirst : n.store.firstIndex > r.start) :
    n.verify r = (n, { r with err := .rangeMismatch }) := by
  rw [Node.verify, if_neg hw, hopen, if_neg Bool.false_ne_true, if_pos hfirst]

theorem verify_read (n : Node) (r : Report) (hw : ¬ (r.written ≠ 0 ∧ r.written ≠ r.expected))
    (hopen : n.store.closed = false) (hfirst : n.store.firstIndex ≤ r.start) :
    n.verify r =
      match readRange n r.start (r.stop - r.start) with
      | none => (n, { r with err := .readError })
      | some es =>
        if chain 0 es ≠ r.expected then
          ({ n with readFail := n.readFail + 1 }, { r with read := chain 0 es, err := .checksumStorage })
        else (n, { r with read := chain 0 es }) := by
  rw [Node.verify, if_neg hw, hopen, if_neg Bool.false_ne_true, if_neg (Nat.not_lt.mpr hfirst), verify_go_eq]
  cases readRange n r.start (r.stop - r.start) with
  | none => rfl
  | some es => rfl

theorem verify_fst (n : Node) (r : Report) :
    ∃ w f, (n.verify r).1 = { n with writeFail := w, readFail := f } := by
  by_cases hw : r.written ≠ 0 ∧ r.written ≠ r.expected
  · rw [verify_inflight n r hw]; exact ⟨_, _, rfl⟩
  cases hc : n.store.closed with
  | true => rw [verify_closed n r hw hc]; exact ⟨_, _, rfl⟩
  | false =>
    by_cases hf : n.store.firstIndex > r.start
    · rw [verify_range n r hw hc hf]; exact ⟨_, _, rfl⟩
    rw [verify_read n r hw hc (Nat.le_of_not_lt hf)]
    cases readRange n r.start (r.stop - r.start) with
    | none => exact ⟨_, _, rfl⟩
    | some es =>
      by_cases he : chain 0 es ≠ r.expected
      · simp only [if_pos he]; exact ⟨_, _, rfl⟩
      · simp only [if_neg he]; exact ⟨_, _, rfl⟩

theorem take_eq (n : Node) (r : Report) :
    ∃ w f b, n.take r = { n with lastCP := r.stop, writeFail := w, readFail := f, busy := some b } := by
  rw [Node.take]
  simp only []
  generalize hr' : (if n.lastCP > 0 ∧ n.lastCP ≠ r.start then { r with skipped := some (n.lastCP, r.start) } else r) = r'
  have hstop : r'.stop = r.stop := by rw [← hr']; split <;> rfl
  obtain ⟨w, f, hv⟩ := verify_fst { n with lastCP := r'.stop } r'
  refine ⟨w, f, ({ n with lastCP := r'.stop }.verify r').2, ?_⟩
  rw [hv, hstop]

theorem take_frame (n : Node) (r : Report) :
    (n.take r).store = n.store ∧ (n.take r).checksum = n.checksum ∧
    (n.take r).sumStartIdx = n.sumStartIdx ∧ (n.take r).queued = n.queued ∧
    (n.take r).busy.isSome = true ∧ (n.take r).cpWritten = n.cpWritten ∧
    (n.take r).dropped = n.dropped ∧ (n.take r).verified = n.verified := by
  obtain ⟨w, f, b, h⟩ := take_eq n r
  rw [h]
  exact ⟨rfl, rfl, rfl, rfl, rfl, rfl, rfl, rfl⟩

/-- first case: empty batch, failing checkpoint predicate, or foreign Extensions; second: the batch `upd` produced is
    refused or taken by the store underneath -/
theorem storeLogs_cases (n : Node) (logs : List Log) :
    (∃ b, n.storeLogs logs = (n, [], b)) ∨
    ∃ passed cs st reports, logs ≠ [] ∧
      Node.storeLogs.upd logs n.checksum n.sumStartIdx [] [] = some (passed, cs, st, reports) ∧
      (n.storeLogs logs = (n, passed, true) ∨
       ((n.store.store passed).2 = none ∧
        n.storeLogs logs = (reports.foldl Node.trigger
          { n with store := (n.store.store passed).1, checksum := cs, sumStartIdx := st,
                   cpWritten := n.cpWritten + reports.length }, passed, false))) := by
  rw [Node.storeLogs]
  cases hl : logs.isEmpty with
  | true => exact .inl ⟨_, rfl⟩
  | false =>
    simp only [Bool.false_eq_true, if_false]
    cases hu : Node.storeLogs.upd logs n.checksum n.sumStartIdx [] [] with
    | none => exact .inl ⟨_, rfl⟩
    | some u =>
      obtain ⟨passed, cs, st, reports⟩ := u
      refine .inr ⟨passed, cs, st, reports, (fun h => by rw [h] at hl; cases hl), rfl, ?_⟩
      simp only []
      cases he : (n.store.store passed).2 with
      | some e => exact .inl rfl
      | none => exact .inr ⟨rfl, rfl⟩

theorem deleteRange_cases (n : Node) (mn mx : Nat) :
    (n.deleteRange mn mx).1 = n ∨
    ((n.store.delete mn mx).2 = none ∧
     (n.deleteRange mn mx).1 =
      if n.resetOnDelete = true ∧ n.sumStartIdx ≠ 0 ∧ mx ≥ n.sumStartIdx then
        { n with store := (n.store.delete mn mx).1, atRest := n.atRest.filter (fun p => p.1 < mn ∨ p.1 > mx),
                 checksum := 0, sumStartIdx := 0 }
      else { n with store := (n.store.delete mn mx).1, atRest := n.atRest.filter (fun p => p.1 < mn ∨ p.1 > mx) }) := by
  rw [Node.deleteRange]
  simp only []
  cases he : (n.store.delete mn mx).2 with
  | some e => exact .inl rfl
  | none => exact .inr ⟨rfl, rfl⟩

theorem trigger_cases (n : Node) (r : Report) :
    (n.busy = none ∧ n.trigger r = n.take r) ∨
    (∃ b, n.busy = some b ∧ n.queued = none ∧ n.trigger r = { n with queued := some r }) ∨
    (∃ b q, n.busy = some b ∧ n.queued = some q ∧ n.trigger r = { n with dropped := n.dropped + 1 }) := by
  rw [Node.trigger]
  cases n.busy with
  | none => exact .inl ⟨rfl, rfl⟩
  | some b =>
    cases n.queued with
    | none => exact .inr (.inl ⟨b, rfl, rfl, rfl⟩)
    | some q => exact .inr (.inr ⟨b, q, rfl, rfl, rfl⟩)

theorem release_cases (n : Node) :
    (n.busy = none ∧ n.release = (n, none)) ∨
    (∃ r, n.busy = some r ∧ n.queued = none ∧
      n.release = ({ n with busy := none, verified := n.verified + 1 }, some r)) ∨
    (∃ r q, n.busy = some r ∧ n.queued = some q ∧
      n.release = (({ n with busy := none, verified := n.verified + 1, queued := none }).take q, some r)) := by
  rw [Node.release]
  cases hb : n.busy with
  | none => exact .inl ⟨rfl, rfl⟩
  | some r =>
    cases hq : n.queued with
    | none => exact .inr (.inl ⟨r, rfl, rfl, rfl⟩)
    | some q => exact .inr (.inr ⟨r, q, rfl, rfl, rfl⟩)

/-- what the hand-off to the verifier goroutine and the goroutine itself leave alone -/
structure SameCore (n m : Node) : Prop where
  store : m.store = n.store
  checksum : m.checksum = n.checksum
  sumStartIdx : m.sumStartIdx = n.sumStartIdx
  resetOnDelete : m.resetOnDelete = n.resetOnDelete

theorem SameCore.trans {a b c : Node} (h1 : SameCore a b) (h2 : SameCore b c) : SameCore a c :=
  ⟨h2.store.trans h1.store, h2.checksum.trans h1.checksum, h2.sumStartIdx.trans h1.sumStartIdx,
   h2.resetOnDelete.trans h1.resetOnDelete⟩

theorem take_core (n : Node) (r : Report) : SameCore n (n.take r) := by
  obtain ⟨w, f, b, h⟩ := take_eq n r
  rw [h]
  exact ⟨rfl, rfl, rfl, rfl⟩

theorem trigger_core (n : Node) (r : Report) : SameCore n (n.trigger r) := by
  rcases trigger_cases n r with ⟨_, h⟩ | ⟨_, _, _, h⟩ | ⟨_, _, _, _, h⟩
  · rw [h]; exact take_core n r
  · rw [h]; exact ⟨rfl, rfl, rfl, rfl⟩
  · rw [h]; exact ⟨rfl, rfl, rfl, rfl⟩

theorem foldl_trigger_core (rs : List Report) (n : Node) : SameCore n (rs.foldl Node.trigger n) := by
  induction rs generalizing n with
  | nil => exact ⟨rfl, rfl, rfl, rfl⟩
  | cons r rs ih => exact (trigger_core n r).trans (ih _)

theorem release_core (n : Node) : SameCore n n.release.1 := by
  rcases release_cases n with ⟨_, h⟩ | ⟨r, _, _, h⟩ | ⟨r, q, _, _, h⟩
  · rw [h]; exact ⟨rfl, rfl, rfl, rfl⟩
  · rw [h]; exact ⟨rfl, rfl, rfl, rfl⟩
  · rw [h]
    exact .trans (b := { n with busy := none, verified := n.verified + 1, queued := none }) ⟨rfl, rfl, rfl, rfl⟩
      (take_core _ q)

end RaftWal.Verifier
