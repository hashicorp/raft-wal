/-
  Proofs/ConcReclaim.lean — C13 under concurrency (Model/Conc.lean): files a state change removes from the log are
  closed (for truncations, deleted) exactly when the last holder of the replaced state lets go.  Read off `OInv`.
-/
import RaftWal.Proofs.ConcProps
namespace RaftWal.Conc

-- `hs` is idle in this and the next statement: a slot other than `unset` only exists on a replaced object
/-- **reclaimed as soon as released**: in every reachable state, a state object whose finalizer has been attached and
    that nobody holds any more has run its finalizer -/
theorem reclaimed_when_released (files wants : List FileId) (muts : List Mutation) (hwf : InitWF files muts) (s : Sys)
    (h : Reachable files wants muts s) (sid : Nat) (hs : sid < s.objs.length)
    (hfin : (s.obj sid).fin ≠ .unset) (h0 : (s.obj sid).refCount = 0) : (s.obj sid).fin = .taken := by
  have hi := (h.inv hwf).toOInv
  cases hf : (s.obj sid).fin with
  | unset => exact absurd hf hfin
  | taken => rfl
  | set c =>
    have := (hi.fin_set sid c hf).2
    omega

/-- **what a finished finalizer has closed**: every file the replaced state referenced and its successor does not -/
theorem dropped_files_closed (files wants : List FileId) (muts : List Mutation) (hwf : InitWF files muts) (s : Sys)
    (h : Reachable files wants muts s) (sid : Nat) (hs : sid + 1 < s.objs.length)
    (hfin : (s.obj sid).fin = .taken) :
    ∀ f ∈ (s.obj sid).files, f ∉ (s.obj (sid + 1)).files → s.isOpen f = false := by
  intro f hf hnf
  have hm := (h.inv hwf).cl_compl sid hfin f ⟨hf, hnf⟩
  simp [Sys.isOpen, hm]

/-- **nothing is closed early**: a file is closed only if some replaced state whose finalizer has run referenced it and
    that state's successor does not -/
theorem closed_only_by_finalizer (files wants : List FileId) (muts : List Mutation) (hwf : InitWF files muts) (s : Sys)
    (h : Reachable files wants muts s) (f : FileId) (hc : s.isOpen f = false) :
    ∃ sid, sid + 1 < s.objs.length ∧ (s.obj sid).fin = .taken ∧ f ∈ (s.obj sid).files ∧ f ∉ (s.obj (sid + 1)).files := by
  have hi := (h.inv hwf).toOInv
  have hm : f ∈ s.closedFiles := by simpa [Sys.isOpen] using hc
  obtain ⟨k, hk1, hk2, hk3⟩ := hi.cl_sound f hm
  exact ⟨k, hi.succ_lt_of_fin_ne (by rw [hk1]; nofun), hk1, hk2, hk3⟩

/-- the current state has no finalizer -/
theorem current_has_no_finalizer (files wants : List FileId) (muts : List Mutation) (hwf : InitWF files muts) (s : Sys)
    (h : Reachable files wants muts s) : (s.obj s.cur).fin = .unset := by
  exact (h.inv hwf).fin_cur

/-! non-vacuity: a reader pins the old state across a truncation; the file goes when it lets go -/
example : ∃ sched : List Tid,
    let s := run fixed (init [1, 2] [1] [{ keep := [2], add := [3] }]) sched
    (s.obj 0).fin = .taken ∧ s.isOpen 1 = false ∧ s.isOpen 2 = true := by
  -- reader: closed check, load pointer (object 0), acquire; writer: lock, hold, publish, attach finalizer, release
  -- (count 2 → 1, finalizer stays); reader: read, release (count 1 → 0: finalizer runs, file 1 closed)
  refine ⟨[.reader 0, .reader 0, .reader 0, .writer, .writer, .writer, .writer, .writer, .reader 0, .reader 0], ?_⟩
  decide

end RaftWal.Conc
