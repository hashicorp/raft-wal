/-
  Proofs/ConcWProps.lean — the write path against Close and the background rotation (Model/ConcW.lean), for EVERY
  schedule of any number of writers (sealing or not), the rotation goroutine and Close.

  Outcome.  `results`, `closed_is_final`, `no_use_after_close`, `no_io_after_close`, `mutual_exclusion` hold as stated,
  for every schedule (invariant `MutexInv`).  `no_runtime_panic_stmt` and `no_deadlock_stmt` are FALSE: a writer woken
  from `<-awaitCh` re-takes the lock and goes on WITHOUT looking at `w.awaitRotate` again (awaitRotationLocked is an
  `if`, not a loop); if another filling append has queued a new rotation in the meantime, the woken writer — if it
  fills the tail too — overwrites the pending `awaitRotate` channel and sends a second trigger.  Then two triggers
  share one channel: the rotation goroutine's second pass closes a nil channel (`no_runtime_panic_refuted`, three
  filling appends), and the overwritten channel is never closed, so a writer waiting on it waits for ever
  (`no_deadlock_refuted`, three filling appends and one other write call).  Both hold
  * under the single-appender discipline (`Reachable1`: a filling append starts only when no other is in flight;
    all other write calls and Close at any time): `no_runtime_panic_corrected`, `no_deadlock_corrected`;
  * more generally along every schedule none of whose steps overwrites a pending channel
    (`no_runtime_panic_no_overwrite`, `no_deadlock_no_overwrite`): the overwrite is the only way to fail.
-/
import RaftWal.Model.ConcW
import RaftWal.Proofs.ConcWLive
namespace RaftWal.ConcW

/-- everything reachable from an initial system under any schedule, with the three guards in place -/
def Reachable (seals : List Bool) (s : Sys) : Prop := ∃ sched : List Tid, s = run fixed (init seals) sched

/-- everything reachable under the single-appender discipline (`run1`) -/
def Reachable1 (seals : List Bool) (s : Sys) : Prop := ∃ sched : List Tid, s = run1 fixed (init seals) sched

theorem Reachable.mutexInv {seals : List Bool} {s : Sys} (h : Reachable seals s) : MutexInv s := by
  obtain ⟨sched, rfl⟩ := h
  exact mutexInv_run sched _ (mutexInv_init seals)

theorem Reachable1.reachable {seals : List Bool} {s : Sys} (h : Reachable1 seals s) : Reachable seals s := by
  obtain ⟨sched, rfl⟩ := h
  obtain ⟨sched', e⟩ := run1_is_run sched (init seals)
  exact ⟨sched', e⟩

theorem Reachable1.inv {seals : List Bool} {s : Sys} (h : Reachable1 seals s) :
    MutexInv s ∧ WakeInv s ∧ SingleInv s := by
  obtain ⟨sched, rfl⟩ := h
  exact inv_run1 sched _ (mutexInv_init seals) (wakeInv_init seals) (singleInv_init seals)

/-! ### C14 no panic -/

/-- **C14 no panic**: no execution dereferences the empty state, sends on a closed channel, or closes a nil or closed
    channel — in a writer or in the rotation goroutine.  FALSE as stated (`no_runtime_panic_refuted`). -/
def no_runtime_panic_stmt : Prop := ∀ (seals : List Bool) (s : Sys), Reachable seals s →
    s.bad = false ∧ ∀ w ∈ s.writers, w.pc ≠ .done .panic

/-- three filling appends.  w0 queues a rotation (channel 0); w1 finds it pending and waits; w2 takes the lock after
    the rotation goroutine has cleared `awaitRotate` (it is about to close channel 0) and queues the next rotation
    (channel 1); the goroutine closes channel 0; w1 wakes, re-takes the lock and — without looking at `awaitRotate` —
    blocks on the full trigger buffer; the goroutine receives w2's trigger; w1's send goes through, `awaitRotate` is now
    channel 2 and channel 1 is lost.  The goroutine rotates for the first trigger and closes channel 2, receives the
    second trigger, rotates again with `awaitRotate == nil` and closes a nil channel. -/
def panicSched : List Tid :=
  [.writer 0, .writer 0, .writer 0, .writer 0, .writer 0, .writer 1, .writer 1, .writer 1, .writer 2,
   .rotator, .rotator, .rotator, .writer 2, .writer 2, .writer 2, .writer 2, .rotator,
   .writer 1, .writer 1, .writer 1, .rotator, .writer 1,
   .rotator, .rotator, .rotator, .rotator, .rotator, .rotator, .rotator]

theorem no_runtime_panic_refuted : ¬ no_runtime_panic_stmt := by
  intro h
  have h1 := (h [true, true, true] _ ⟨panicSched, rfl⟩).1
  exact absurd h1 (by decide +kernel)

theorem panicSched_overwrites : ¬ NoOverwrite (init [true, true, true]) panicSched := by decide +kernel

/-- the half of the statement that holds for every schedule: no writer panics -/
theorem no_runtime_panic_writers (seals : List Bool) (s : Sys) (h : Reachable seals s) :
    ∀ w ∈ s.writers, w.pc ≠ .done .panic :=
  fun w hw => (h.mutexInv.writers_ok w hw).1

/-- **C14 no panic**, corrected: under the single-appender discipline -/
theorem no_runtime_panic_corrected (seals : List Bool) (s : Sys) (h : Reachable1 seals s) :
    s.bad = false ∧ ∀ w ∈ s.writers, w.pc ≠ .done .panic :=
  ⟨h.inv.2.1.bad, no_runtime_panic_writers seals s h.reachable⟩

/-- **C14 no panic**, the general form: along every schedule of any writers in which no sealing writer overwrites a
    pending `awaitRotate` channel -/
theorem no_runtime_panic_no_overwrite (seals : List Bool) (sched : List Tid)
    (hno : NoOverwrite (init seals) sched) :
    (run fixed (init seals) sched).bad = false ∧
      ∀ w ∈ (run fixed (init seals) sched).writers, w.pc ≠ .done .panic := by
  have := inv_run_noOverwrite sched _ (mutexInv_init seals) (wakeInv_init seals) hno
  exact ⟨this.2.bad, fun w hw => (this.1.writers_ok w hw).1⟩

/-- **C14 every write call returns a result or ErrClosed** -/
theorem results (seals : List Bool) (s : Sys) (h : Reachable seals s) (w : Writer) (hw : w ∈ s.writers) (r : WRes)
    (hr : w.pc = .done r) : r = .ok ∨ r = .errClosed := by
  cases r with
  | ok => exact Or.inl rfl
  | errClosed => exact Or.inr rfl
  | panic => exact absurd hr (h.mutexInv.writers_ok w hw).1

/-- **C14 Close is final**: a write call that starts once the flag is set returns ErrClosed -/
theorem closed_is_final (s : Sys) (i : Nat) (w : Writer) (hw : s.writers[i]? = some w) (hpc : w.pc = .start)
    (hc : s.closed = true) : ((stepWriter fixed s i).writers[i]?.map (·.pc)) = some (.done .errClosed) := by
  have hi : i < s.writers.length := (List.getElem?_eq_some_iff.mp hw).1
  unfold stepWriter
  simp only [hw, hpc]
  rw [if_pos hc, setW_writers, List.getElem?_set_self hi]
  rfl

/-- **C14 no write gets past a completed Close**: once Close has returned no writer is at `use`, the one position at
    which the state is used -/
theorem no_use_after_close (seals : List Bool) (s : Sys) (h : Reachable seals s) (hc : s.cpc = .done) :
    ∀ w ∈ s.writers, w.pc ≠ .use :=
  fun w hw hpc => (h.mutexInv.writers_ok w hw).2 hpc hc

/-- **C14 nothing runs after Close**: the rotation goroutine performs no rotation (meta commit, file creation) after
    Close has returned -/
theorem no_io_after_close (seals : List Bool) (s : Sys) (h : Reachable seals s) : s.ioAfterClose = false :=
  h.mutexInv.io

/-! ### C14 no deadlock -/

/-- **C14 no deadlock**: as long as some write call has not returned, or Close is under way, some thread can move.
    FALSE as stated (`no_deadlock_refuted`). -/
def no_deadlock_stmt : Prop := ∀ (seals : List Bool) (s : Sys), Reachable seals s →
    ((∃ w ∈ s.writers, ∀ r, w.pc ≠ .done r) ∨ s.cpc = .flagged ∨ s.cpc = .locked) →
    ∃ t, step fixed s t ≠ s

/-- as `panicSched`, with a fourth write call (w3, not filling) that finds w2's channel 1 pending and waits for it
    before w1 overwrites it; then Close.  Nothing ever closes channel 1: Close finds channel 2 (or nil) in
    `awaitRotate`, the rotation goroutine sees `closed` and leaves.  No panic anywhere in this execution. -/
def deadlockSched : List Tid :=
  [.writer 0, .writer 0, .writer 0, .writer 0, .writer 0, .writer 1, .writer 1, .writer 1, .writer 2, .writer 3,
   .rotator, .rotator, .rotator, .writer 2, .writer 2, .writer 2, .writer 2, .writer 3, .writer 3, .rotator,
   .writer 1, .writer 1, .writer 1, .rotator, .writer 1, .rotator, .closer, .rotator, .closer, .closer]

/-- nobody can move: it suffices to look at the rotation goroutine, Close and the writers there are -/
theorem stuck_of (cfg : Cfg) (s : Sys) (hr : stepRotator cfg s = s) (hc : stepCloser cfg s = s)
    (hw : ∀ i, i < s.writers.length → stepWriter cfg s i = s) : ∀ t, step cfg s t = s := by
  intro t
  cases t with
  | writer i =>
    by_cases hi : i < s.writers.length
    · exact hw i hi
    · exact stepWriter_none cfg s i (List.getElem?_eq_none (Nat.le_of_not_lt hi))
  | rotator => exact hr
  | closer => exact hc

/-- where `deadlockSched` ends: w3 waits for channel 1, Close and the rotation goroutine have left -/
theorem deadlockSched_final : run fixed (init [true, true, true, false]) deadlockSched =
    { closed := true, stateEmpty := true, nextChan := 3, closedChans := [2, 0], trigQueued := true, trigClosed := true,
      writers := [⟨.done .ok, true⟩, ⟨.done .ok, true⟩, ⟨.done .ok, true⟩, ⟨.waiting 1, false⟩],
      rpc := .exited, cpc := .done, rotations := 1 } := by decide +kernel

theorem no_deadlock_refuted : ¬ no_deadlock_stmt := by
  intro h
  obtain ⟨t, ht⟩ := h [true, true, true, false] _ ⟨deadlockSched, rfl⟩
    (Or.inl ⟨⟨.waiting 1, false⟩, by rw [deadlockSched_final]; decide, nofun⟩)
  rw [deadlockSched_final] at ht
  exact ht (stuck_of fixed _ (by decide) (by decide) (by decide) t)

theorem deadlockSched_no_panic : (run fixed (init [true, true, true, false]) deadlockSched).bad = false := by
  rw [deadlockSched_final]

/-- **C14 no deadlock**, corrected: under the single-appender discipline -/
theorem no_deadlock_corrected (seals : List Bool) (s : Sys) (h : Reachable1 seals s)
    (hp : (∃ w ∈ s.writers, ∀ r, w.pc ≠ .done r) ∨ s.cpc = .flagged ∨ s.cpc = .locked) :
    ∃ t, step1 fixed s t ≠ s :=
  can_move1 s h.inv.1 h.inv.2.1 hp

/-- **C14 no deadlock**, the general form: in every state reached without overwriting a pending channel -/
theorem no_deadlock_no_overwrite (seals : List Bool) (sched : List Tid) (hno : NoOverwrite (init seals) sched)
    (s : Sys) (hs : s = run fixed (init seals) sched)
    (hp : (∃ w ∈ s.writers, ∀ r, w.pc ≠ .done r) ∨ s.cpc = .flagged ∨ s.cpc = .locked) :
    ∃ t, step fixed s t ≠ s := by
  subst hs
  have := inv_run_noOverwrite sched _ (mutexInv_init seals) (wakeInv_init seals) hno
  exact can_move _ this.1 this.2 hp

/-- **C14 the write lock is exclusive**: the lock bit counts the threads at a lock-holding position -/
theorem mutual_exclusion (seals : List Bool) (s : Sys) (h : Reachable seals s) :
    holders s = (if s.lock then 1 else 0) := by
  have hm : holders s = s.lock.toNat := h.mutexInv.mutex
  rw [hm]
  cases s.lock <;> rfl

/-! ### each guard is needed: with one of them switched off there is a failing schedule -/

/-- without the re-check after awaitRotationLocked a writer woken by Close dereferences the empty state -/
theorem panic_without_recheck : ∃ seals sched,
    (run { fixed with recheckAfterAwait := false } (init seals) sched).bad = true := by
  refine ⟨[true, false],
    [.writer 0, .writer 0, .writer 0, .writer 0, .writer 0, .writer 1, .writer 1, .writer 1,
     .closer, .closer, .closer, .writer 1, .writer 1, .writer 1, .writer 1], ?_⟩
  decide +kernel

/-- without the wake-up in Close a writer waiting for a rotation that will never run waits for ever: a reachable state
    with a writer that has not returned in which no thread can move -/
theorem deadlock_without_wake : ∃ seals sched,
    let s := run { fixed with closeWakes := false } (init seals) sched
    (∃ w ∈ s.writers, ∀ r, w.pc ≠ .done r) ∧ ∀ t, step { fixed with closeWakes := false } s t = s := by
  refine ⟨[true, false],
    [.writer 0, .writer 0, .writer 0, .writer 0, .writer 0, .writer 1, .writer 1, .writer 1,
     .rotator, .rotator, .closer, .rotator, .closer, .closer], ?_⟩
  intro s
  have hs : s = { closed := true, stateEmpty := true, nextChan := 1, trigClosed := true,
                  writers := [⟨.done .ok, true⟩, ⟨.waiting 0, false⟩], rpc := .exited, cpc := .done } := by
    decide +kernel
  rw [hs]
  exact ⟨⟨⟨.waiting 0, false⟩, by decide, nofun⟩, stuck_of _ _ (by decide) (by decide) (by decide)⟩

/-- without the re-check in runRotate a rotation queued before Close runs on the empty state: the process dies -/
theorem panic_without_rotator_recheck : ∃ seals sched,
    (run { fixed with rotatorRechecks := false } (init seals) sched).bad = true := by
  refine ⟨[true],
    [.writer 0, .writer 0, .writer 0, .writer 0, .writer 0, .rotator, .closer, .closer, .closer,
     .rotator, .rotator], ?_⟩
  decide +kernel

/-! ### `Reachable` and `Reachable1` instantiated -/

example : Reachable [true, false] (run fixed (init [true, false])
    [.writer 0, .writer 0, .writer 0, .writer 0, .writer 0, .writer 1, .writer 1, .writer 1, .closer, .closer, .closer]) :=
  ⟨_, rfl⟩

example : Reachable1 [true, false] (run1 fixed (init [true, false])
    [.writer 0, .writer 0, .writer 0, .writer 0, .writer 0, .writer 1, .writer 1, .writer 1, .closer, .closer, .closer]) :=
  ⟨_, rfl⟩

end RaftWal.ConcW
