/-
  Proofs/ConcObjects.lean — the invariant `OInv` on the state objects, `cur` and the closed handles, kept by the four
  things a step does to the objects: count up, release, attach a finalizer, publish a successor.
-/
import RaftWal.Proofs.ConcBasics
namespace RaftWal.Conc

/-- file `f` leaves the log between object `k` and its successor -/
def dropped (s : Sys) (k : Nat) (f : FileId) : Prop := f ∈ (s.obj k).files ∧ f ∉ (s.obj (k + 1)).files

structure OInv (s : Sys) : Prop where
  cur_last : s.cur + 1 = s.objs.length
  fin_cur : (s.obj s.cur).fin = .unset
  fin_set : ∀ k c, (s.obj k).fin = .set c → (∀ f, f ∈ c ↔ dropped s k f) ∧ 1 ≤ (s.obj k).refCount
  /-- with `cl_compl`: closed are the files dropped at objects whose finalizer has run -/
  cl_sound : ∀ f ∈ s.closedFiles, ∃ k, (s.obj k).fin = .taken ∧ dropped s k f
  cl_compl : ∀ k, (s.obj k).fin = .taken → ∀ f, dropped s k f → f ∈ s.closedFiles
  no_dc : s.doubleClose = false
  /-- a dropped file never comes back -/
  convex : ∀ i m j f, i ≤ m → m ≤ j → f ∈ (s.obj i).files → f ∈ (s.obj j).files → f ∈ (s.obj m).files

theorem OInv.dropped_unique {s : Sys} (h : OInv s) {i j : Nat} {f : FileId} (hi : dropped s i f)
    (hj : dropped s j f) : i = j := by
  rcases Nat.lt_trichotomy i j with hlt | he | hgt
  · exact absurd (h.convex i (i + 1) j f (Nat.le_succ i) hlt hi.1 hj.1) hi.2
  · exact he
  · exact absurd (h.convex j (j + 1) i f (Nat.le_succ j) hgt hj.1 hi.1) hj.2

theorem OInv.succ_lt_of_fin_ne {s : Sys} (h : OInv s) {k : Nat} (hk : (s.obj k).fin ≠ .unset) :
    k + 1 < s.objs.length := by
  have hlt : k < s.cur + 1 := h.cur_last ▸ Nat.lt_of_not_le fun hle => hk (by rw [obj_default s k hle])
  exact h.cur_last ▸ Nat.succ_lt_succ (Nat.lt_of_le_of_ne (Nat.le_of_lt_succ hlt) fun e => hk (e ▸ h.fin_cur))

theorem OInv.frame {s s' : Sys} (h : OInv s) (hlen : s'.objs.length = s.objs.length) (hcur : s'.cur = s.cur)
    (hcf : s'.closedFiles = s.closedFiles) (hdc : s'.doubleClose = s.doubleClose)
    (hfiles : ∀ k, (s'.obj k).files = (s.obj k).files) (hfin : ∀ k, (s'.obj k).fin = (s.obj k).fin)
    (hrc : ∀ k c, (s.obj k).fin = .set c → 1 ≤ (s'.obj k).refCount) : OInv s' := by
  constructor
  all_goals simp only [dropped, hfiles, hfin, hcur, hcf, hdc, hlen]
  case fin_set => exact fun k c hk => ⟨(h.fin_set k c hk).1, hrc k c hk⟩
  case cur_last => exact h.cur_last
  case fin_cur => exact h.fin_cur
  case cl_sound => exact h.cl_sound
  case cl_compl => exact h.cl_compl
  case no_dc => exact h.no_dc
  case convex => exact h.convex

theorem OInv.congr {s s' : Sys} (h : OInv s) (ho : s'.objs = s.objs := by rfl) (hc : s'.cur = s.cur := by rfl)
    (hcf : s'.closedFiles = s.closedFiles := by rfl) (hdc : s'.doubleClose = s.doubleClose := by rfl) : OInv s' :=
  h.frame (congrArg List.length ho) hc hcf hdc (fun k => by rw [obj_congr ho]) (fun k => by rw [obj_congr ho])
    (fun k c hk => by rw [obj_congr ho]; exact (h.fin_set k c hk).2)

theorem OInv.incRc {s : Sys} (h : OInv s) (sid : Nat) : OInv (s.incRc sid) :=
  h.frame (setObj_length ..) rfl rfl rfl (incRc_files s sid) (incRc_fin s sid)
    (fun k c hk => Nat.le_trans (h.fin_set k c hk).2 (incRc_refCount_le s sid k))

theorem OInv.release {s : Sys} (h : OInv s) (sid : Nat) : OInv (s.release sid) := by
  rcases rel_cases s sid with ⟨c, _, hf, hrf, hrc⟩ | ⟨hrf, hrc, hne⟩
  · -- the finalizer runs: `sid` goes from `set c` to `taken`, the files in `c` are closed
    have hc := (h.fin_set sid c hf).1
    constructor
    all_goals simp only [dropped, release_files, release_fin, hrf, release_length, release_cur, release_closedFiles,
      release_doubleClose, hrc]
    case cur_last => exact h.cur_last
    case fin_cur =>
      rw [if_neg (fun e => by have := h.fin_cur; rw [← e, hf] at this; cases this)]; exact h.fin_cur
    case fin_set =>
      intro k c' hk
      split at hk
      · cases hk
      · next hks =>
        refine ⟨(h.fin_set k c' hk).1, ?_⟩
        rw [release_obj, if_neg hks]
        exact (h.fin_set k c' hk).2
    case cl_sound =>
      intro f hfm
      rcases List.mem_append.1 hfm with hfm | hfm
      · obtain ⟨k, hk1, hk2⟩ := h.cl_sound f hfm
        refine ⟨k, ?_, hk2⟩
        split
        · rfl
        · exact hk1
      · exact ⟨sid, if_pos rfl, (hc f).1 hfm⟩
    case cl_compl =>
      intro k hk f hd
      rw [List.mem_append]
      split at hk
      · next hks => subst hks; exact Or.inr ((hc f).2 hd)
      · exact Or.inl (h.cl_compl k hk f hd)
    case no_dc =>
      -- a file in `c` is dropped at `sid`; were it closed already, it would also be dropped at a `taken` object
      rw [h.no_dc, Bool.false_or, List.any_eq_false]
      intro f hfc hcon
      obtain ⟨k, hk1, hk2⟩ := h.cl_sound f (List.contains_iff_mem.1 hcon)
      rw [h.dropped_unique hk2 ((hc f).1 hfc), hf] at hk1
      cases hk1
    case convex => exact h.convex
  · -- only the count changes, and not to 0 if a finalizer is attached
    have hfin : ∀ k, ((s.release sid).obj k).fin = (s.obj k).fin := by
      intro k
      rw [release_fin, hrf]
      split
      · next hk => rw [hk]
      · rfl
    refine h.frame (release_length ..) (release_cur ..) (by rw [release_closedFiles, hrc, List.append_nil])
      (by rw [release_doubleClose, hrc]; exact Bool.or_false _) (release_files s sid) hfin ?_
    intro k c hk
    rw [release_obj]
    split
    · next hks => subst hks; exact Nat.pos_of_ne_zero (fun h0 => hne h0 c hk)
    · exact (h.fin_set k c hk).2

theorem OInv.setFin {s : Sys} (h : OInv s) (sid : Nat) (c : List FileId) (hsid : sid + 1 = s.cur)
    (hunset : (s.obj sid).fin = .unset) (hrc : 1 ≤ (s.obj sid).refCount) (hc : ∀ f, f ∈ c ↔ dropped s sid f) :
    OInv (s.setObj sid { s.obj sid with fin := .set c }) := by
  have hlt : sid < s.objs.length := by have := h.cur_last; omega
  have hfiles := setObj_proj (·.files) s sid { s.obj sid with fin := .set c } rfl
  have hrcs := setObj_proj (·.refCount) s sid { s.obj sid with fin := .set c } rfl
  have hfin : ∀ k, ((s.setObj sid { s.obj sid with fin := .set c }).obj k).fin =
      if sid = k then .set c else (s.obj k).fin := by
    intro k; rw [obj_setObj]; simp only [hlt, and_true]; split <;> rfl
  constructor
  all_goals simp only [dropped, hfiles, hfin, hrcs, setObj_length, setObj_cur, setObj_closedFiles,
    setObj_doubleClose]
  case cur_last => exact h.cur_last
  case fin_cur => rw [if_neg (by omega)]; exact h.fin_cur
  case fin_set =>
    intro k c' hk
    split at hk
    · next hks => subst hks; cases hk; exact ⟨hc, hrc⟩
    · exact h.fin_set k c' hk
  case cl_sound =>
    intro f hfm
    obtain ⟨k, hk1, hk2⟩ := h.cl_sound f hfm
    exact ⟨k, by rw [if_neg (fun e => by rw [← e, hunset] at hk1; cases hk1)]; exact hk1, hk2⟩
  case cl_compl =>
    intro k hk
    split at hk
    · cases hk
    · exact h.cl_compl k hk
  case no_dc => exact h.no_dc
  case convex => exact h.convex

theorem OInv.append {s s' : Sys} (h : OInv s) {o : Obj} (ho : s'.objs = s.objs ++ [o]) (hcur : s'.cur = s.objs.length)
    (hcf : s'.closedFiles = s.closedFiles) (hdc : s'.doubleClose = s.doubleClose) (hfin : o.fin = .unset)
    (hfl : ∀ f ∈ o.files, f ∈ (s.obj s.cur).files ∨ ∀ k, f ∉ (s.obj k).files) : OInv s' := by
  have hobj := obj_append ho
  have hcl := h.cur_last
  -- below `cur` nothing changes, and that is where the finalizers are
  have hsame : ∀ k, k + 1 < s.objs.length → s'.obj k = s.obj k ∧ s'.obj (k + 1) = s.obj (k + 1) := by
    intro k hk
    rw [hobj, hobj, if_neg (Nat.ne_of_lt (Nat.lt_of_succ_lt hk)), if_neg (Nat.ne_of_lt hk)]
    exact ⟨rfl, rfl⟩
  have hfin' := append_proj (·.fin) ho hfin
  have hd : ∀ k, (s.obj k).fin ≠ .unset → ∀ f, dropped s' k f ↔ dropped s k f := by
    intro k hk f
    obtain ⟨h1, h2⟩ := hsame k (h.succ_lt_of_fin_ne hk)
    rw [dropped, h1, h2]; rfl
  constructor
  case cur_last => rw [hcur, ho, List.length_append]; rfl
  case fin_cur => rw [hcur, hobj, if_pos rfl]; exact hfin
  case fin_set =>
    intro k c hk
    rw [hfin'] at hk
    have hne : (s.obj k).fin ≠ .unset := by rw [hk]; nofun
    rw [(hsame k (h.succ_lt_of_fin_ne hne)).1]
    exact ⟨fun f => ((h.fin_set k c hk).1 f).trans (hd k hne f).symm, (h.fin_set k c hk).2⟩
  case cl_sound =>
    intro f hfm
    rw [hcf] at hfm
    obtain ⟨k, hk1, hk2⟩ := h.cl_sound f hfm
    exact ⟨k, by rw [hfin']; exact hk1, (hd k (by rw [hk1]; nofun) f).2 hk2⟩
  case cl_compl =>
    intro k hk f hdr
    rw [hfin'] at hk
    rw [hcf]
    exact h.cl_compl k hk f ((hd k (by rw [hk]; nofun) f).1 hdr)
  case no_dc => rw [hdc]; exact h.no_dc
  case convex =>
    intro i m j f him hmj hi hj
    rw [hobj] at hi hj ⊢
    split at hj
    · next hjn =>
      split
      · exact hj
      · next hmn =>
        have hm : m < s.objs.length := Nat.lt_of_le_of_ne (hjn ▸ hmj) hmn
        rw [if_neg (Nat.ne_of_lt (Nat.lt_of_le_of_lt him hm))] at hi
        rcases hfl f hj with hc | hc
        · exact h.convex i m s.cur f him (Nat.le_of_lt_succ (Nat.lt_of_lt_of_eq hm hcl.symm)) hi hc
        · exact absurd hi (hc i)
    · next hjn =>
      have hjlt : j < s.objs.length := by
        apply Nat.lt_of_not_le
        intro hle
        rw [obj_default s j hle] at hj
        cases hj
      rw [if_neg (Nat.ne_of_lt (Nat.lt_of_le_of_lt (Nat.le_trans him hmj) hjlt))] at hi
      rw [if_neg (Nat.ne_of_lt (Nat.lt_of_le_of_lt hmj hjlt))]
      exact h.convex i m j f him hmj hi hj

end RaftWal.Conc
