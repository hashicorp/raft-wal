/-
  Proofs/ConcWSteps.lean — each step function of Model/ConcW.lean under `fixed`, described once as a relation whose
  index is the state after the step (`WMove`, `RStep`, `CStep`); the proofs about the write path go by cases on these.
-/
import RaftWal.Model.ConcW
import RaftWal.Proofs.Schedules
namespace RaftWal.ConcW

/-- is a writer at this position holding writeMu? -/
def holdsPc (pc : WPc) : Bool := pc == .locked || pc == .check || pc == .use

@[simp] theorem holdsPc_start : holdsPc .start = false := rfl
@[simp] theorem holdsPc_wantLock : holdsPc .wantLock = false := rfl
@[simp] theorem holdsPc_locked : holdsPc .locked = true := rfl
@[simp] theorem holdsPc_waiting (ch : Nat) : holdsPc (.waiting ch) = false := rfl
@[simp] theorem holdsPc_relock : holdsPc .relock = false := rfl
@[simp] theorem holdsPc_check : holdsPc .check = true := rfl
@[simp] theorem holdsPc_use : holdsPc .use = true := rfl
@[simp] theorem holdsPc_done (r : WRes) : holdsPc (.done r) = false := rfl

@[simp] theorem setW_closed (s : Sys) (i : Nat) (w : Writer) : (setW s i w).closed = s.closed := rfl
@[simp] theorem setW_lock (s : Sys) (i : Nat) (w : Writer) : (setW s i w).lock = s.lock := rfl
@[simp] theorem setW_stateEmpty (s : Sys) (i : Nat) (w : Writer) : (setW s i w).stateEmpty = s.stateEmpty := rfl
@[simp] theorem setW_await (s : Sys) (i : Nat) (w : Writer) : (setW s i w).await = s.await := rfl
@[simp] theorem setW_nextChan (s : Sys) (i : Nat) (w : Writer) : (setW s i w).nextChan = s.nextChan := rfl
@[simp] theorem setW_closedChans (s : Sys) (i : Nat) (w : Writer) : (setW s i w).closedChans = s.closedChans := rfl
@[simp] theorem setW_trigQueued (s : Sys) (i : Nat) (w : Writer) : (setW s i w).trigQueued = s.trigQueued := rfl
@[simp] theorem setW_trigClosed (s : Sys) (i : Nat) (w : Writer) : (setW s i w).trigClosed = s.trigClosed := rfl
@[simp] theorem setW_writers (s : Sys) (i : Nat) (w : Writer) : (setW s i w).writers = s.writers.set i w := rfl
@[simp] theorem setW_rpc (s : Sys) (i : Nat) (w : Writer) : (setW s i w).rpc = s.rpc := rfl
@[simp] theorem setW_cpc (s : Sys) (i : Nat) (w : Writer) : (setW s i w).cpc = s.cpc := rfl
@[simp] theorem setW_bad (s : Sys) (i : Nat) (w : Writer) : (setW s i w).bad = s.bad := rfl
@[simp] theorem setW_rotations (s : Sys) (i : Nat) (w : Writer) : (setW s i w).rotations = s.rotations := rfl
@[simp] theorem setW_ioAfterClose (s : Sys) (i : Nat) (w : Writer) : (setW s i w).ioAfterClose = s.ioAfterClose := rfl

theorem init_start {seals : List Bool} {w : Writer} (hw : w ∈ (init seals).writers) : w.pc = .start := by
  obtain ⟨b, _, rfl⟩ := List.mem_map.mp hw
  rfl

/-! ### a writer -/

/-- the transitions of a writer that touch only the lock and its own position; indices: the new lock bit, the new pc -/
inductive WStep (s : Sys) (w : Writer) : Bool → WPc → Prop
  | startClosed : w.pc = .start → s.closed = true → WStep s w s.lock (.done .errClosed)
  | startOpen : w.pc = .start → s.closed = false → WStep s w s.lock .wantLock
  | lock : w.pc = .wantLock → s.lock = false → WStep s w true .locked
  | wait (ch : Nat) : w.pc = .locked → s.await = some ch → WStep s w false (.waiting ch)
  | nowait : w.pc = .locked → s.await = none → WStep s w s.lock .check
  | woken (ch : Nat) : w.pc = .waiting ch → ch ∈ s.closedChans → WStep s w s.lock .relock
  | relock : w.pc = .relock → s.lock = false → WStep s w true .check
  | checkClosed : w.pc = .check → s.closed = true → WStep s w false (.done .errClosed)
  | checkOpen : w.pc = .check → s.closed = false → WStep s w s.lock .use
  | usePlain : w.pc = .use → (w.seals = false ∨ s.closed = true) → WStep s w false (.done .ok)

/-- the state after a sealing writer queued a rotation (triggerRotateLocked + unlock) -/
def sealState (s : Sys) (i : Nat) (w : Writer) : Sys :=
  setW { s with await := some s.nextChan, nextChan := s.nextChan + 1, trigQueued := true, lock := false } i
    { w with pc := .done .ok }

def WBlocked (s : Sys) (seals : Bool) : WPc → Prop
  | .wantLock | .relock => s.lock = true
  | .waiting ch => ch ∉ s.closedChans
  | .use => seals = true ∧ s.closed = false ∧ s.trigQueued = true
  | .done _ => True
  | _ => False

inductive WMove (s : Sys) (i : Nat) (w : Writer) : Sys → Prop
  | stay : WBlocked s w.seals w.pc → WMove s i w s
  | step {b : Bool} {pc' : WPc} :
      WStep s w b pc' → WMove s i w (setW { s with lock := b } i { w with pc := pc' })
  | queue :
      w.pc = .use → w.seals = true → s.closed = false → s.trigQueued = false → WMove s i w (sealState s i w)

theorem ite_cases {α} {P : α → Prop} {b : Bool} {x y : α} (h1 : b = true → P x) (h2 : b = false → P y) :
    P (if b then x else y) := by
  cases b
  · exact h2 rfl
  · exact h1 rfl

theorem stepWriter_none (cfg : Cfg) (s : Sys) (i : Nat) (h : s.writers[i]? = none) : stepWriter cfg s i = s := by
  unfold stepWriter
  rw [h]

/-- `hu`: the writer does not panic at `use` (part of `MutexInv`) -/
theorem stepWriter_cases (s : Sys) (i : Nat) (w : Writer) (hw : s.writers[i]? = some w)
    (hu : w.pc = .use → s.stateEmpty = false ∧ (s.closed = false → s.trigClosed = false)) :
    WMove s i w (stepWriter fixed s i) := by
  unfold stepWriter
  rw [hw]
  dsimp only
  cases hpc : w.pc with
  | start =>
    exact ite_cases (P := WMove s i w) (fun hc => .step (.startClosed hpc hc))
      fun hc => .step (.startOpen hpc hc)
  | wantLock => exact ite_cases (P := WMove s i w) (fun hl => .stay (hpc ▸ hl)) fun hl => .step (.lock hpc hl)
  | locked =>
    refine ite_cases (P := WMove s i w) nofun fun _ => ?_
    split
    · next ch ha => exact .step (.wait ch hpc ha)
    · next ha => exact .step (.nowait hpc ha)
  | waiting ch =>
    refine ite_cases (P := WMove s i w) (fun hc => .step (.woken ch hpc (List.contains_iff_mem.mp hc))) fun hc => ?_
    exact .stay (hpc ▸ fun h => Bool.false_ne_true (hc.symm.trans (List.contains_iff_mem.mpr h)))
  | relock => exact ite_cases (P := WMove s i w) (fun hl => .stay (hpc ▸ hl)) fun hl => .step (.relock hpc hl)
  | check =>
    exact ite_cases (P := WMove s i w) (fun hc => .step (.checkClosed hpc hc)) fun hc => .step (.checkOpen hpc hc)
  | use =>
    obtain ⟨hse, htc⟩ := hu hpc
    refine ite_cases (P := WMove s i w) (fun h => absurd (hse ▸ h) nofun) fun _ => ?_
    refine ite_cases (P := WMove s i w) (fun h => ?_) fun h => ?_
    · obtain ⟨hs, hc⟩ : w.seals = true ∧ s.closed = false := by
        rw [Bool.and_eq_true, Bool.not_eq_true'] at h; exact h
      refine ite_cases (P := WMove s i w) (fun h => absurd (htc hc ▸ h) nofun) fun _ => ?_
      exact ite_cases (P := WMove s i w) (fun hq => .stay (hpc ▸ ⟨hs, hc, hq⟩)) fun hq => .queue hpc hs hc hq
    · refine .step (.usePlain hpc ?_)
      rw [Bool.and_eq_false_iff, Bool.not_eq_false'] at h; exact h
  | done r => exact .stay (hpc ▸ trivial)

/-! ### the rotation goroutine -/

/-- `stay`: holding the lock, or about to close a channel, the goroutine is never blocked; `panic`: the three ways in
    which runRotate dies -/
inductive RStep (s : Sys) : Sys → Prop
  | stay : s.rpc ≠ .locked → (∀ x, s.rpc ≠ .closing x) → RStep s s
  | recv : s.rpc = .idle → s.trigQueued = true → RStep s { s with trigQueued := false, rpc := .got }
  | recvClosed : s.rpc = .idle → s.trigQueued = false → s.trigClosed = true → RStep s { s with rpc := .got }
  | lock : s.rpc = .got → s.lock = false → RStep s { s with lock := true, rpc := .locked }
  | leave : s.rpc = .locked → s.closed = true → RStep s { s with lock := false, rpc := .exited }
  | rotate : s.rpc = .locked → s.closed = false → s.stateEmpty = false →
      RStep s { s with rotations := s.rotations + 1, ioAfterClose := s.ioAfterClose || s.cpc == .done,
                       await := none, lock := false, rpc := .closing s.await }
  | wake (c : Nat) : s.rpc = .closing (some c) → c ∉ s.closedChans →
      RStep s { s with closedChans := c :: s.closedChans, rpc := .idle }
  | panic : (s.rpc = .locked ∧ s.closed = false ∧ s.stateEmpty = true) ∨ s.rpc = .closing none ∨
      (∃ c, s.rpc = .closing (some c) ∧ c ∈ s.closedChans) → RStep s { s with bad := true, rpc := .exited }

theorem stepRotator_cases (s : Sys) : RStep s (stepRotator fixed s) := by
  unfold stepRotator
  cases hr : s.rpc with
  | idle =>
    refine ite_cases (P := RStep s) (.recv hr) fun hq => ?_
    refine ite_cases (P := RStep s) (fun hc => ?_) fun _ => .stay (hr ▸ nofun) (hr ▸ nofun)
    exact ite_cases (P := RStep s) (fun _ => .recvClosed hr hq hc) nofun
  | got => exact ite_cases (P := RStep s) (fun _ => .stay (hr ▸ nofun) (hr ▸ nofun)) (.lock hr)
  | locked =>
    refine ite_cases (P := RStep s) (.leave hr) fun hc => ?_
    exact ite_cases (P := RStep s) (fun he => .panic (Or.inl ⟨hr, hc, he⟩)) (.rotate hr hc)
  | closing x =>
    cases x with
    | none => exact .panic (Or.inr (Or.inl hr))
    | some c =>
      refine ite_cases (P := RStep s) (fun hc => .panic (Or.inr (Or.inr ⟨c, hr, List.contains_iff_mem.mp hc⟩)))
        fun hc => ?_
      exact .wake c hr fun h => Bool.false_ne_true (hc.symm.trans (List.contains_iff_mem.mpr h))
  | exited => exact .stay (hr ▸ nofun) (hr ▸ nofun)

/-! ### Close -/

/-- `stay`: Close is blocked only waiting for the lock; `finish` wakes a writer waiting for the pending rotation -/
inductive CStep (s : Sys) : Sys → Prop
  | stay : s.cpc ≠ .idle → (s.cpc = .flagged → s.lock = true) → s.cpc ≠ .locked → CStep s s
  | flag : s.cpc = .idle → s.closed = false → CStep s { s with closed := true, cpc := .flagged }
  | lock : s.cpc = .flagged → s.lock = false → CStep s { s with lock := true, cpc := .locked }
  | finish : s.cpc = .locked →
      CStep s { s with closedChans := s.await.toList ++ s.closedChans, await := none, trigClosed := true,
                       stateEmpty := true, lock := false, cpc := .done }

/-- `hc`: Close is called once (part of `MutexInv`) -/
theorem stepCloser_cases (s : Sys) (hc : s.cpc = .idle → s.closed = false) : CStep s (stepCloser fixed s) := by
  unfold stepCloser
  cases hcp : s.cpc with
  | idle => exact ite_cases (P := CStep s) (fun h => absurd (hc hcp ▸ h) nofun) fun h => .flag hcp h
  | flagged =>
    exact ite_cases (P := CStep s) (fun hl => .stay (hcp ▸ nofun) (fun _ => hl) (hcp ▸ nofun)) (.lock hcp)
  | locked =>
    have h := CStep.finish hcp
    dsimp only
    split
    · next ch ha => rw [ha] at h; exact h
    · next ha => rw [ha] at h; exact h
  | done => exact .stay (hcp ▸ nofun) (hcp ▸ nofun) (hcp ▸ nofun)

end RaftWal.ConcW
