/-
  Proofs/CrashCall.lean — what every call has to deliver (`CallRes`), and the frames the truncations and Set share:
  some actions, then the deletion of the files that became orphans, then the acknowledgement.  The actions either
  commit a selection of the segments and keep the tail (`callres_keep`), or end with `newTailActs` (`callres_fresh`).
-/
import RaftWal.Proofs.CrashRec
import RaftWal.Proofs.CrashOrder
namespace RaftWal.Crash

/-- `pre`: the actions before the call returns, `post`: those after (the rotation of a sealing StoreLogs) -/
structure CallRes (d : Disk) (op : Op) (pre post : List Act) : Prop where
  shape : prog d op = pre ++ .ack :: post
  noack : ∀ a ∈ pre, a ≠ .ack
  before : ∀ k, RecE (fun l => l = absLog d ∨ l = specApply (absLog d) op) (d.applyAll (pre.take k))
  after : ∀ k, RecE (fun l => l = specApply (absLog d) op) ((d.applyAll pre).applyAll (post.take k))
  final : ∃ P' t' f', QS (d.applyAll (prog d op)) P' t' f'
  log : absLog (d.applyAll (prog d op)) = specApply (absLog d) op

theorem map_delete_eq (l : List Seg) : l.map (fun s => Act.delete s.id) = (segIds l).map .delete := by
  simp [segIds, List.map_map, Function.comp_def]

theorem callres_mk {d : Disk} (op : Op) (acts : List Act) (ids : List Nat) {P' : List Seg} {t' : Seg}
    (hshape : prog d op = acts ++ ids.map .delete ++ [.ack])
    (hno : ∀ a ∈ acts, a ≠ .ack)
    (hsteps : ∀ k, RecE (fun l => l = absLog d ∨ l = specApply (absLog d) op) (d.applyAll (acts.take k)))
    (hfull : Rec (fun l => l = specApply (absLog d) op) (d.applyAll acts) P' t')
    (hclean : CleanTail (d.applyAll acts) t')
    (hid : ∀ j ∈ ids, ∀ s ∈ P' ++ [t'], s.id ≠ j)
    (hsub : ∀ j ∈ fids (d.applyAll acts), j ∈ ids ∨ j ∈ segIds (P' ++ [t'])) :
    CallRes d op (acts ++ ids.map .delete) [] := by
  have hfin : d.applyAll (prog d op) = (d.applyAll acts).applyAll (ids.map .delete) := by
    rw [hshape, applyAll_append, applyAll_append]; rfl
  obtain ⟨f', hq, ha⟩ := hfull.deleteIds_toQS hclean ids hid hsub
  refine ⟨by rw [hshape, List.append_assoc], ?_, ?_, ?_, ⟨P', t', f', by rw [hfin]; exact hq⟩, by rw [hfin]; exact ha⟩
  · intro a ha
    rcases List.mem_append.1 ha with ha | ha
    · exact hno a ha
    · obtain ⟨j, _, rfl⟩ := List.mem_map.1 ha
      exact Act.noConfusion
  · refine cuts_append hsteps fun k => ?_
    rw [← List.map_take]
    exact ⟨P', t', (hfull.deleteIds _ (fun j hj => hid j (List.mem_of_mem_take hj))).mono (fun l hl => Or.inr hl)⟩
  · intro k
    rw [List.take_nil, applyAll_append]
    exact ⟨P', t', hfull.deleteIds ids hid⟩

theorem perm_split {old ids kept : List Nat} (hp : old.Perm (ids ++ kept)) (hnd : old.Nodup) :
    kept.Nodup ∧ (∀ j ∈ kept, j ∈ old) ∧ (∀ j ∈ ids, j ∈ old) ∧ (∀ j ∈ ids, j ∉ kept) ∧
      ∀ j ∈ old, j ∈ ids ∨ j ∈ kept := by
  have h := List.nodup_append.1 (hp.nodup_iff.1 hnd)
  exact ⟨h.2.1, fun j hj => hp.mem_iff.2 (List.mem_append_right _ hj), fun j hj => hp.mem_iff.2 (List.mem_append_left _ hj),
    fun j hj hk => h.2.2 j hj j hk rfl, fun j hj => List.mem_append.1 (hp.mem_iff.1 hj)⟩

theorem callres_keep {d : Disk} {P : List Seg} {t : Seg} {f : File} (h : QS d P t f) (op : Op) (m : Meta)
    (ids : List Nat) {P' : List Seg} {t' : Seg} (hm : m.segs = P' ++ [t']) (hn : m.nextID = d.md.nextID)
    (ht' : t' = { t with min := t'.min }) (hbm : t'.base ≤ t'.min)
    (hmn : t'.min ≤ f.base + f.synced.length) (hvis : f.synced ≠ [] → t'.min < f.base + f.synced.length)
    (hshape : prog d op = [.commit m] ++ ids.map .delete ++ [.ack])
    (hperm : (segIds (P ++ [t])).Perm (ids ++ segIds (P' ++ [t'])))
    (hsealed : ∀ s ∈ P', SealedOK d s) (hchain : chainOK (P' ++ [t']) = true)
    (hlog : specApply (absLog d) op = logP d P' ++ visU t'.min f.base f.synced) :
    CallRes d op ([.commit m] ++ ids.map .delete) [] := by
  have hb := h.base
  have hid : t'.id = t.id := by rw [ht']
  have hbase : t'.base = t.base := by rw [ht']
  have hsl : t'.sealed = false := by rw [ht']; exact hb.tsl
  obtain ⟨hnd, hold, _, hdis, hcov⟩ := perm_split hperm hb.nodupS
  have hfile : d.file? t'.id = some f := hid ▸ h.tf
  have hfull : Rec (fun l => l = specApply (absLog d) op) (d.apply (.commit m)) P' t' :=
    Rec.recommit hb m hm (Nat.le_of_eq hn.symm) hsealed hchain hnd
      (fun s hs => by
        obtain ⟨s0, hs0, e⟩ := List.mem_map.1 (hold _ (mem_segIds hs))
        rw [hn, ← e]; exact hb.idlt s0 hs0)
      hsl hbm (hbase ▸ hb.tb1)
      (fun g hg => by
        rw [hfile] at hg; cases hg
        exact RTail.ofClean (h.qt.base.trans hbase.symm) h.qt.lk h.qt.pend h.qt.ss h.qt.sp hmn hvis hlog.symm)
      (fun hn => by rw [hfile] at hn; cases hn)
  exact callres_mk op [.commit m] ids hshape (fun a ha => by cases List.mem_singleton.1 ha; exact Act.noConfusion)
    (cuts_cons ⟨P, t, h.toRec (Or.inl rfl)⟩ (cuts_nil ⟨P', t', hfull.mono fun l hl => Or.inr hl⟩)) hfull
    ⟨f, hfile, h.qt.pend, h.qt.ss, h.qt.sp⟩ (fun j hj s hs e => hdis j hj (e ▸ mem_segIds hs))
    (fun j hj => hcov j (h.sub j hj))

theorem callres_fresh {d : Disk} {P : List Seg} {t : Seg} {f : File} (h : QS d P t f) (op : Op) (pre : List Act)
    (ids : List Nat) {P' : List Seg} (b : Nat)
    (hpre : ∀ k, Rec (fun l => l = absLog d ∨ l = specApply (absLog d) op) (d.applyAll (pre.take k)) P t)
    (hnopre : ∀ a ∈ pre, a ≠ .ack) (hmd : (d.applyAll pre).md = d.md) (hfids : fids (d.applyAll pre) = fids d)
    (hshape : prog d op = pre ++ newTailActs d.md P' b ++ ids.map .delete ++ [.ack])
    (hperm : (segIds (P ++ [t])).Perm (ids ++ segIds P'))
    (hsealed : ∀ s ∈ P', SealedOK (d.applyAll pre) s) (hchain : chainOK (P' ++ [newSeg d.md.nextID b]) = true)
    (hb1 : 1 ≤ b) (hlog : specApply (absLog d) op = logP (d.applyAll pre) P') :
    CallRes d op (pre ++ newTailActs d.md P' b ++ ids.map .delete) [] := by
  have hb := h.base
  obtain ⟨hnd, hold, hiold, hdis, hcov⟩ := perm_split hperm hb.nodupS
  have hlt : ∀ j ∈ segIds (P ++ [t]), j < d.md.nextID := fun j hj => by
    obtain ⟨s0, hs0, e⟩ := List.mem_map.1 hj
    exact e ▸ hb.idlt s0 hs0
  have h2 := hpre pre.length
  rw [List.take_length] at h2
  obtain ⟨h3, h4, hc4, hf4⟩ := h2.base.newTail_create (A' := fun l => l = specApply (absLog d) op) hsealed
    (fun s hs => hmd ▸ hlt _ (hold _ (mem_segIds hs))) hnd b hb1 (hmd ▸ hchain) hlog.symm
  rw [hmd] at h3 h4 hc4 hf4
  rw [hfids] at hf4
  refine callres_mk op (pre ++ newTailActs d.md P' b) ids hshape (fun a ha => ?_)
    (cuts_append (fun k => ⟨P, t, hpre k⟩) (cuts_cons ⟨P, t, h2⟩ (cuts_cons ⟨_, _, h3.mono fun l hl => Or.inr hl⟩
      (cuts_nil ⟨_, _, h4.mono fun l hl => Or.inr hl⟩))))
    (by rw [applyAll_append]; exact h4) (by rw [applyAll_append]; exact hc4) (fun j hj s hs e => ?_) (fun j hj => ?_)
  · rcases List.mem_append.1 ha with ha | ha
    · exact hnopre a ha
    · rcases List.mem_cons.1 ha with rfl | ha
      · exact Act.noConfusion
      · cases List.mem_singleton.1 ha; exact Act.noConfusion
  · rcases List.mem_append.1 hs with hs | hs
    · exact hdis j hj (e ▸ mem_segIds hs)
    · cases List.mem_singleton.1 hs
      exact Nat.lt_irrefl _ (e ▸ hlt j (hiold j hj))
  · rw [applyAll_append, hf4] at hj
    rw [segIds_append]
    rcases List.mem_append.1 hj with hj | hj
    · exact (hcov j (h.sub j hj)).imp id (List.mem_append_left _)
    · exact Or.inr (List.mem_append_right _ hj)

theorem set_res {d : Disk} {P : List Seg} {t : Seg} {f : File} (h : QS d P t f) (k v : Nat) :
    CallRes d (.set k v) [.commit { d.md with stable := upsert d.md.stable k v }] [] :=
  callres_keep h (.set k v) { d.md with stable := upsert d.md.stable k v } [] h.base.segs rfl rfl
    h.base.tbm h.qt.mn h.vis rfl (List.Perm.refl _) h.base.sealed h.base.chain h.log_eq

end RaftWal.Crash
