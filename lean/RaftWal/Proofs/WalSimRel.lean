/-
  Proofs/WalSimRel.lean — the simulation relation between the WAL model and the contiguous-log
  specification, and the directory lookups it is stated with.
-/
import RaftWal.Proofs.WalModel
namespace RaftWal

theorem last_add_one {F n : Nat} (h : 1 ≤ F) : F + n - 1 + 1 = F + n :=
  Nat.sub_add_cancel (Nat.le_trans h (Nat.le_add_right _ _))

theorem one_lt_add {a b : Nat} (ha : 1 ≤ a) (hb : 0 < b) : 1 < a + b :=
  Nat.add_le_add ha hb

theorem pos_of_le_of_lt_add {F a n : Nat} (h1 : F ≤ a) (h2 : a < F + n) : 0 < n :=
  Nat.pos_of_lt_add_right (Nat.lt_of_le_of_lt h1 h2)

theorem end_le_of_forall_lt {F n m : Nat} (hn : 0 < n) (h : ∀ i, F ≤ i → i < F + n → i < m) : F + n ≤ m := by
  have hpos : 0 < F + n := Nat.lt_of_lt_of_le hn (Nat.le_add_left _ _)
  exact Nat.le_of_pred_lt (h (F + n - 1) (Nat.le_sub_one_of_lt (Nat.lt_add_of_pos_right hn))
    (Nat.sub_one_lt (Nat.ne_of_gt hpos)))

/-- `Wal.file?` on a bare directory -/
def fileOf (files : List FileL) (id : Nat) : Option FileL := files.find? (·.id = id)

theorem Wal.file?_eq (w : Wal) (id : Nat) : w.file? id = fileOf w.files id := rfl

theorem fileOf_some_id {files : List FileL} {id : Nat} {f : FileL} (h : fileOf files id = some f) :
    f.id = id := by
  have := List.find?_some h
  exact of_decide_eq_true this

theorem fileOf_some_mem {files : List FileL} {id : Nat} {f : FileL} (h : fileOf files id = some f) :
    f ∈ files := List.mem_of_find?_eq_some h

theorem fileOf_append_of_some {files : List FileL} {id : Nat} {f : FileL} (g : List FileL)
    (h : fileOf files id = some f) : fileOf (files ++ g) id = some f := by
  unfold fileOf at h ⊢
  rw [List.find?_append, h]
  rfl

theorem fileOf_eq_none_of_lt {files : List FileL} {n id : Nat} (h : ∀ f ∈ files, f.id < n) (hid : n ≤ id) :
    fileOf files id = none :=
  List.find?_eq_none.mpr fun f hf hp =>
    Nat.ne_of_lt (Nat.lt_of_lt_of_le (h f hf) hid) (of_decide_eq_true hp)

theorem fileOf_append_new {files : List FileL} {n : Nat} (h : ∀ f ∈ files, f.id < n) (g : FileL)
    (hg : g.id = n) : fileOf (files ++ [g]) n = some g := by
  have h0 := fileOf_eq_none_of_lt h (Nat.le_refl n)
  unfold fileOf at h0 ⊢
  rw [List.find?_append, h0, List.find?_singleton, if_pos (decide_eq_true hg)]
  rfl

theorem fileOf_updFile (files : List FileL) (g : FileL) (id : Nat) :
    fileOf (updFile files g) id =
      if id = g.id then (fileOf files id).map (fun _ => g) else fileOf files id := by
  induction files with
  | nil => split <;> rfl
  | cons a l ih =>
    unfold fileOf updFile at ih ⊢
    rw [List.map_cons, List.find?_cons, List.find?_cons, ih]
    by_cases hg : id = g.id
    · by_cases ha : a.id = g.id
      · simp only [hg, ha, if_true, decide_true, Option.map_some]
      · simp only [hg, ha, if_false, decide_false, if_true]
    · by_cases ha : a.id = id
      · simp only [hg, ha, if_false, decide_true]
      · have hga : ¬ g.id = id := fun h => hg h.symm
        by_cases hag : a.id = g.id
        · simp only [hg, hag, hga, if_true, if_false, decide_false]
        · simp only [hg, ha, hag, if_false, decide_false]

theorem fileOf_filter (files : List FileL) (q : Nat → Bool) (id : Nat) :
    fileOf (files.filter (fun f => q f.id)) id = if q id then fileOf files id else none := by
  induction files with
  | nil => split <;> rfl
  | cons a l ih =>
    unfold fileOf at ih ⊢
    cases hq : q a.id
    · rw [List.filter_cons_of_neg (p := fun f : FileL => q f.id) (by rw [hq]; exact Bool.false_ne_true), ih,
        List.find?_cons]
      by_cases ha : a.id = id
      · rw [← ha, hq]
        rfl
      · rw [decide_eq_false ha]
    · rw [List.filter_cons_of_pos (p := fun f : FileL => q f.id) hq, List.find?_cons, List.find?_cons, ih]
      by_cases ha : a.id = id
      · rw [decide_eq_true ha, ← ha, hq]
        rfl
      · rw [decide_eq_false ha]

/-- `Open` and `Create` look a file up by id and base -/
theorem find_id_base {files : List FileL} {id b : Nat} {f : FileL} (h : fileOf files id = some f)
    (hb : f.base = b) : files.find? (fun g => g.id = id ∧ g.base = b) = some f := by
  induction files with
  | nil => cases h
  | cons a l ih =>
    unfold fileOf at h ih
    rw [List.find?_cons] at h ⊢
    by_cases h1 : a.id = id
    · rw [decide_eq_true h1] at h
      cases h
      rw [decide_eq_true ⟨h1, hb⟩]
    · rw [decide_eq_false h1] at h
      rw [decide_eq_false (fun h' => h1 h'.1)]
      exact ih h

theorem any_id_base_false {files : List FileL} {n b : Nat} (h : ∀ f ∈ files, f.id < n) :
    files.any (fun f => f.id = n ∧ f.base = b) = false :=
  List.any_eq_false.mpr fun f hf hp =>
    Nat.ne_of_lt (h f hf) (of_decide_eq_true hp).1

/-- exclusive upper end of the index range a segment serves -/
def hi (c : SegS) (f : FileL) : Nat := if c.sealed then c.max + 1 else f.base + f.entries.length

theorem hi_open {c : SegS} (h : c.sealed = false) (f : FileL) : hi c f = f.base + f.entries.length := by
  simp only [hi, h, Bool.false_eq_true, if_false]

theorem hi_sealed {c : SegS} (h : c.sealed = true) (f : FileL) : hi c f = c.max + 1 := by
  simp only [hi, h, if_true]

theorem lt_hi_sealed {c : SegS} (h : c.sealed = true) {f : FileL} {idx : Nat} : idx < hi c f ↔ idx ≤ c.max := by
  rw [hi_sealed h]
  exact Nat.lt_succ_iff

/-- a reader keeps the bounds it was opened with, while the state's `min` only grows and its `max` only
    shrinks: hence `≤` and not `=` -/
def RdrOK (c : SegS) : Rdr → Prop
  | .writer fm => fm ≤ c.min
  | .sealed mn mx is => c.sealed = true ∧ mn ≤ c.min ∧ (mx = 0 ∨ c.max ≤ mx) ∧ is ≠ 0

/-- facts about one live segment, its reader and its file, relative to the abstract log
    `es` whose first entry has index `F` -/
structure SegF (cfg : WalCfg) (nextID F : Nat) (es : List Log) (c : SegS) (r : Rdr) (f : FileL) : Prop where
  fbase : f.base = c.base
  fcodec : f.codec = c.codec
  codec : c.codec = cfg.codecId
  idlt : c.id < nextID
  base1 : 1 ≤ c.base
  basemin : c.base ≤ c.min
  Fmin : F ≤ c.min
  sealedOK : c.sealed = true → c.min ≤ c.max ∧ c.max + 1 ≤ f.base + f.entries.length ∧ 0 < f.wsize ∧ c.indexStart ≠ 0
  tailOK : c.sealed = false → c.max = 0 ∧ (c.min = c.base ∨ c.min < f.base + f.entries.length)
  rdr : RdrOK c r
  pt : ∀ idx, c.min ≤ idx → idx < hi c f →
        F ≤ idx ∧ idx < F + es.length ∧ f.entries[idx - f.base]? = es[idx - F]?

/-- order on the segment map: everything that has a successor is sealed and ends before the successor
    starts; only the first segment may have lost a prefix; ids are distinct -/
def SegLt (a b : SegS × Rdr) : Prop :=
  a.1.sealed = true ∧ a.1.max < b.1.base ∧ b.1.min = b.1.base ∧ a.1.id ≠ b.1.id

/-- the part of the invariant that also holds in the middle of a rotation (the last segment may be sealed) -/
structure Core (cfg : WalCfg) (nextID : Nat) (segs : List (SegS × Rdr)) (files : List FileL)
    (F : Nat) (es : List Log) : Prop where
  cfgOK : cfg.newSegCodec = cfg.codecId
  fileIds : ∀ f ∈ files, f.id < nextID
  segOK : ∀ c r, (c, r) ∈ segs → ∃ f, fileOf files c.id = some f ∧ SegF cfg nextID F es c r f
  sorted : segs.Pairwise SegLt
  headF : ∃ c0, segs.head? = some c0 ∧ c0.1.min = F
  endE : ∃ t f, segs.getLast? = some t ∧ fileOf files t.1.id = some f ∧ hi t.1 f = F + es.length
  cover : ∀ idx, F ≤ idx → idx < F + es.length →
    ∃ c r f, (c, r) ∈ segs ∧ fileOf files c.id = some f ∧ c.min ≤ idx ∧ idx < hi c f
  bound : F + es.length ≤ 2^64 - 1

def TailOpen (segs : List (SegS × Rdr)) (files : List FileL) : Prop :=
  ∃ t r f, segs.getLast? = some (t, r) ∧ t.sealed = false ∧ fileOf files t.id = some f ∧ f.indexStart = 0

def Sim (w : Wal) (s : Spec.SLog) : Prop :=
  ∃ F, Core w.cfg w.nextID w.segs w.files F s.entries ∧ TailOpen w.segs w.files ∧
    s.closed = w.closed ∧ (s.entries ≠ [] → s.first = F)

/-- between calls: `w` represents the log `es` whose first entry has index `F` -/
abbrev Rep (w : Wal) (F : Nat) (es : List Log) : Prop :=
  Core w.cfg w.nextID w.segs w.files F es ∧ TailOpen w.segs w.files

def look (F : Nat) (es : List Log) (idx : Nat) : Option Log := if F ≤ idx then es[idx - F]? else none

def ansOf : Option Log → Except Err Log
  | some l => .ok l
  | none => .error .notFound

def sAnsOf : Option Log → Except Spec.SErr Log
  | some l => .ok l
  | none => .error .notFound

abbrev SimRes (a : Wal × Option Err) (b : Spec.SLog × Option Spec.SErr) : Prop :=
  optAns a.2 = sOptAns b.2 ∧ Sim a.1 b.1

theorem Sim.closed_eq {w : Wal} {s : Spec.SLog} (h : Sim w s) : s.closed = w.closed := by
  obtain ⟨F, _, _, hcl, _⟩ := h; exact hcl

theorem Sim.of_eq {w w' : Wal} {s s' : Spec.SLog} (h : Sim w s) (h1 : w'.cfg = w.cfg)
    (h2 : w'.nextID = w.nextID) (h3 : w'.segs = w.segs) (h4 : w'.files = w.files)
    (h5 : s'.closed = w'.closed) (h6 : s'.entries = s.entries) (h7 : s'.first = s.first) : Sim w' s' := by
  obtain ⟨F, hc, ht, _, hf⟩ := h
  refine ⟨F, ?_, ?_, h5, ?_⟩
  · rw [h1, h2, h3, h4, h6]; exact hc
  · rw [h3, h4]; exact ht
  · rw [h6, h7]; exact hf

end RaftWal
