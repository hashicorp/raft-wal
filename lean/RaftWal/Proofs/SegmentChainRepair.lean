/-
  Proofs/SegmentChainRepair.lean — the repair of O21 (Model/SegmentRepair.lean: the writer zeroes what a failed append
  left behind the write offset before its next write) proved on the model, for the chains of Proofs/SegmentChainFault.lean.

  RESULT (`chain_atomic_repaired_sync`): for chains whose failed appends fail on their fsync, a CRC-32C collision at a
  torn event or nothing fabricated, nothing partial.  With `.write n` faults the statement `chain_atomic_repaired_stmt`
  is too strong as it stands (`repairW4_no_result`, last section).

  Not modelled: a power loss DURING the clearing write of a torn event (`chainStepD`: the clearing step of a `torn`
  event has completed durably before the batch write is cut).
-/
import RaftWal.Model.SegmentRepair
import RaftWal.Proofs.SegmentChainFault
namespace RaftWal
open Spec (Acc Batch addEntry addBatch)

def freshD (info : SegInfo) : WriterD × Bytes := (((freshSegment info).1, false), (freshSegment info).2)

def chainStepD (info : SegInfo) (s : WriterD × Bytes) : ChainEvF → Except SegErr (WriterD × Bytes)
  | .append b =>
    match appendD s.1 s.2 (indexBatch (chainNext info s.1.1) b) .none with
    | (some e, _, _) => .error e
    | (none, s', file') => .ok (s', file')
  | .restart => recoverD info s.2
  | .torn b mask =>
    -- the clearing step (if any) completed durably; the process is cut during the batch write
    match s.1.1.append (cleanFile s.1 s.2) (indexBatch (chainNext info s.1.1) b) .none with
    | (some e, _, _) => .error e
    | (none, w', file') =>
      recoverD info (tearImage (cleanFile s.1 s.2) file' s.1.1.writeOffset (w'.writeOffset - s.1.1.writeOffset) mask)
  | .failed b fault =>
    if fault = .none then .error .other
    else match appendD s.1 s.2 (indexBatch (chainNext info s.1.1) b) fault with
      | (some .io, s', file') => .ok (s', file')
      | (some e, _, _) => .error e
      | (none, _, _) => .error .other

def chainRunD (info : SegInfo) (s : WriterD × Bytes) : List ChainEvF → Except SegErr (WriterD × Bytes)
  | [] => .ok s
  | e :: evs =>
    match chainStepD info s e with
    | .error err => .error err
    | .ok s' => chainRunD info s' evs

def showD (info : SegInfo) (r : Except SegErr (WriterD × Bytes)) :=
  r.map fun p => (p.1.1.obs, p.1.2, readBack info (p.1.1, p.2), (p.2.drop p.1.1.writeOffset).all (· == 0))

/-- info: Except.ok ({ offsets := [32, 56], writeOffset := 72, commitIdx := 6, indexStart := 0 },
 false,
 [Except.ok [1, 2, 3], Except.ok []],
 true) -/
#guard_msgs in
#eval showD faultInfo (chainRunD faultInfo (freshD faultInfo) faultW3)

/-- info: Except.ok ({ offsets := [32], writeOffset := 56, commitIdx := 5, indexStart := 0 }, false, [Except.ok [1, 2, 3]], true) -/
#guard_msgs in
#eval showD faultInfo (chainRunD faultInfo (freshD faultInfo) faultW1)

/-- info: Except.ok ({ offsets := [32], writeOffset := 56, commitIdx := 5, indexStart := 0 }, false, [Except.ok [1, 2, 3]], true) -/
#guard_msgs in
#eval showD faultInfo (chainRunD faultInfo (freshD faultInfo) faultW2)

theorem chainRunD_snoc (info : SegInfo) (s s1 : WriterD × Bytes) (l : List ChainEvF) (e : ChainEvF)
    (h : chainRunD info s l = .ok s1) : chainRunD info s (l ++ [e]) = chainStepD info s1 e := by
  have heq : ∀ (s : WriterD × Bytes) (l : List ChainEvF), chainRunD info s l = l.foldlM (chainStepD info) s := by
    intro s l
    induction l generalizing s with
    | nil => rfl
    | cons e l ih =>
      rw [chainRunD, List.foldlM_cons]
      cases chainStepD info s e with
      | error err => rfl
      | ok s' => exact ih s'
  rw [heq] at h ⊢; exact foldlM_snoc_ok e h

/-- what the file is like up to the write offset and the writer are those of `bs`; nothing is said about the
    bytes behind the write offset (the state between a failed append and the next write) -/
structure DirtyInv (info : SegInfo) (w : Writer) (file : Bytes) (bs : List (List Bytes)) : Prop where
  clean : ∃ fileC, ChainInv info w fileC bs ∧ file.take w.writeOffset = fileC.take w.writeOffset
  wo    : w.writeOffset ≤ file.length

theorem chainInv_transfer {info : SegInfo} {w : Writer} {fileC file : Bytes} {bs : List (List Bytes)}
    (h : ChainInv info w fileC bs) (ht : file.take w.writeOffset = fileC.take w.writeOffset)
    (hl : w.writeOffset ≤ file.length) (hz : ∀ x ∈ file.drop w.writeOffset, x = 0) : ChainInv info w file bs :=
  ⟨⟨h.inv.info, by rw [ht]; exact h.inv.bytes, hl, h.inv.cs, h.inv.crc, h.inv.offsEq, hz⟩, h.empty, h.done, h.idx, h.small⟩

theorem ChainInv.dirty {info : SegInfo} {w : Writer} {file : Bytes} {bs : List (List Bytes)} (h : ChainInv info w file bs) :
    DirtyInv info w file bs := ⟨⟨file, h, rfl⟩, h.inv.wo⟩

theorem clearStale_take (file : Bytes) (wo : Nat) : (clearStale file wo).take wo = file.take wo := by
  rw [clearStale]
  by_cases h : wo ≤ file.length
  · rw [List.take_left' (by rw [List.length_take, Nat.min_eq_left h])]
  · have h' : file.length ≤ wo := Nat.le_of_lt (Nat.lt_of_not_le h)
    rw [Nat.sub_eq_zero_of_le h', List.take_of_length_le h']
    simp [zeros, List.take_of_length_le h']

theorem clearStale_length (file : Bytes) (wo : Nat) : (clearStale file wo).length = file.length := by
  rw [clearStale, List.length_append, List.length_take, zeros_length]; omega

theorem clearStale_zeros (file : Bytes) (wo : Nat) : ∀ x ∈ (clearStale file wo).drop wo, x = 0 := by
  intro x hx
  rw [clearStale, List.drop_append] at hx
  rcases List.mem_append.mp hx with hx | hx
  · rw [List.drop_take, Nat.sub_self, List.take_zero] at hx; cases hx
  · exact List.eq_of_mem_replicate (List.mem_of_mem_drop hx)

theorem DirtyInv.cleared {info : SegInfo} {w : Writer} {file : Bytes} {bs : List (List Bytes)} (h : DirtyInv info w file bs) :
    ChainInv info w (clearStale file w.writeOffset) bs := by
  obtain ⟨fileC, hC, ht⟩ := h.clean
  exact chainInv_transfer hC (by rw [clearStale_take, ht]) (by rw [clearStale_length]; exact h.wo) (clearStale_zeros _ _)

theorem staleBehind_false {file : Bytes} {wo : Nat} (h : staleBehind file wo = false) : ∀ x ∈ file.drop wo, x = 0 := by
  intro x hx
  simp only [staleBehind, List.any_eq_false] at h
  have := h x hx
  simpa using this

theorem staleBehind_of_zeros {file : Bytes} {wo : Nat} (h : ∀ x ∈ file.drop wo, x = 0) : staleBehind file wo = false := by
  simp only [staleBehind, List.any_eq_false]
  intro x hx
  simp [h x hx]

theorem DirtyInv.cleanFile {info : SegInfo} {s : WriterD} {file : Bytes} {bs : List (List Bytes)}
    (h : DirtyInv info s.1 file bs) (hflag : s.2 = false → ChainInv info s.1 file bs) :
    ChainInv info s.1 (cleanFile s file) bs := by
  unfold RaftWal.cleanFile
  by_cases hc : (s.2 && staleBehind file s.1.writeOffset) = true
  · rw [if_pos hc]; exact h.cleared
  · rw [if_neg hc]
    cases h2 : s.2 with
    | false => exact hflag h2
    | true =>
      rw [h2] at hc
      have hs : staleBehind file s.1.writeOffset = false := by simpa using hc
      obtain ⟨fileC, hC, ht⟩ := h.clean
      exact chainInv_transfer hC ht h.wo (staleBehind_false hs)

theorem appendD_none (s : WriterD) (file : Bytes) (es : List (Nat × Bytes)) :
    appendD s file es .none = appendCoreD s.1 false (cleanFile s file) es .none := by
  unfold appendD cleanFile
  split <;> rfl

theorem chainStepD_append (info : SegInfo) (s : WriterD) (file : Bytes) (b : List Bytes) :
    chainStepD info (s, file) (.append b)
      = (chainStep info (s.1, cleanFile s file) (.append b)).map (fun p => ((p.1, false), p.2)) := by
  simp only [chainStepD, chainStep, appendD_none, appendCoreD]
  rcases s.1.append (cleanFile s file) (indexBatch (chainNext info s.1) b) .none with ⟨_ | e, w', f'⟩ <;> rfl

theorem chainStepD_torn (info : SegInfo) (s : WriterD) (file : Bytes) (b : List Bytes) (m : Nat → Bool) :
    chainStepD info (s, file) (.torn b m)
      = (chainStep info (s.1, cleanFile s file) (.torn b m)).map (fun p => ((p.1, false), p.2)) := by
  simp only [chainStepD, chainStep, recoverD]
  rcases s.1.append (cleanFile s file) (indexBatch (chainNext info s.1) b) .none with ⟨_ | e, w', f'⟩ <;> rfl

theorem chainStepD_restart (info : SegInfo) (s : WriterD) (file : Bytes) :
    chainStepD info (s, file) .restart = (chainStep info (s.1, file) .restart).map (fun p => ((p.1, false), p.2)) := rfl


theorem chain_append_take (info : SegInfo) (bs : List (List Bytes)) (b : List Bytes) (hwf : RunWF info (bs ++ [b]))
    (w : Writer) (file : Bytes) (hI : ChainInv info w file bs) (w' : Writer) (file' : Bytes)
    (happ : w.append file (indexBatch (info.base + bs.flatten.length) b) .none = (none, w', file')) :
    file'.take w.writeOffset = file.take w.writeOffset ∧ w.writeOffset ≤ file'.length := by
  obtain ⟨s, h1, h1', hcb', _, _, _, _⟩ := chain_append_setup info bs b hwf w file hI w' file' happ
  have hA' := addBatch_bytes ((ackBatches bs).foldl addBatch (acc0 info)) ⟨b, s⟩
  have e := h1'.bytes
  rw [hcb', List.append_nil, hA', h1.bytes, List.append_assoc] at e
  have hl := congrArg List.length e
  simp only [List.length_append, List.length_take, Nat.min_eq_left h1.wo, Nat.min_eq_left h1'.wo] at hl
  have hle : w.writeOffset ≤ w'.writeOffset := by omega
  have e2 := congrArg (List.take w.writeOffset) e
  rw [List.take_left' (by rw [List.length_take]; exact Nat.min_eq_left h1.wo), List.take_take, Nat.min_eq_left hle] at e2
  exact ⟨e2.symm, Nat.le_trans hle h1'.wo⟩

def Good (b : List Bytes) : Prop := b ≠ [] ∧ ∀ p ∈ b, p.length ≤ maxEntrySize

/-- the state invariant: `DirtyInv` always, `ChainInv` when the flag is not set; and (what makes the statement
    true) the file is clean, or it is exactly the file a COMPLETED append of the pending failed batch leaves -/
def RepInv (info : SegInfo) (s : WriterD) (file : Bytes) (bs : List (List Bytes)) (pend : Option (List Bytes)) : Prop :=
  DirtyInv info s.1 file bs ∧ (s.2 = false → ChainInv info s.1 file bs) ∧
  (ChainInv info s.1 file bs ∨ ∃ c w', pend = some c ∧ ChainInv info w' file (bs ++ [c])
      ∧ (runBytesBound (bs ++ [c]) ≤ info.sizeLimit → w'.indexStart = 0))

structure RepOK (info : SegInfo) (evs : List ChainEvF) (s : WriterD) (file : Bytes) (bs : List (List Bytes)) : Prop where
  run      : chainRunD info (freshD info) evs = .ok (s, file)
  spec     : chainSpecF none evs bs
  st       : RepInv info s file bs (pendingAfter none evs)
  unsealed : runBytesBound (chainBatchesF evs) ≤ info.sizeLimit → s.1.indexStart = 0
  flag     : dirtyAfter false evs = false → s.2 = false
  okbs     : ∀ x ∈ bs, Good x
  pendok   : ∀ c, pendingAfter none evs = some c → Good c
  sz       : need bs + need (pendingAfter none evs).toList ≤ need (chainBatchesF evs)
             ∧ cnt bs + cnt (pendingAfter none evs).toList ≤ cnt (chainBatchesF evs)

def SyncOnly (evs : List ChainEvF) : Prop := ∀ b f, ChainEvF.failed b f ∈ evs → f = .sync

/-- a torn event exhibits a CRC-32C collision; the tear is taken over the file AFTER the clearing step -/
def ChainCollisionD (info : SegInfo) (evs : List ChainEvF) : Prop :=
  ∃ pre b mask post s, evs = pre ++ ChainEvF.torn b mask :: post
    ∧ chainRunD info (freshD info) pre = .ok s ∧ TornCollision info (s.1.1, cleanFile s.1 s.2) b mask

theorem collisionD_snoc {info : SegInfo} {evs : List ChainEvF} (e : ChainEvF) (h : ChainCollisionD info evs) :
    ChainCollisionD info (evs ++ [e]) := by
  obtain ⟨pre, b, mask, post, s, h1, h2, h3⟩ := h
  exact ⟨pre, b, mask, post ++ [e], s, by rw [h1]; simp, h2, h3⟩

theorem ChainWFF.prefix {info : SegInfo} {evs : List ChainEvF} {e : ChainEvF} (h : ChainWFF info (evs ++ [e])) :
    ChainWFF info evs := by
  have hcb := chainBatchesF_snoc evs e
  have hs : (chainBatchesF evs).Sublist (chainBatchesF (evs ++ [e])) := by
    rw [hcb]; exact List.sublist_append_left _ _
  have hsd : (chainBatchesF evs).dropLast.Sublist (chainBatchesF (evs ++ [e])).dropLast := by
    rw [hcb]
    by_cases hb : e.batches = []
    · rw [hb, List.append_nil]; exact List.Sublist.refl _
    · rw [List.dropLast_append_of_ne_nil hb]
      exact (List.dropLast_sublist _).trans (List.sublist_append_left _ _)
  exact ⟨fun b hb => h.nonempty b (hs.subset hb), fun b hb => h.payload_le b (hs.subset hb),
    fun x hx => h.faults x (List.mem_append_left _ hx), h.base_lt, h.id_lt, h.codec_lt, h.limit_lt,
    Nat.lt_of_le_of_lt (runBytesBound_sublist hs) h.size_lt, Nat.le_trans (runBytesBound_sublist hsd) h.fits⟩

theorem repOK_batch_setup {info : SegInfo} {evs : List ChainEvF} {e : ChainEvF} {b : List Bytes}
    (he : e.batches = [b]) (hwf : ChainWFF info (evs ++ [e]))
    {s : WriterD} {file : Bytes} {bs : List (List Bytes)} (h : RepOK info evs s file bs) :
    RunWF info (bs ++ [b]) ∧ Good b ∧ s.1.indexStart = 0
    ∧ (runBytesBound (chainBatchesF (evs ++ [e])) ≤ info.sizeLimit → runBytesBound (bs ++ [b]) ≤ info.sizeLimit)
    ∧ need bs + need [b] ≤ need (chainBatchesF (evs ++ [e])) ∧ cnt bs + cnt [b] ≤ cnt (chainBatchesF (evs ++ [e])) := by
  have hcb : chainBatchesF (evs ++ [e]) = chainBatchesF evs ++ [b] := by rw [chainBatchesF_snoc, he]
  have hbm : b ∈ chainBatchesF (evs ++ [e]) := by rw [hcb]; exact List.mem_append_right _ List.mem_cons_self
  have hn : need bs + need [b] ≤ need (chainBatchesF (evs ++ [e])) := by
    rw [hcb, need_append]; exact Nat.add_le_add_right (Nat.le_trans (Nat.le_add_right _ _) h.sz.1) _
  have hc : cnt bs + cnt [b] ≤ cnt (chainBatchesF (evs ++ [e])) := by
    rw [hcb, cnt_append]; exact Nat.add_le_add_right (Nat.le_trans (Nat.le_add_right _ _) h.sz.2) _
  have hsz : runBytesBound (bs ++ [b]) ≤ runBytesBound (chainBatchesF (evs ++ [e])) :=
    runBytesBound_mono (need_append bs [b] ▸ hn) (cnt_append bs [b] ▸ hc)
  have hgood : Good b := ⟨hwf.nonempty b hbm, hwf.payload_le b hbm⟩
  refine ⟨⟨?_, hwf.base_lt, hwf.id_lt, hwf.codec_lt, hwf.limit_lt, Nat.lt_of_le_of_lt hsz hwf.size_lt⟩, hgood, ?_,
    fun hf => Nat.le_trans hsz hf, hn, hc⟩
  · intro x hx
    rcases List.mem_append.mp hx with hx | hx
    · exact (h.okbs x hx).1
    · rw [List.mem_singleton.mp hx]; exact hgood.1
  · apply h.unsealed
    have hf := hwf.fits
    rw [hcb, List.dropLast_concat] at hf
    exact hf

/-- the chain runs one event further, to a state without remains behind the tail and with nothing pending (every
    event but a failed append): the ghost batches grow by `X` -/
theorem RepOK.snoc_clean {info : SegInfo} {evs : List ChainEvF} {s : WriterD} {file : Bytes} {bs : List (List Bytes)}
    (h : RepOK info evs s file bs) {e : ChainEvF} (hpend : ∀ p, pendingAfter p [e] = none)
    {w' : Writer} {file' : Bytes} {X : List (List Bytes)}
    (hst : chainStepD info (s, file) e = .ok ((w', false), file'))
    (hX : chainSpecF (pendingAfter none evs) [e] X) (hI' : ChainInv info w' file' (bs ++ X))
    (huns : runBytesBound (chainBatchesF (evs ++ [e])) ≤ info.sizeLimit → w'.indexStart = 0)
    (hgood : ∀ x ∈ X, Good x)
    (hsz : need bs + need X ≤ need (chainBatchesF (evs ++ [e])) ∧ cnt bs + cnt X ≤ cnt (chainBatchesF (evs ++ [e]))) :
    RepOK info (evs ++ [e]) (w', false) file' (bs ++ X) := by
  have hp : pendingAfter none (evs ++ [e]) = none := by rw [pendingAfter_append]; exact hpend _
  refine ⟨by rw [chainRunD_snoc info _ _ evs _ h.run, hst], chainSpecF_append evs [e] none bs X h.spec hX,
    ⟨hI'.dirty, fun _ => hI', Or.inl hI'⟩, huns, fun _ => rfl, ?_, ?_, ?_⟩
  · intro x hx
    rcases List.mem_append.mp hx with hx | hx
    · exact h.okbs x hx
    · exact hgood x hx
  · intro c hc; rw [hp] at hc; cases hc
  · rw [hp, need_append, cnt_append]; exact hsz

theorem chain_stepD (info : SegInfo) (evs : List ChainEvF) (e : ChainEvF) (hwf : ChainWFF info (evs ++ [e]))
    (hsync : SyncOnly (evs ++ [e]))
    (s : WriterD) (file : Bytes) (bs : List (List Bytes)) (h : RepOK info evs s file bs) :
    ChainCollisionD info (evs ++ [e]) ∨ ∃ s' file' bs', RepOK info (evs ++ [e]) s' file' bs' := by
  obtain ⟨hdirty, hflag, himg⟩ := h.st
  have hclean : ChainInv info s.1 (cleanFile s file) bs := hdirty.cleanFile hflag
  have hcb := chainBatchesF_snoc evs e
  obtain ⟨hz1, hz2⟩ := h.sz
  cases e with
  | restart =>
    right
    have hbt : chainBatchesF (evs ++ [.restart]) = chainBatchesF evs := by rw [hcb]; exact List.append_nil _
    rcases himg with hI | ⟨c, w', hp, hI', hns⟩
    · -- nothing behind the tail, or remains recovery does not accept
      have hst := chainStep_restart_inv info hwf.base_lt hwf.id_lt hwf.codec_lt bs s.1 file hI
      have := h.snoc_clean (e := .restart) (X := []) (fun _ => rfl) (by rw [chainStepD_restart, hst]; rfl)
        (Or.inl rfl) (by rw [List.append_nil]; exact hI) (by rw [hbt]; exact h.unsealed) (fun x hx => by cases hx)
        (by rw [hbt]; exact ⟨Nat.le_trans (Nat.le_add_right _ _) hz1, Nat.le_trans (Nat.le_add_right _ _) hz2⟩)
      rw [List.append_nil] at this
      exact ⟨_, _, _, this⟩
    · -- the file is the one the completed append of the pending batch leaves: recovered whole
      have hst : chainStep info (s.1, file) .restart = .ok (w', file) :=
        recover_inv info hwf.base_lt hwf.id_lt hwf.codec_lt (bs ++ [c]) w' file hI'
      rw [hp] at hz1 hz2
      exact ⟨_, _, _, h.snoc_clean (e := .restart) (X := [c]) (fun _ => rfl) (by rw [chainStepD_restart, hst]; rfl)
        (Or.inr ⟨c, [], hp, rfl, rfl⟩) hI'
        (fun hf => hns (Nat.le_trans (hbt ▸ runBytesBound_mono (need_append bs [c] ▸ hz1) (cnt_append bs [c] ▸ hz2)) hf))
        (fun x hx => by rw [List.mem_singleton.mp hx]; exact h.pendok c hp)
        (by rw [hbt]; exact ⟨hz1, hz2⟩)⟩
  | append b =>
    right
    obtain ⟨hrwf, hgood, hidx, hfit, hn1, hn2⟩ := repOK_batch_setup (b := b) rfl hwf h
    obtain ⟨w', file', hst, happ, hI'⟩ := chainStep_append_inv info bs b hrwf hgood.2 s.1 _ hclean hidx
    exact ⟨_, _, _, h.snoc_clean (e := .append b) (X := [b]) (fun _ => rfl) (by rw [chainStepD_append, hst]; rfl)
      ⟨[], rfl, rfl⟩ hI' (fun hf => chain_append_noseal info bs b hrwf (hfit hf) s.1 _ hclean w' file' happ)
      (fun x hx => by rw [List.mem_singleton.mp hx]; exact hgood) ⟨hn1, hn2⟩⟩
  | torn b mask =>
    obtain ⟨hrwf, hgood, hidx, hfit, hn1, hn2⟩ := repOK_batch_setup (b := b) rfl hwf h
    rcases chainStep_torn_inv info bs b mask hrwf hgood.2 s.1 _ hclean hidx with
      hcol | ⟨k, hst, hI'⟩ | ⟨w', file', hst, happ, hI'⟩
    · exact Or.inl ⟨evs, b, mask, [], (s, file), rfl, h.run, hcol⟩
    · right
      have := h.snoc_clean (e := .torn b mask) (X := []) (fun _ => rfl) (by rw [chainStepD_torn, hst]; rfl)
        (Or.inl rfl) (by rw [List.append_nil]; exact hI') (fun _ => hidx) (fun x hx => by cases hx)
        ⟨Nat.le_trans (Nat.le_add_right _ _) hn1, Nat.le_trans (Nat.le_add_right _ _) hn2⟩
      rw [List.append_nil] at this
      exact ⟨_, _, _, this⟩
    · right
      exact ⟨_, _, _, h.snoc_clean (e := .torn b mask) (X := [b]) (fun _ => rfl) (by rw [chainStepD_torn, hst]; rfl)
        (Or.inr (Or.inl ⟨[], rfl, rfl⟩)) hI'
        (fun hf => chain_append_noseal info bs b hrwf (hfit hf) s.1 _ hclean w' file' happ)
        (fun x hx => by rw [List.mem_singleton.mp hx]; exact hgood) ⟨hn1, hn2⟩⟩
  | failed b f =>
    right
    have hf : f = .sync := hsync b f (List.mem_append_right _ List.mem_cons_self)
    subst hf
    obtain ⟨hrwf, hgood, hidx, hfit, hn1, hn2⟩ := repOK_batch_setup (b := b) rfl hwf h
    have hspec : chainSpecF none (evs ++ [.failed b .sync]) bs := by
      have := chainSpecF_append evs [.failed b .sync] none bs [] h.spec rfl
      rwa [List.append_nil] at this
    have hpa : pendingAfter none (evs ++ [.failed b .sync]) = some b := by rw [pendingAfter_append]; rfl
    have hda : dirtyAfter false (evs ++ [.failed b .sync]) = true := by rw [dirtyAfter_append]; rfl
    have hpok : ∀ c, pendingAfter none (evs ++ [.failed b .sync]) = some c → Good c := by
      intro c hc; rw [hpa] at hc; cases hc; exact hgood
    have hszn : need bs + need (pendingAfter none (evs ++ [.failed b .sync])).toList ≤ need (chainBatchesF (evs ++ [.failed b .sync]))
        ∧ cnt bs + cnt (pendingAfter none (evs ++ [.failed b .sync])).toList ≤ cnt (chainBatchesF (evs ++ [.failed b .sync])) := by
      rw [hpa]; exact ⟨hn1, hn2⟩
    by_cases hc : (s.2 && staleBehind file s.1.writeOffset) = true
    · -- the clearing step is hit by the fault: zeros written, fsync failed
      have hcf : cleanFile s file = clearStale file s.1.writeOffset := by
        unfold RaftWal.cleanFile; rw [if_pos hc]
      rw [hcf] at hclean
      refine ⟨(s.1, true), clearStale file s.1.writeOffset, bs, ?_, hspec, ⟨hclean.dirty, fun _ => hclean, Or.inl hclean⟩,
        fun _ => hidx, ?_, h.okbs, hpok, hszn⟩
      · rw [chainRunD_snoc info _ _ evs _ h.run]
        simp [chainStepD, appendD, hc]
      · intro hd; rw [hda] at hd; cases hd
    · -- the write lands, its fsync fails: the file is the one the completed append leaves
      have hcf : cleanFile s file = file := by
        unfold RaftWal.cleanFile; rw [if_neg hc]
      rw [hcf] at hclean
      obtain ⟨w', file', _, happ, hI'⟩ := chainStep_append_inv info bs b hrwf hgood.2 s.1 file hclean hidx
      have hsf := append_sync_file s.1 file _ w' file' happ (indexBatch_isEmpty _ b hgood.1)
      obtain ⟨t1, t2⟩ := chain_append_take info bs b hrwf s.1 file hclean w' file' happ
      refine ⟨(s.1, true), file', bs, ?_, hspec, ⟨⟨⟨file, hclean, t1⟩, t2⟩, (fun h => absurd h (by simp)),
        Or.inr ⟨b, w', hpa, hI', fun hfit2 => chain_append_noseal info bs b hrwf hfit2 s.1 file hclean w' file' happ⟩⟩,
        fun _ => hidx, ?_, h.okbs, hpok, hszn⟩
      · rw [chainRunD_snoc info _ _ evs _ h.run]
        have hD : appendD s file (indexBatch (chainNext info s.1) b) .sync = (some .io, (s.1, true), file') := by
          unfold appendD
          rw [if_neg hc]
          unfold appendCoreD
          rw [show chainNext info s.1 = info.base + bs.flatten.length from hclean.next, hsf]
          simp
        simp only [chainStepD, hD]
        simp
      · intro hd; rw [hda] at hd; cases hd

theorem repOK_nil (info : SegInfo) : RepOK info [] (freshD info).1 (freshD info).2 [] :=
  ⟨rfl, rfl, ⟨(chainInv_fresh info).dirty, fun _ => chainInv_fresh info, Or.inl (chainInv_fresh info)⟩, fun _ => rfl,
    fun _ => rfl, (fun x hx => by cases hx), (fun c hc => by cases hc), ⟨Nat.le_refl _, Nat.le_refl _⟩⟩

structure RepairResult (info : SegInfo) (evs : List ChainEvF) (s : WriterD) (file : Bytes) (bs : List (List Bytes)) : Prop where
  run      : chainRunD info (freshD info) evs = .ok (s, file)
  spec     : chainSpecF none evs bs
  count    : s.1.offsets.length = bs.flatten.length
  /-- also with remains behind the tail -/
  readable : info.min = info.base → ∀ (k : Nat) (hk : k < bs.flatten.length) (bufSize : Nat), 8 ≤ bufSize →
               s.1.getLog file (info.base + k) bufSize = .ok (bs.flatten[k]'hk)
  nothingAbove : ∀ (idx bufSize : Nat), info.base + bs.flatten.length ≤ idx →
               (0 < idx → s.1.getLog file idx bufSize = .error .notFound) ∧ ∃ e, s.1.getLog file idx bufSize = .error e
  clean    : dirtyAfter false evs = false → ∀ x ∈ file.drop s.1.writeOffset, x = 0
  /-- more: whenever the flag is not set (in particular after every ACKNOWLEDGED append) it is all zeros -/
  cleanFlag : s.2 = false → ∀ x ∈ file.drop s.1.writeOffset, x = 0
  inv      : DirtyInv info s.1 file bs ∧ (s.2 = false → ChainInv info s.1 file bs)

theorem repairResult_of_ok (info : SegInfo) (evs : List ChainEvF)
    (s : WriterD) (file : Bytes) (bs : List (List Bytes)) (h : RepOK info evs s file bs) :
    RepairResult info evs s file bs := by
  obtain ⟨hdirty, hflag, _⟩ := h.st
  obtain ⟨fileC, hC, ht⟩ := hdirty.clean
  refine ⟨h.run, h.spec, hC.offsets_length, ?_, ?_, fun hd => (hflag (h.flag hd)).inv.zeros,
    fun hf => (hflag hf).inv.zeros, hdirty, hflag⟩
  · intro hmin k hk bufSize hbuf
    exact chain_getLog info hmin bs s.1 fileC hC file ht (fun b hb => (h.okbs b hb).2) k hk bufSize hbuf
  · intro idx bufSize hidx
    exact chain_getLog_above info bs s.1 fileC hC file idx hidx bufSize

/-- **the repair, chains whose failed appends fail on their fsync** (any number of them, anywhere, freely mixed with
    acknowledged appends, restarts and torn appends; several failed appends in a row included): a CRC-32C collision
    at a torn event, or the repaired chain runs and: every acknowledged batch is present and readable; anything else
    present is one whole submitted batch (the pending failed one included); nothing partial, nothing fabricated;
    zeros behind the tail whenever the flag is not set. -/
theorem chain_atomic_repaired_sync (info : SegInfo) (evs : List ChainEvF) (hwf : ChainWFF info evs) (hsync : SyncOnly evs) :
    ChainCollisionD info evs ∨ ∃ s file bs, RepairResult info evs s file bs := by
  have hind : ChainCollisionD info evs ∨ ∃ s file bs, RepOK info evs s file bs := by
    induction evs using snoc_induction with
    | nil => exact Or.inr ⟨_, _, _, repOK_nil info⟩
    | snoc evs e ih =>
      rcases ih hwf.prefix (fun b f hm => hsync b f (List.mem_append_left _ hm)) with hc | ⟨s, file, bs, hok⟩
      · exact Or.inl (collisionD_snoc e hc)
      · exact chain_stepD info evs e hwf hsync s file bs hok
  rcases hind with h | ⟨s, file, bs, h⟩
  · exact Or.inl h
  · exact Or.inr ⟨s, file, bs, repairResult_of_ok info evs s file bs h⟩

/-- a restart reads remains of the pending failed batch (a `.write n` fault) that are a CRC-32C collision of it -/
def RestartCollisionD (info : SegInfo) (evs : List ChainEvF) : Prop :=
  ∃ pre post s c, evs = pre ++ ChainEvF.restart :: post ∧ chainRunD info (freshD info) pre = .ok s
    ∧ pendingAfter none pre = some c ∧ StaleRegionCollision info s.1.1 s.2 c

/-- the statement for all faults, `.write n` included: not proved, and too strong for `repairW4` (below), which has no
    `RepairResult` and no torn event — `chainSpecF`'s pending batch would have to be the last failed batch that got
    past the clearing step -/
def chain_atomic_repaired_stmt : Prop :=
  ∀ (info : SegInfo) (evs : List ChainEvF), ChainWFF info evs →
    (ChainCollisionD info evs ∨ RestartCollisionD info evs) ∨ ∃ s file bs, RepairResult info evs s file bs

/-- under the repaired writer the three witnesses of O21 keep only the acknowledged entries -/
theorem repaired_outcomes :
    (match chainRunD faultInfo (freshD faultInfo) faultW3 with
     | .ok p => p.1.1.offsets.length == 2 && p.1.1.commitIdx == 6 && p.1.2 == false
     | _ => false) = true
    ∧ (match chainRunD faultInfo (freshD faultInfo) faultW1 with
     | .ok p => p.1.1.offsets.length == 1 && p.1.1.commitIdx == 5
     | _ => false) = true
    ∧ (match chainRunD faultInfo (freshD faultInfo) faultW2 with
     | .ok p => p.1.1.offsets.length == 1 && p.1.1.commitIdx == 5
     | _ => false) = true := by decide +kernel

theorem faultW3_repaired :
    (match chainRunD faultInfo (freshD faultInfo) faultW3 with
     | .ok p => p.1.1.offsets.length == 2 && p.1.1.commitIdx == 6 && p.1.2 == false
     | _ => false) = true := repaired_outcomes.1

theorem faultW1_repaired :
    (match chainRunD faultInfo (freshD faultInfo) faultW1 with
     | .ok p => p.1.1.offsets.length == 1 && p.1.1.commitIdx == 5
     | _ => false) = true := repaired_outcomes.2.1

theorem faultW2_repaired :
    (match chainRunD faultInfo (freshD faultInfo) faultW2 with
     | .ok p => p.1.1.offsets.length == 1 && p.1.1.commitIdx == 5
     | _ => false) = true := repaired_outcomes.2.2

theorem faultW3_syncOnly : SyncOnly faultW3 := by
  intro b f hm
  simp only [faultW3, List.mem_cons, List.mem_nil_iff, or_false] at hm
  rcases hm with hm | hm | hm | hm <;> cases hm
  rfl

/-! ## with `.write n` faults the statement with `chainSpecF` (pending = the LAST failed batch) is too strong

  `failed b1 .sync` (all of `b1` lands), then `failed b2 (.write 0)`: the fault hits the CLEARING step of the second
  append before a single zero is written, so `b1`'s bytes stay; a restart recovers `b1` WHOLE, while `chainSpecF`
  only admits the last failed batch `b2`.  Nothing is fabricated or partial (one whole submitted batch, at its
  indexes), but the ghost "pending" must not be replaced by a failed append that never got past the clearing step. -/

def repairW4 : List ChainEvF :=
  [.append [[1, 2, 3]], .failed [[7]] .sync, .failed [[8], [9]] (.write 0), .restart]

/-- info: Except.ok ({ offsets := [32, 56], writeOffset := 80, commitIdx := 6, indexStart := 0 },
 false,
 [Except.ok [1, 2, 3], Except.ok [7]],
 true) -/
#guard_msgs in
#eval showD faultInfo (chainRunD faultInfo (freshD faultInfo) repairW4)

theorem repairW4_outcome :
    (match chainRunD faultInfo (freshD faultInfo) repairW4 with
     | .ok p => p.1.1.offsets.length == 2 && (match p.1.1.getLog p.2 6 64 with | .ok d => d == [7] | _ => false)
     | _ => false) = true := by decide +kernel

/-- no `RepairResult` (stated with `chainSpecF`) for `repairW4`: the first failed batch is recovered, not the last -/
theorem repairW4_no_result : ¬ ∃ s file bs, RepairResult faultInfo repairW4 s file bs := by
  rintro ⟨s, file, bs, h⟩
  have hout := repairW4_outcome
  rw [h.run] at hout
  simp only [Bool.and_eq_true, beq_iff_eq] at hout
  have hc := h.count
  have hs := h.spec
  simp only [repairW4, chainSpecF] at hs
  obtain ⟨bs1, rfl, hs⟩ := hs
  rw [hout.1] at hc
  rcases hs with rfl | ⟨c, bs', hc', rfl, rfl⟩
  · simp at hc
  · cases hc'
    simp at hc

end RaftWal

#print axioms RaftWal.chain_atomic_repaired_sync
#print axioms RaftWal.chain_stepD
#print axioms RaftWal.DirtyInv.cleared
#print axioms RaftWal.faultW3_repaired
#print axioms RaftWal.repairW4_no_result
