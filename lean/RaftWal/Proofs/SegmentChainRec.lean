/-
  Proofs/SegmentChainRec.lean — byte-level crash chains with power losses inside tail recovery itself
  (L1, properties C01/C02: "crashes inside recovery, nested to depth > 1").

  The code (segment/writer.go, `recoverTail` → `clearStaleTail`) zeroes the stale bytes behind the recovered tail
  with a write followed by an fsync; a power loss during that write leaves the stale region partly zeroed — any
  subset of its 8-byte chunks — and the next Open runs recovery again on that image; that recovery may be cut as
  well, and so on.  The events of `ChainEv2` carry a list of chunk masks, one per cut recovery (`[]` makes
  `tornRestart` a `restart` and `tornThenTornRestart b mask` a `torn b mask`).  The statements of `chain_atomic` /
  `chain_atomic_gen` hold verbatim, the CRC-32C residual extended to the images the cut recoveries leave
  (`CutCollision`); and a cut recovery changes nothing (`chainStep2_cut_same`).

  Not modelled: I/O errors (C10), the WAL level (Model/Crash.lean).
-/
import RaftWal.Proofs.SegmentChain
import RaftWal.Proofs.SegmentChainRecLemmas
namespace RaftWal
open Spec (Acc Batch addEntry addBatch)

/-- one step of the life of a tail segment, power losses inside recovery included -/
inductive ChainEv2
  /-- acknowledged append of the (non-empty) batch `b` -/
  | append  (b : List Bytes)
  /-- process restart: `recoverTail` runs on the file as it is, to completion -/
  | restart
  /-- append of `b` in flight, power loss with chunk `j` of the written range on disk iff `mask j`, then
      `recoverTail` to completion -/
  | torn    (b : List Bytes) (mask : Nat → Bool)
  /-- recovery runs and its zeroing write is torn by a power loss (chunk `j` of the range `clearStale` rewrites is
      zeroed iff `zmask j`), once for every `zmask` of the list, each time on the image the previous crash left;
      then recovery runs to completion -/
  | tornRestart (zmasks : List (Nat → Bool))
  /-- append of `b` torn by `mask`; the recoveries that follow are cut while zeroing, one per element of `zmasks`
      (nested: each runs on the image the previous crash left); then recovery runs to completion -/
  | tornThenTornRestart (b : List Bytes) (mask : Nat → Bool) (zmasks : List (Nat → Bool))

/-- forget the cuts of recovery: the `ChainEv` with the same ghost outcomes and the same submitted batch -/
def ChainEv2.erase : ChainEv2 → ChainEv
  | .append b => .append b
  | .restart => .restart
  | .torn b mask => .torn b mask
  | .tornRestart _ => .restart
  | .tornThenTornRestart b mask _ => .torn b mask

def chainStep2 (info : SegInfo) (s : Writer × Bytes) : ChainEv2 → Except SegErr (Writer × Bytes)
  | .append b => chainStep info s (.append b)
  | .restart => chainStep info s .restart
  | .torn b mask => chainStep info s (.torn b mask)
  | .tornRestart zmasks => recCut info s.2 zmasks
  | .tornThenTornRestart b mask zmasks =>
    match s.1.append s.2 (indexBatch (chainNext info s.1) b) .none with
    | (some e, _, _) => .error e
    | (none, w', file') =>
      recCut info (tearImage s.2 file' s.1.writeOffset (w'.writeOffset - s.1.writeOffset) mask) zmasks

def chainRun2 (info : SegInfo) (s : Writer × Bytes) : List ChainEv2 → Except SegErr (Writer × Bytes)
  | [] => .ok s
  | e :: evs =>
    match chainStep2 info s e with
    | .error err => .error err
    | .ok s' => chainRun2 info s' evs

def chainSpec2 : List ChainEv2 → List (List Bytes) → Prop
  | [], bs => bs = []
  | .append b :: evs, bs => ∃ bs', bs = b :: bs' ∧ chainSpec2 evs bs'
  | .restart :: evs, bs => chainSpec2 evs bs
  | .torn b _ :: evs, bs => chainSpec2 evs bs ∨ ∃ bs', bs = b :: bs' ∧ chainSpec2 evs bs'
  | .tornRestart _ :: evs, bs => chainSpec2 evs bs
  | .tornThenTornRestart b _ _ :: evs, bs => chainSpec2 evs bs ∨ ∃ bs', bs = b :: bs' ∧ chainSpec2 evs bs'

def ChainEv2.batches : ChainEv2 → List (List Bytes)
  | .append b => [b]
  | .restart => []
  | .torn b _ => [b]
  | .tornRestart _ => []
  | .tornThenTornRestart b _ _ => [b]

def chainBatches2 (evs : List ChainEv2) : List (List Bytes) := evs.flatMap ChainEv2.batches

structure ChainSizes2 (info : SegInfo) (evs : List ChainEv2) : Prop where
  nonempty   : ∀ b ∈ chainBatches2 evs, b ≠ []
  payload_le : ∀ b ∈ chainBatches2 evs, ∀ p ∈ b, p.length ≤ maxEntrySize
  base_lt    : info.base < 2^64
  id_lt      : info.id < 2^64
  codec_lt   : info.codec < 2^64
  limit_lt   : info.sizeLimit < 2^32
  size_lt    : runBytesBound (chainBatches2 evs) < 2^32

structure ChainWF2 (info : SegInfo) (evs : List ChainEv2) : Prop where
  nonempty   : ∀ b ∈ chainBatches2 evs, b ≠ []
  payload_le : ∀ b ∈ chainBatches2 evs, ∀ p ∈ b, p.length ≤ maxEntrySize
  base_lt    : info.base < 2^64
  id_lt      : info.id < 2^64
  codec_lt   : info.codec < 2^64
  limit_lt   : info.sizeLimit < 2^32
  size_lt    : runBytesBound (chainBatches2 evs) < 2^32
  fits       : runBytesBound (chainBatches2 evs).dropLast ≤ info.sizeLimit

/-- the CRC-32C residual of a torn append followed by cut recoveries: `RegionCollision` of one of the images recovery
    was run on (`cutImages`), spelled out.  With `zmasks = []` this is `TornCollision info s b mask`. -/
def CutCollision (info : SegInfo) (s : Writer × Bytes) (b : List Bytes) (mask : Nat → Bool) (zmasks : List (Nat → Bool)) : Prop :=
  ∃ w' file', s.1.append s.2 (indexBatch (chainNext info s.1) b) .none = (none, w', file') ∧
    ∃ x ∈ cutImages info (tearImage s.2 file' s.1.writeOffset (w'.writeOffset - s.1.writeOffset) mask) zmasks,
      batchRegion x s.1.writeOffset w'.writeOffset ≠ batchRegion file' s.1.writeOffset w'.writeOffset ∧
      crc32c (batchRegion x s.1.writeOffset w'.writeOffset) = crc32c (batchRegion file' s.1.writeOffset w'.writeOffset)

def ChainEv2.Collision (info : SegInfo) (s : Writer × Bytes) : ChainEv2 → Prop
  | .torn b mask => TornCollision info s b mask
  | .tornThenTornRestart b mask zmasks => CutCollision info s b mask zmasks
  | _ => False

def ChainCollision2 (info : SegInfo) (evs : List ChainEv2) : Prop :=
  ∃ pre e post s, evs = pre ++ e :: post
    ∧ chainRun2 info (freshSegment info) pre = .ok s ∧ e.Collision info s

/-- `ChainResult` for `ChainEv2` chains -/
structure ChainResult2 (info : SegInfo) (evs : List ChainEv2) (w : Writer) (file : Bytes) (bs : List (List Bytes)) : Prop where
  run      : chainRun2 info (freshSegment info) evs = .ok (w, file)
  spec     : chainSpec2 evs bs
  inv      : ChainInv info w file bs
  asFresh  : ∃ w0 file0, (freshSegment info).1.appendAll (freshSegment info).2 info.base bs = some (w0, file0)
               ∧ w = w0 ∧ w.obs = w0.obs ∧ file.take w.writeOffset = file0.take w0.writeOffset
  readable : info.min = info.base → ∀ (k : Nat) (hk : k < bs.flatten.length) (bufSize : Nat), 8 ≤ bufSize →
               w.getLog file (info.base + k) bufSize = .ok (bs.flatten[k]'hk)
  nothingAbove : ∀ (idx bufSize : Nat), info.base + bs.flatten.length ≤ idx →
               (0 < idx → w.getLog file idx bufSize = .error .notFound) ∧ ∃ e, w.getLog file idx bufSize = .error e
  clean    : ∀ x ∈ file.drop w.writeOffset, x = 0
  unsealed : runBytesBound (chainBatches2 evs) ≤ info.sizeLimit → w.indexStart = 0

def ChainSealedStop2 (info : SegInfo) (evs : List ChainEv2) : Prop :=
  ∃ pre e post w file bs, evs = pre ++ e :: post ∧ e.batches ≠ []
    ∧ ChainResult2 info pre w file bs ∧ 0 < w.indexStart
    ∧ chainRun2 info (freshSegment info) evs = .error .sealed

def chain_atomic_rec_stmt : Prop :=
  ∀ (info : SegInfo) (evs : List ChainEv2), ChainWF2 info evs →
    ChainCollision2 info evs ∨ ∃ w file bs, ChainResult2 info evs w file bs

theorem chainSpec2_erase (evs : List ChainEv2) (bs : List (List Bytes)) :
    chainSpec2 evs bs ↔ chainSpec (evs.map ChainEv2.erase) bs := by
  induction evs generalizing bs with
  | nil => exact Iff.rfl
  | cons e evs ih =>
    cases e with
    | append b =>
      simp only [chainSpec2, List.map_cons, ChainEv2.erase, chainSpec]
      exact ⟨fun ⟨bs', h1, h2⟩ => ⟨bs', h1, (ih bs').mp h2⟩, fun ⟨bs', h1, h2⟩ => ⟨bs', h1, (ih bs').mpr h2⟩⟩
    | restart => simp only [chainSpec2, List.map_cons, ChainEv2.erase, chainSpec]; exact ih bs
    | tornRestart zs => simp only [chainSpec2, List.map_cons, ChainEv2.erase, chainSpec]; exact ih bs
    | torn b m =>
      simp only [chainSpec2, List.map_cons, ChainEv2.erase, chainSpec]
      exact ⟨fun h => h.elim (fun h => Or.inl ((ih bs).mp h)) (fun ⟨bs', h1, h2⟩ => Or.inr ⟨bs', h1, (ih bs').mp h2⟩),
        fun h => h.elim (fun h => Or.inl ((ih bs).mpr h)) (fun ⟨bs', h1, h2⟩ => Or.inr ⟨bs', h1, (ih bs').mpr h2⟩)⟩
    | tornThenTornRestart b m zs =>
      simp only [chainSpec2, List.map_cons, ChainEv2.erase, chainSpec]
      exact ⟨fun h => h.elim (fun h => Or.inl ((ih bs).mp h)) (fun ⟨bs', h1, h2⟩ => Or.inr ⟨bs', h1, (ih bs').mp h2⟩),
        fun h => h.elim (fun h => Or.inl ((ih bs).mpr h)) (fun ⟨bs', h1, h2⟩ => Or.inr ⟨bs', h1, (ih bs').mpr h2⟩)⟩

theorem batches_erase (e : ChainEv2) : e.erase.batches = e.batches := by cases e <;> rfl

theorem chainBatches2_erase (evs : List ChainEv2) : chainBatches2 evs = chainBatches (evs.map ChainEv2.erase) := by
  induction evs with
  | nil => rfl
  | cons e evs ih =>
    rw [List.map_cons, chainBatches_cons, batches_erase, ← ih]
    simp [chainBatches2]

theorem ChainSizes2.erase {info : SegInfo} {evs : List ChainEv2} (h : ChainSizes2 info evs) :
    ChainSizes info (evs.map ChainEv2.erase) := by
  have := chainBatches2_erase evs
  exact ⟨this ▸ h.nonempty, this ▸ h.payload_le, h.base_lt, h.id_lt, h.codec_lt, h.limit_lt, this ▸ h.size_lt⟩

theorem ChainWF2.erase {info : SegInfo} {evs : List ChainEv2} (h : ChainWF2 info evs) :
    ChainWF info (evs.map ChainEv2.erase) := by
  have := chainBatches2_erase evs
  exact ⟨this ▸ h.nonempty, this ▸ h.payload_le, h.base_lt, h.id_lt, h.codec_lt, h.limit_lt, this ▸ h.size_lt,
    this ▸ h.fits⟩

theorem ChainWF2.sizes {info : SegInfo} {evs : List ChainEv2} (h : ChainWF2 info evs) : ChainSizes2 info evs :=
  ⟨h.nonempty, h.payload_le, h.base_lt, h.id_lt, h.codec_lt, h.limit_lt, h.size_lt⟩

theorem chainRun2_eq_foldlM (info : SegInfo) (s : Writer × Bytes) (evs : List ChainEv2) :
    chainRun2 info s evs = evs.foldlM (chainStep2 info) s := by
  induction evs generalizing s with
  | nil => rfl
  | cons e evs ih =>
    rw [chainRun2, List.foldlM_cons]
    cases chainStep2 info s e with
    | error err => rfl
    | ok s' => exact ih s'

theorem chainRun2_snoc (info : SegInfo) (s s1 : Writer × Bytes) (l : List ChainEv2) (e : ChainEv2)
    (h : chainRun2 info s l = .ok s1) : chainRun2 info s (l ++ [e]) = chainStep2 info s1 e := by
  rw [chainRun2_eq_foldlM] at h ⊢; exact foldlM_snoc_ok e h

theorem chainRun2_append_error (info : SegInfo) (s : Writer × Bytes) (l1 l2 : List ChainEv2) (err : SegErr)
    (h : chainRun2 info s l1 = .error err) : chainRun2 info s (l1 ++ l2) = .error err := by
  rw [chainRun2_eq_foldlM] at h ⊢; exact foldlM_append_error l2 h

theorem chainStep2_cut_inv (info : SegInfo) (bs : List (List Bytes)) (b : List Bytes) (mask : Nat → Bool)
    (zmasks : List (Nat → Bool))
    (hwf : RunWF info (bs ++ [b])) (hmax : ∀ p ∈ b, p.length ≤ maxEntrySize)
    (w : Writer) (file : Bytes) (hI : ChainInv info w file bs) (hidx : w.indexStart = 0) :
    TornOutcome info (CutCollision info (w, file) b mask zmasks)
      (chainStep2 info (w, file) (.tornThenTornRestart b mask zmasks)) bs b w file := by
  obtain ⟨w', file', happ⟩ := chain_append_ok info bs b hwf hmax w file hI hidx
  have hstep : chainStep2 info (w, file) (.tornThenTornRestart b mask zmasks)
      = recCut info (tearImage file file' w.writeOffset (w'.writeOffset - w.writeOffset) mask) zmasks := by
    simp only [chainStep2, chainNext, hI.next, happ]
  rcases recCut_torn_cases info bs b hwf w file hI w' file' happ zmasks mask with h | h | ⟨x, hx, hc⟩
  · exact Or.inr (Or.inl ⟨_, by rw [hstep]; exact h, chainInv_append_zeros hI _⟩)
  · exact Or.inr (Or.inr ⟨w', file', by rw [hstep]; exact h, happ, chainInv_append info bs b hwf w file hI w' file' happ⟩)
  · exact Or.inl ⟨w', file', by simp only [chainNext, hI.next]; exact happ, x, hx, hc⟩

/-- **a cut recovery changes nothing**: from an invariant state, short of a CRC-32C collision in one of the images,
    `tornThenTornRestart b mask zmasks` ends in exactly the state `torn b mask` ends in (recovery run once, to
    completion) — no later recovery accepts what the first one rejected, nor the other way round -/
theorem chainStep2_cut_same (info : SegInfo) (bs : List (List Bytes)) (b : List Bytes) (mask : Nat → Bool)
    (zmasks : List (Nat → Bool))
    (hwf : RunWF info (bs ++ [b])) (hmax : ∀ p ∈ b, p.length ≤ maxEntrySize)
    (w : Writer) (file : Bytes) (hI : ChainInv info w file bs) (hidx : w.indexStart = 0) :
    CutCollision info (w, file) b mask zmasks
    ∨ chainStep2 info (w, file) (.tornThenTornRestart b mask zmasks) = chainStep info (w, file) (.torn b mask) := by
  obtain ⟨w', file', happ⟩ := chain_append_ok info bs b hwf hmax w file hI hidx
  rcases recCut_torn_same info bs b hwf w file hI w' file' happ zmasks mask with h | ⟨x, hx, hc⟩
  · right
    simp only [chainStep2, chainStep, chainNext, hI.next, happ]
    exact h
  · exact Or.inl ⟨w', file', by simp only [chainNext, hI.next]; exact happ, x, hx, hc⟩

theorem chainStep2_sealed (info : SegInfo) (w : Writer) (file : Bytes) (e : ChainEv2) (b : List Bytes)
    (he : e.batches = [b]) (hb : b ≠ []) (hidx : 0 < w.indexStart) :
    chainStep2 info (w, file) e = .error .sealed := by
  cases e with
  | restart => cases he
  | tornRestart zs => cases he
  | append c => exact chainStep_sealed info w file (.append c) b he hb hidx
  | torn c m => exact chainStep_sealed info w file (.torn c m) b he hb hidx
  | tornThenTornRestart c m zs => cases he; simp only [chainStep2, append_sealed _ _ _ _ hidx hb]

/-- what the induction carries: the run, and the ghost part (`ChainGhost`) of the chain without the cuts -/
structure ChainOK2 (info : SegInfo) (evs : List ChainEv2) (w : Writer) (file : Bytes) (bs : List (List Bytes)) : Prop where
  run      : chainRun2 info (freshSegment info) evs = .ok (w, file)
  spec     : chainSpec (evs.map ChainEv2.erase) bs
  inv      : ChainInv info w file bs
  asFresh  : ∃ file0, (freshSegment info).1.appendAll (freshSegment info).2 info.base bs = some (w, file0)
  unsealed : runBytesBound (chainBatches (evs.map ChainEv2.erase)) ≤ info.sizeLimit → w.indexStart = 0

theorem ChainOK2.ghost {info evs w file bs} (h : ChainOK2 info evs w file bs) :
    ChainGhost info (evs.map ChainEv2.erase) w file bs :=
  ⟨h.spec, h.inv, h.asFresh, h.unsealed⟩

theorem ChainOK2.snoc {info evs w file bs} (h : ChainOK2 info evs w file bs) {e : ChainEv2} {w' : Writer}
    {file' : Bytes} {bs' : List (List Bytes)} (hst : chainStep2 info (w, file) e = .ok (w', file'))
    (g : ChainGhost info (evs.map ChainEv2.erase ++ [e.erase]) w' file' bs') : ChainOK2 info (evs ++ [e]) w' file' bs' := by
  have hmap : (evs ++ [e]).map ChainEv2.erase = evs.map ChainEv2.erase ++ [e.erase] := by simp
  exact ⟨by rw [chainRun2_snoc info _ _ evs _ h.run, hst], hmap ▸ g.spec, g.inv, g.asFresh, hmap ▸ g.unsealed⟩

theorem chainOK2_nil (info : SegInfo) : ChainOK2 info [] (freshSegment info).1 (freshSegment info).2 [] :=
  ⟨rfl, rfl, chainInv_fresh info, ⟨_, rfl⟩, fun _ => rfl⟩

theorem chainResult2_of_ok (info : SegInfo) (evs : List ChainEv2) (hwf : ChainSizes info (evs.map ChainEv2.erase))
    (w : Writer) (file : Bytes) (bs : List (List Bytes)) (h : ChainOK2 info evs w file bs) :
    ChainResult2 info evs w file bs :=
  have r := h.ghost.result hwf
  ⟨h.run, (chainSpec2_erase evs bs).mpr h.spec, h.inv, r.1, r.2.1, r.2.2, h.inv.inv.zeros,
    by rw [chainBatches2_erase]; exact h.unsealed⟩

theorem collision2_snoc {info : SegInfo} {evs : List ChainEv2} (e : ChainEv2) (h : ChainCollision2 info evs) :
    ChainCollision2 info (evs ++ [e]) := by
  obtain ⟨pre, e0, post, s, h1, h2, h3⟩ := h
  exact ⟨pre, e0, post ++ [e], s, by rw [h1]; simp, h2, h3⟩

theorem sealedStop2_snoc {info : SegInfo} {evs : List ChainEv2} (e : ChainEv2) (h : ChainSealedStop2 info evs) :
    ChainSealedStop2 info (evs ++ [e]) := by
  obtain ⟨pre, e0, post, w, file, bs, h1, h2, h3, h4, h5⟩ := h
  exact ⟨pre, e0, post ++ [e], w, file, bs, by rw [h1]; simp, h2, h3, h4, chainRun2_append_error info _ evs [e] _ h5⟩

theorem ChainOK2.sealedStop {info evs w file bs} (h : ChainOK2 info evs w file bs) {e : ChainEv2} {b : List Bytes}
    (he : e.batches = [b]) (hb : b ≠ []) (hidx : ¬ w.indexStart = 0)
    (hwf : ChainSizes info (evs.map ChainEv2.erase ++ [e.erase])) : ChainSealedStop2 info (evs ++ [e]) :=
  ⟨evs, e, [], w, file, bs, rfl, by rw [he]; exact List.cons_ne_nil _ _,
    chainResult2_of_ok info evs hwf.prefix w file bs h, Nat.pos_of_ne_zero hidx,
    by rw [chainRun2_snoc info _ _ evs _ h.run, chainStep2_sealed info w file e b he hb (Nat.pos_of_ne_zero hidx)]⟩

theorem chain_step2 (info : SegInfo) (evs : List ChainEv2) (e : ChainEv2)
    (hwf : ChainSizes info (evs.map ChainEv2.erase ++ [e.erase]))
    (w : Writer) (file : Bytes) (bs : List (List Bytes)) (h : ChainOK2 info evs w file bs) :
    ChainCollision2 info (evs ++ [e]) ∨ (∃ w' file' bs', ChainOK2 info (evs ++ [e]) w' file' bs')
      ∨ ChainSealedStop2 info (evs ++ [e]) := by
  cases e with
  | restart =>
    exact Or.inr (Or.inl ⟨w, file, bs, h.snoc
      (chainStep_restart_inv info hwf.base_lt hwf.id_lt hwf.codec_lt bs w file h.inv) h.ghost.snoc_restart⟩)
  | tornRestart zs =>
    exact Or.inr (Or.inl ⟨w, file, bs, h.snoc
      (recCut_inv info hwf.base_lt hwf.id_lt hwf.codec_lt bs w file h.inv zs) h.ghost.snoc_restart⟩)
  | append b =>
    obtain ⟨hrwf, hmax, hbne, _⟩ := chain_batch_setup (b := b) rfl hwf h.spec
    by_cases hidx : w.indexStart = 0
    · obtain ⟨w', file', hst, happ, _⟩ := chainStep_append_inv info bs b hrwf hmax w file h.inv hidx
      exact Or.inr (Or.inl ⟨w', file', _, h.snoc hst (h.ghost.snoc_whole rfl hwf happ)⟩)
    · exact Or.inr (Or.inr (h.sealedStop rfl hbne hidx hwf))
  | torn b mask =>
    obtain ⟨hrwf, hmax, hbne, _⟩ := chain_batch_setup (b := b) rfl hwf h.spec
    by_cases hidx : w.indexStart = 0
    · rcases h.ghost.snoc_torn hwf hidx (chainStep_torn_inv info bs b mask hrwf hmax w file h.inv hidx) with
        hcol | ⟨w', file', bs', hst, g⟩
      · exact Or.inl ⟨evs, .torn b mask, [], (w, file), rfl, h.run, hcol⟩
      · exact Or.inr (Or.inl ⟨w', file', bs', h.snoc hst g⟩)
    · exact Or.inr (Or.inr (h.sealedStop rfl hbne hidx hwf))
  | tornThenTornRestart b mask zs =>
    obtain ⟨hrwf, hmax, hbne, _⟩ := chain_batch_setup (b := b) rfl hwf h.spec
    by_cases hidx : w.indexStart = 0
    · rcases h.ghost.snoc_torn hwf hidx (chainStep2_cut_inv info bs b mask zs hrwf hmax w file h.inv hidx) with
        hcol | ⟨w', file', bs', hst, g⟩
      · exact Or.inl ⟨evs, .tornThenTornRestart b mask zs, [], (w, file), rfl, h.run, hcol⟩
      · exact Or.inr (Or.inl ⟨w', file', bs', h.snoc hst g⟩)
    · exact Or.inr (Or.inr (h.sealedStop rfl hbne hidx hwf))

/-- **C01/C02 (L1) crash chains with power losses inside recovery, no condition on `sizeLimit`**: as
    `chain_atomic_rec`, with the third outcome of `chain_atomic_gen`. -/
theorem chain_atomic_rec_gen (info : SegInfo) (evs : List ChainEv2) (hwf : ChainSizes2 info evs) :
    ChainCollision2 info evs ∨ (∃ w file bs, ChainResult2 info evs w file bs) ∨ ChainSealedStop2 info evs := by
  have hwf' := hwf.erase
  have hind : ChainCollision2 info evs ∨ (∃ w file bs, ChainOK2 info evs w file bs) ∨ ChainSealedStop2 info evs := by
    clear hwf
    induction evs using snoc_induction with
    | nil => exact Or.inr (Or.inl ⟨_, _, _, chainOK2_nil info⟩)
    | snoc evs e ih =>
      rw [List.map_append, List.map_cons, List.map_nil] at hwf'
      rcases ih hwf'.prefix with hc | ⟨w, file, bs, hok⟩ | hs
      · exact Or.inl (collision2_snoc e hc)
      · exact chain_step2 info evs e hwf' w file bs hok
      · exact Or.inr (Or.inr (sealedStop2_snoc e hs))
  rcases hind with h | ⟨w, file, bs, h⟩ | h
  · exact Or.inl h
  · exact Or.inr (Or.inl ⟨w, file, bs, chainResult2_of_ok info evs hwf' w file bs h⟩)
  · exact Or.inr (Or.inr h)

/-- **C01/C02 (L1) crash chains with power losses inside recovery.**  Every chain of acknowledged
    appends, restarts, torn appends, cut recoveries (`tornRestart`) and torn appends followed by cut recoveries
    (`tornThenTornRestart`) — recovery cut any number of times in a row, every subset of the 8-byte chunks of each
    zeroing write on disk — on a fresh segment (sizes within `ChainWF2`: only the last batch event may seal) either
    meets a CRC-32C collision in one of the images recovery runs on, or runs to a state that is exactly the state
    after a run of completed appends of some `bs` allowed by `chainSpec2` — same writer, same bytes up to the write
    offset, zeros behind, every entry of `bs` readable with its payload, nothing else readable. -/
theorem chain_atomic_rec (info : SegInfo) (evs : List ChainEv2) (hwf : ChainWF2 info evs) :
    ChainCollision2 info evs ∨ ∃ w file bs, ChainResult2 info evs w file bs := by
  rcases chain_atomic_rec_gen info evs hwf.sizes with h | h | ⟨pre, e, post, w, file, bs, h1, h2, h3, h4, _⟩
  · exact Or.inl h
  · exact Or.inr h
  · have := h3.unsealed (by
      rw [chainBatches2_erase]
      exact hwf.erase.prefix_fits (by rw [h1, List.map_append, List.map_cons]) (by rw [batches_erase]; exact h2))
    exact absurd this (Nat.ne_of_gt h4)

theorem chain_atomic_rec_full : chain_atomic_rec_stmt := chain_atomic_rec

theorem chain_atomic_rec_obs (info : SegInfo) (evs : List ChainEv2) (hwf : ChainWF2 info evs) (hmin : info.min = info.base) :
    ChainCollision2 info evs
    ∨ ∃ w file bs w0 file0, chainRun2 info (freshSegment info) evs = .ok (w, file) ∧ chainSpec2 evs bs
        ∧ (freshSegment info).1.appendAll (freshSegment info).2 info.base bs = some (w0, file0) ∧ w.obs = w0.obs
        ∧ (∀ (k : Nat) (hk : k < bs.flatten.length) (bufSize : Nat), 8 ≤ bufSize →
              w.getLog file (info.base + k) bufSize = .ok (bs.flatten[k]'hk))
        ∧ (∀ (idx bufSize : Nat), info.base + bs.flatten.length ≤ idx → ∃ e, w.getLog file idx bufSize = .error e)
        ∧ (∀ x ∈ file.drop w.writeOffset, x = 0) := by
  rcases chain_atomic_rec info evs hwf with h | ⟨w, file, bs, h⟩
  · exact Or.inl h
  · obtain ⟨w0, file0, h1, _, h3, _⟩ := h.asFresh
    exact Or.inr ⟨w, file, bs, w0, file0, h.run, h.spec, h1, h3, h.readable hmin,
      fun idx bufSize hi => (h.nothingAbove idx bufSize hi).2, h.clean⟩

/-! ## concrete chains (segment `chainExInfo`: `base = 5`, 232 bytes preallocated)

  (1) One acknowledged append, then the append of a two-entry batch (48 bytes = 6 chunks) torn with its commit
  chunk lost (mask `j ≠ 5`).  The first recovery REJECTS the batch (no commit frame: it settles on the first
  batch, write offset 56) and starts zeroing the 40 stale bytes; the power loss leaves chunks 0, 2, 4 zeroed and
  chunks 1, 3 (the two payloads) in place.  The second recovery, on that image, rejects again and is cut again with
  only chunk 3 zeroed: depth 2.  The third recovery completes.  `chainRecExImages`: the 48 bytes behind the
  write offset in the three images recovery ran on. -/

def chainRecExB : List Bytes := [[13, 14], [15, 16, 17, 18, 19, 20, 21, 22, 23]]

def chainRecExPre : List ChainEv2 := [ .append [[1, 2, 3]] ]

def chainRecExCut : ChainEv2 := .tornThenTornRestart chainRecExB (fun j => j != 5) [fun j => j % 2 == 0, fun j => j == 3]

def chainRecExImages : List Bytes :=
  match chainRun2 chainExInfo (freshSegment chainExInfo) chainRecExPre with
  | .error _ => []
  | .ok s =>
    match s.1.append s.2 (indexBatch (chainNext chainExInfo s.1) chainRecExB) .none with
    | (none, w', file') =>
      (cutImages chainExInfo (tearImage s.2 file' s.1.writeOffset (w'.writeOffset - s.1.writeOffset) (fun j => j != 5))
        [fun j => j % 2 == 0, fun j => j == 3]).map (fun (x : Bytes) => (x.drop s.1.writeOffset).take 48)
    | _ => []

def chainRecExState (evs : List ChainEv2) : Option (WriterObs × Bytes) :=
  (chainRun2 chainExInfo (freshSegment chainExInfo) evs).toOption.map (fun p => (p.1.obs, p.2))

theorem chainRecEx_eval :
    chainRecExImages =
      [ [1, 0, 0, 0, 2, 0, 0, 0,  13, 14, 0, 0, 0, 0, 0, 0,  1, 0, 0, 0, 9, 0, 0, 0,  15, 16, 17, 18, 19, 20, 21, 22,
         23, 0, 0, 0, 0, 0, 0, 0,  0, 0, 0, 0, 0, 0, 0, 0],
        [0, 0, 0, 0, 0, 0, 0, 0,  13, 14, 0, 0, 0, 0, 0, 0,  0, 0, 0, 0, 0, 0, 0, 0,  15, 16, 17, 18, 19, 20, 21, 22,
         0, 0, 0, 0, 0, 0, 0, 0,  0, 0, 0, 0, 0, 0, 0, 0],
        [0, 0, 0, 0, 0, 0, 0, 0,  13, 14, 0, 0, 0, 0, 0, 0,  0, 0, 0, 0, 0, 0, 0, 0,  0, 0, 0, 0, 0, 0, 0, 0,
         0, 0, 0, 0, 0, 0, 0, 0,  0, 0, 0, 0, 0, 0, 0, 0] ]
    ∧ ∀ l ∈ [chainRecExPre, chainRecExPre ++ [.torn chainRecExB (fun j => j != 5)], chainRecExPre ++ [chainRecExCut],
        chainRecExPre ++ [chainRecExCut, .tornRestart [fun j => j == 0]]],
      chainRecExState l
        = (((freshSegment chainExInfo).1.appendAll (freshSegment chainExInfo).2 chainExInfo.base [[[1, 2, 3]]]).map
            (fun p => (p.1.obs, p.2))) := by decide +kernel

/-- the stale region in the three images: all of the batch but its commit frame; partly zeroed (payload chunks 1
    and 3 survive, 7 of the 8 bytes of chunk 4 were zero anyway); only payload chunk 1 left -/
example : chainRecExImages =
    [ [1, 0, 0, 0, 2, 0, 0, 0,  13, 14, 0, 0, 0, 0, 0, 0,  1, 0, 0, 0, 9, 0, 0, 0,  15, 16, 17, 18, 19, 20, 21, 22,
       23, 0, 0, 0, 0, 0, 0, 0,  0, 0, 0, 0, 0, 0, 0, 0],
      [0, 0, 0, 0, 0, 0, 0, 0,  13, 14, 0, 0, 0, 0, 0, 0,  0, 0, 0, 0, 0, 0, 0, 0,  15, 16, 17, 18, 19, 20, 21, 22,
       0, 0, 0, 0, 0, 0, 0, 0,  0, 0, 0, 0, 0, 0, 0, 0],
      [0, 0, 0, 0, 0, 0, 0, 0,  13, 14, 0, 0, 0, 0, 0, 0,  0, 0, 0, 0, 0, 0, 0, 0,  0, 0, 0, 0, 0, 0, 0, 0,
       0, 0, 0, 0, 0, 0, 0, 0,  0, 0, 0, 0, 0, 0, 0, 0] ] := chainRecEx_eval.1

/-- the first recovery of the torn image, had it completed, rejects the batch: the state is that of the prefix -/
example : chainRecExState (chainRecExPre ++ [.torn chainRecExB (fun j => j != 5)]) = chainRecExState chainRecExPre :=
  (chainRecEx_eval.2 _ (.tail _ (.head _))).trans (chainRecEx_eval.2 _ (.head _)).symm

/-- the recovery cut twice ends in that very state — as the theorem says: writer of the run `[[[1, 2, 3]]]`,
    zeros behind the write offset — and a cut recovery following the discarded batch (`tornRestart`) leaves it -/
example : chainRecExState (chainRecExPre ++ [chainRecExCut]) = chainRecExState chainRecExPre :=
  (chainRecEx_eval.2 _ (.tail _ (.tail _ (.head _)))).trans (chainRecEx_eval.2 _ (.head _)).symm

example : chainRecExState (chainRecExPre ++ [chainRecExCut, .tornRestart [fun j => j == 0]])
    = (((freshSegment chainExInfo).1.appendAll (freshSegment chainExInfo).2 chainExInfo.base [[[1, 2, 3]]]).map
        (fun p => (p.1.obs, p.2))) :=
  chainRecEx_eval.2 _ (.tail _ (.tail _ (.tail _ (.head _))))

/-! (2) A longer chain: acknowledged append; the torn append of (1) with its recovery cut; a torn append recovered
  as absent followed by a cut recovery (`tornRestart` after a discarded batch); a torn append (commit chunk lost)
  with its recovery cut twice; a torn append all of whose chunks landed (recovered whole) with two cut recoveries;
  an acknowledged append; a restart cut twice. -/

def chainRecExInfo : SegInfo := { chainExInfo with sizeLimit := 1024 }

def chainRecExEvs : List ChainEv2 :=
  [ .append [[1, 2, 3], [4, 5, 6, 7, 8, 9, 10, 11, 12]],
    .tornThenTornRestart chainRecExB (fun j => j != 5) [fun j => j % 2 == 0],
    .torn [[24]] (fun j => j == 0 || j == 1),
    .tornRestart [fun j => j == 0],
    .tornThenTornRestart [[25, 26]] (fun j => j != 2) [fun j => j == 1, fun j => j == 0],
    .tornThenTornRestart [[27]] (fun _ => true) [fun _ => true, fun j => j == 0],
    .append [[28]],
    .tornRestart [fun _ => false, fun _ => true] ]

example : ChainWF2 chainRecExInfo chainRecExEvs where
  nonempty := by decide
  payload_le := by decide
  base_lt := by decide
  id_lt := by decide
  codec_lt := by decide
  limit_lt := by decide
  size_lt := by decide
  fits := by decide

/-- info: Except.ok ({ offsets := [32, 48, 80, 104], writeOffset := 128, commitIdx := 8, indexStart := 0 }, 1024) -/
#guard_msgs in
#eval (chainRun2 chainRecExInfo (freshSegment chainRecExInfo) chainRecExEvs).map (fun p => (p.1.obs, p.2.length))

/- the final state is the state of the run of completed appends of the acknowledged batches and `[[27]]`:
   same observation, same bytes up to the write offset, zeros behind -/
/-- info: true -/
#guard_msgs in
#eval match chainRun2 chainRecExInfo (freshSegment chainRecExInfo) chainRecExEvs,
          (freshSegment chainRecExInfo).1.appendAll (freshSegment chainRecExInfo).2 chainRecExInfo.base
            [[[1, 2, 3], [4, 5, 6, 7, 8, 9, 10, 11, 12]], [[27]], [[28]]] with
  | .ok (w, file), some (w0, file0) =>
    decide (w.obs = w0.obs) && file.take w.writeOffset == file0.take w0.writeOffset
      && (file.drop w.writeOffset).all (· == 0)
  | _, _ => false

end RaftWal

/-- info: 'RaftWal.chain_atomic_rec' depends on axioms: [propext, Classical.choice, Quot.sound] -/
#guard_msgs in
#print axioms RaftWal.chain_atomic_rec

/-- info: 'RaftWal.chain_atomic_rec_gen' depends on axioms: [propext, Classical.choice, Quot.sound] -/
#guard_msgs in
#print axioms RaftWal.chain_atomic_rec_gen

/-- info: 'RaftWal.chainStep2_cut_same' depends on axioms: [propext, Classical.choice, Quot.sound] -/
#guard_msgs in
#print axioms RaftWal.chainStep2_cut_same
