/-
  Proofs/PropsSupportOsFs.lean — `Model/OsFs.lean` call by call, so that the system-call sequences of fs/ and metadb are
  run symbolically on states built from `set` and `syncDir`, never unfolded to functions on names.
-/
import RaftWal.Model.OsFs
namespace RaftWal.OsFs

theorem OState.get_empty (n : String) : ({} : OState).get n = {} := rfl

theorem OState.get_set_self (s : OState) (n : String) (f : OFile) : (s.set n f).get n = f :=
  if_pos rfl

theorem OState.get_set_ne (s : OState) {m n : String} (f : OFile) (h : m ≠ n) : (s.set n f).get m = s.get m :=
  if_neg h

theorem OState.get_mk (f : String → OFile) (l : List String) (n : String) : (OState.mk f l).get n = f n := rfl

theorem OState.files_eq_get (s : OState) (n : String) : s.files n = s.get n := rfl

/-- the state after `fsync(dirfd)`: every name present is durable, no removal is pending -/
def OState.syncDir (s : OState) : OState :=
  { files := fun n => if (s.files n).exist then { s.files n with entryDurable := true } else s.files n
  , pendingUnlinks := [] }

theorem OState.get_syncDir (s : OState) (n : String) :
    s.syncDir.get n = if (s.get n).exist then { s.get n with entryDurable := true } else s.get n := rfl

theorem exec_openCreatExcl (s : OState) (n : String) :
    exec s (.openCreatExcl n) = if (s.get n).exist then none else some (s.set n { exist := true }) := rfl

theorem exec_openCreat (s : OState) (n : String) :
    exec s (.openCreat n) = some (if (s.get n).exist then s else s.set n { exist := true }) := rfl

theorem exec_fallocate (s : OState) (n : String) (sz : Nat) :
    exec s (.fallocate n sz) = if (s.get n).exist then some (s.set n { s.get n with size := sz }) else none := rfl

theorem exec_pwrite (s : OState) (n : String) :
    exec s (.pwrite n) = if (s.get n).exist then some (s.set n { s.get n with dirty := true }) else none := rfl

theorem exec_fsync (s : OState) (n : String) :
    exec s (.fsync n) = if (s.get n).exist then some (s.set n { s.get n with dirty := false }) else none := rfl

theorem exec_fsyncDir (s : OState) : exec s .fsyncDir = some s.syncDir := rfl

theorem exec_unlink (s : OState) (n : String) :
    exec s (.unlink n) =
      if (s.get n).exist then some { (s.set n {}) with pendingUnlinks := n :: s.pendingUnlinks } else none := rfl

theorem exec_rename (s : OState) (a b : String) :
    exec s (.rename a b) =
      if (s.get a).exist then some ((s.set b { s.get a with entryDurable := false }).set a {}) else none := rfl

theorem run_nil (s : OState) : run s [] = some s := rfl

theorem run_cons (s : OState) (c : Sys) (cs : List Sys) :
    run s (c :: cs) = (exec s c).bind (fun s' => run s' cs) := by
  cases h : exec s c <;> simp [run, h]

/-- a run that is known to end in `S` succeeds, and what holds of `S` holds of its result -/
theorem run_post {s : OState} {p : List Sys} {S : OState} {P : OState → Prop} (h : run s p = some S) (hP : P S) :
    (run s p).isSome = true ∧ ∀ s', run s p = some s' → P s' := by
  rw [h]
  exact ⟨rfl, fun s' e => Option.some.inj e ▸ hP⟩

theorem run_fsync {s : OState} {n : String} (h : (s.get n).exist = true) :
    run s [.fsync n] = some (s.set n { s.get n with dirty := false }) := by
  simp only [run_cons, run_nil, exec_fsync, h, if_true, Option.bind_some]

theorem run_fsync_fsyncDir {s : OState} {n : String} (h : (s.get n).exist = true) :
    run s [.fsync n, .fsyncDir] = some (s.set n { s.get n with dirty := false }).syncDir := by
  simp only [run_cons, run_nil, exec_fsync, exec_fsyncDir, h, if_true, Option.bind_some]

theorem run_unlink {s : OState} {n : String} (h : (s.get n).exist = true) :
    run s [.unlink n] = some { (s.set n {}) with pendingUnlinks := n :: s.pendingUnlinks } := by
  simp only [run_cons, run_nil, exec_unlink, h, if_true, Option.bind_some]

theorem run_unlink_fsyncDir {s : OState} {n : String} (h : (s.get n).exist = true) :
    run s [.unlink n, .fsyncDir] =
      some (OState.syncDir { (s.set n {}) with pendingUnlinks := n :: s.pendingUnlinks }) := by
  simp only [run_cons, run_nil, exec_unlink, exec_fsyncDir, h, if_true, Option.bind_some]

theorem get_unlink_syncDir (s : OState) (n : String) (l : List String) :
    ((OState.syncDir { (s.set n {}) with pendingUnlinks := l }).get n).exist = false := by
  simp only [OState.get_syncDir, OState.get_mk, OState.files_eq_get, OState.get_set_self]
  rfl

end RaftWal.OsFs
