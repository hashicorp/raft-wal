/- Theorems about the migrate model (C19). -/
import RaftWal.Model.Migrate
import RaftWal.Proofs.SpecLog
namespace RaftWal.Migrate
open RaftWal Spec

/-- a well-formed source log: consecutive indexes from `first ≥ 1`, every entry encodable
    (so that a destination that behaves like the reference log accepts it) -/
structure SrcWF (src : Src) : Prop where
  first_pos : src.entries ≠ [] → 1 ≤ src.first
  idx       : ∀ k (h : k < src.entries.length), (src.entries[k]'h).index = src.first + k
  enc       : ∀ l ∈ src.entries, (encode l).isSome = true

def emptyDst : Spec.SLog := { first := 0, entries := [] }

/-- at a loop head: the source is what is stored, then the open batch, then what is still to be read -/
structure LoopInv (src : Src) (dst : SLog) (batch rest : List Log) (bs : List (List Log)) : Prop where
  split : src.entries = dst.entries ++ batch ++ rest
  opn   : dst.closed = false
  first : dst.entries ≠ [] → dst.first = src.first
  flat  : bs.flatten = dst.entries
  ne    : ∀ b ∈ bs, b ≠ []

/-- where `SrcWF` is used: the reference log accepts the batch -/
theorem LoopInv.flush {src : Src} (hwf : SrcWF src) {dst : SLog} {batch rest : List Log} {bs : List (List Log)}
    (h : LoopInv src dst batch rest bs) (hb : batch ≠ []) :
    ∃ dst', dst.store batch = (dst', none) ∧ LoopInv src dst' [] rest (bs ++ [batch]) := by
  obtain ⟨l, ls, rfl⟩ := List.exists_cons_of_ne_nil hb
  have hc := consec_of_idx src.entries src.first hwf.idx
  rw [h.split, consec_append, consec_append, Bool.and_eq_true, Bool.and_eq_true] at hc
  have hcb := hc.1.2
  have hli : l.index = src.first + dst.entries.length := (consecutiveFrom_cons.mp hcb).1
  have hpos := hwf.first_pos (by rw [h.split]; simp)
  have hacc : dst.accepts (l :: ls) = true := by
    refine SLog.accepts_cons_iff.mpr ⟨hli ▸ hcb, fun x hx => hwf.enc x ?_, ?_⟩
    · rw [h.split]; exact List.mem_append_left _ (List.mem_append_right _ hx)
    · by_cases he : dst.entries = []
      · rw [if_pos he, hli]
        exact Nat.le_add_right_of_le hpos
      · rw [if_neg he, SLog.lastIndex_succ he, h.first he]
        exact hli
  have hst : dst.store (l :: ls) =
      ({ dst with first := if dst.entries.isEmpty then l.index else dst.first,
                  entries := dst.entries ++ l :: ls }, none) := by
    rw [SLog.store_cons h.opn, if_pos hacc]
  refine ⟨_, hst, ?_, h.opn, fun _ => ?_, ?_, ?_⟩
  · simp [h.split]
  · by_cases he : dst.entries = []
    · simp [he, hli]
    · simp [he, h.first he]
  · simp [h.flat]
  · intro b hb'
    rcases List.mem_append.1 hb' with hb' | hb'
    · exact h.ne b hb'
    · rw [List.mem_singleton.1 hb']; exact List.cons_ne_nil _ _

structure Post (src : Src) (c : Option Nat) (iter : Nat) (out : CopyOut) : Prop where
  pre       : ∃ r, out.dst.entries ++ r = src.entries
  ctxErr    : ∀ k, c = some k → iter ≤ k → k < src.entries.length → out.res = .ctxErr
  complete  : (∀ k, c = some k → src.entries.length ≤ k) →
    out.res = .ok ∧ out.dst.entries = src.entries ∧ (src.entries ≠ [] → out.dst.first = src.first) ∧
    out.batches.flatten = src.entries ∧ ∀ b ∈ out.batches, b ≠ []

theorem Post.step {src : Src} {c : Option Nat} {iter : Nat} {out : CopyOut}
    (hc : c.any (· ≤ iter) = false) (h : Post src c (iter + 1) out) : Post src c iter out := by
  refine ⟨h.pre, ?_, h.complete⟩
  intro k hk hik hlen
  subst hk
  simp only [Option.any_some, decide_eq_false_iff_not] at hc
  exact h.ctxErr k rfl (Nat.lt_of_le_of_ne hik fun e => hc (Nat.le_of_eq e.symm)) hlen

theorem Post.done {src : Src} {c : Option Nat} {iter : Nat} {dst : SLog} {bs : List (List Log)}
    (h : LoopInv src dst [] [] bs) (hiter : src.entries.length ≤ iter) :
    Post src c iter { res := .ok, dst := dst, batches := bs } := by
  have he : src.entries = dst.entries := by simpa using h.split
  exact ⟨⟨[], by simp [he]⟩, fun k _ h1 h2 => absurd (Nat.lt_of_le_of_lt hiter (Nat.lt_of_le_of_lt h1 h2)) (Nat.lt_irrefl _),
    fun _ => ⟨rfl, he.symm, fun hne => h.first (he ▸ hne), h.flat.trans he.symm, h.ne⟩⟩

theorem Post.cancelled {src : Src} {c : Option Nat} {iter : Nat} {dst : SLog} {batch rest : List Log}
    {bs : List (List Log)} (h : LoopInv src dst batch rest bs) (hc : c.any (· ≤ iter) = true)
    (hlt : iter < src.entries.length) : Post src c iter { res := .ctxErr, dst := dst, batches := bs } := by
  refine ⟨⟨batch ++ rest, by rw [h.split, List.append_assoc]⟩, fun _ _ _ _ => rfl, fun hno => ?_⟩
  cases c with
  | none => cases hc
  | some k =>
    simp only [Option.any_some, decide_eq_true_eq] at hc
    exact absurd (Nat.lt_of_lt_of_le hlt (hno k rfl)) (Nat.not_lt.2 hc)

theorem src_get_next {src : Src} {pre rest : List Log} {l : Log} {iter : Nat}
    (hsplit : src.entries = pre ++ l :: rest) (hiter : iter + (l :: rest).length = src.entries.length) :
    src.get (src.first + iter) = some l := by
  have : iter = pre.length := by rw [hsplit, List.length_append] at hiter; exact Nat.add_right_cancel hiter
  simp [Src.get, hsplit, this]

theorem copyLoop_post (src : Src) (hwf : SrcWF src) (bb : Int) (c : Option Nat) :
    ∀ (rest : List Log) (idx iter : Nat) (batch : List Log) (size : Int) (dst : SLog) (bs : List (List Log)),
      LoopInv src dst batch rest bs → iter + rest.length = src.entries.length → idx = src.first + iter →
      Post src c iter (copyLoop src bb c rest.length idx iter batch size dst bs) := by
  intro rest
  induction rest with
  | nil =>
    intro idx iter batch size dst bs h hiter hidx
    have hlen : src.entries.length ≤ iter := Nat.le_of_eq hiter.symm
    unfold copyLoop
    by_cases hb : batch = []
    · subst hb
      exact Post.done h hlen
    · obtain ⟨dst', hst, h'⟩ := h.flush hwf hb
      simp only [List.length_nil, List.isEmpty_iff, hb, hst]
      exact Post.done h' hlen
  | cons l rest ih =>
    intro idx iter batch size dst bs h hiter hidx
    have hiter' : iter + 1 + rest.length = src.entries.length := (Nat.add_right_comm iter 1 rest.length).trans hiter
    unfold copyLoop
    by_cases hcan : c.any (· ≤ iter) = true
    · simp only [List.length_cons, hcan, if_true]
      exact Post.cancelled h hcan (hiter ▸ Nat.lt_add_of_pos_right (Nat.succ_pos _))
    · have hcan' : c.any (· ≤ iter) = false := by simpa using hcan
      simp only [List.length_cons, hcan', hidx, src_get_next h.split hiter, Bool.false_eq_true, if_false]
      apply Post.step hcan'
      have h1 : LoopInv src dst (batch ++ [l]) rest bs := { h with split := by rw [h.split]; simp }
      split
      · obtain ⟨dst', hst, h'⟩ := h1.flush hwf (by simp)
        simp only [hst]
        exact ih _ _ [] 0 dst' _ h' hiter' rfl
      · exact ih _ _ _ _ dst bs h1 hiter' rfl

theorem copyLogs_post (src : Src) (hwf : SrcWF src) (bb : Int) (c : Option Nat) :
    Post src c 0 (copyLogs { emptyGuard := true } src emptyDst bb c) := by
  have h0 : LoopInv src emptyDst [] src.entries [] := ⟨rfl, rfl, fun h => absurd rfl h, rfl, nofun⟩
  unfold copyLogs Src.last Src.firstIndex
  cases he : src.entries with
  | nil => exact Post.done (he ▸ h0) (by rw [he]; exact Nat.le_refl 0)
  | cons e es =>
    have hpos := hwf.first_pos (by rw [he]; exact List.cons_ne_nil _ _)
    simp only [List.isEmpty_cons, Bool.false_eq_true, if_false, List.length_cons]
    rw [if_neg (by omega), show src.first + (es.length + 1) - 1 - src.first + 1 = (e :: es).length by simp]
    exact he ▸ copyLoop_post src hwf bb c src.entries _ 0 [] 0 emptyDst [] h0 (Nat.zero_add _) rfl

/-- **C19 copyLogs_exact**: for every source log (any first index, any length including 0, any entry sizes)
    and every batchBytes (including 0 and negative), with the empty-source guard in place and no cancellation,
    CopyLogs succeeds, the destination holds exactly the source's entries with the same first index, and the
    batches handed to the destination are non-empty and concatenate to the source -/
theorem copyLogs_exact (src : Src) (hwf : SrcWF src) (batchBytes : Int) :
    let out := copyLogs { emptyGuard := true } src emptyDst batchBytes none
    out.res = .ok ∧ out.dst.entries = src.entries ∧ (src.entries ≠ [] → out.dst.first = src.first) ∧
    out.dst.firstIndex = src.firstIndex ∧ out.dst.lastIndex = src.last ∧
    out.batches.flatten = src.entries ∧ (∀ b ∈ out.batches, b ≠ []) := by
  intro out
  obtain ⟨hres, hent, hfst, hfl, hne⟩ := (copyLogs_post src hwf batchBytes none).complete nofun
  have hent : out.dst.entries = src.entries := hent
  refine ⟨hres, hent, hfst, ?_, ?_, hfl, hne⟩
  · rw [SLog.firstIndex, Src.firstIndex, hent]
    split
    · rfl
    · next he => exact hfst (by simpa using he)
  · rw [SLog.lastIndex, Src.last, hent]
    split
    · rfl
    · next he => rw [show out.dst.first = src.first from hfst (by simpa using he)]

/-- without the guard an empty source fails: the loop asks the source for index 0 -/
theorem copyLogs_empty_source_unguarded (batchBytes : Int) :
    (copyLogs { emptyGuard := false } { first := 0, entries := [] } emptyDst batchBytes none).res = .otherErr := by
  simp [copyLogs, Src.last, Src.firstIndex, copyLoop, Src.get]

/-- **C19 cancellation**: if the context is cancelled at loop iteration `k` (0-based) the destination holds a
    prefix of the source; the result is the context's error whenever the loop reaches iteration `k`
    (`k < length`), otherwise the copy completes -/
theorem copyLogs_cancel_prefix (src : Src) (hwf : SrcWF src) (batchBytes : Int) (k : Nat) :
    let out := copyLogs { emptyGuard := true } src emptyDst batchBytes (some k)
    (∃ rest, out.dst.entries ++ rest = src.entries) ∧
    (k < src.entries.length → out.res = .ctxErr) ∧
    (src.entries.length ≤ k → out.res = .ok ∧ out.dst.entries = src.entries) := by
  intro out
  obtain ⟨hpre, hcan, hfull⟩ := copyLogs_post src hwf batchBytes (some k)
  refine ⟨hpre, fun hk => hcan k rfl (Nat.zero_le _) hk, fun hk => ?_⟩
  obtain ⟨h1, h2, _⟩ := hfull (fun k' hk' => by cases hk'; exact hk)
  exact ⟨h1, h2⟩

/-- `Stable.setU` / `Stable.set` on the association list -/
def upd {β : Type} (xs : List (Bytes × β)) (k : Bytes) (v : β) : List (Bytes × β) := xs.filter (·.1 ≠ k) ++ [(k, v)]

theorem find_upd {β : Type} (xs : List (Bytes × β)) (k k' : Bytes) (v : β) :
    (upd xs k v).find? (·.1 = k') = if k' = k then some (k, v) else xs.find? (·.1 = k') := by
  rw [upd, List.find?_append]
  by_cases hk : k' = k
  · subst hk
    have h : (xs.filter (·.1 ≠ k')).find? (·.1 = k') = none := by
      rw [List.find?_eq_none]
      intro x hx
      simpa using (List.mem_filter.1 hx).2
    rw [h]
    simp
  · have h : (xs.filter (·.1 ≠ k)).find? (·.1 = k') = xs.find? (·.1 = k') := by
      rw [List.find?_filter]
      congr 1
      funext a
      by_cases ha : a.1 = k' <;> simp [ha, hk]
    rw [h]
    simp [hk, Ne.symm hk]

/-- the loop `copyInts` and `copyKVs` share -/
def copyAssoc {β : Type} (get : Bytes → Option β) (cancelAt : Option Nat) :
    List Bytes → Nat → List (Bytes × β) → Res × List (Bytes × β) × Nat
  | [], it, xs => (.ok, xs, it)
  | k :: ks, it, xs =>
    if cancelAt.any (· ≤ it) then (.ctxErr, xs, it)
    else match get k with
      | none => (.otherErr, xs, it)
      | some v => copyAssoc get cancelAt ks (it + 1) (upd xs k v)

theorem copyInts_eq (src : Stable) (c : Option Nat) : ∀ (ks : List Bytes) (it : Nat) (dst : Stable),
    copyInts src c ks it dst =
      let r := copyAssoc src.getU c ks it dst.ints
      (r.1, { dst with ints := r.2.1 }, r.2.2)
  | [], _, _ => rfl
  | k :: ks, it, dst => by
    rw [copyInts, copyAssoc]
    split
    · rfl
    · cases src.getU k with
      | none => rfl
      | some v => exact copyInts_eq src c ks (it + 1) (dst.setU k v)

theorem copyKVs_eq (src : Stable) (c : Option Nat) : ∀ (ks : List Bytes) (it : Nat) (dst : Stable),
    copyKVs src c ks it dst =
      let r := copyAssoc src.get c ks it dst.kvs
      (r.1, { dst with kvs := r.2.1 })
  | [], _, _ => rfl
  | k :: ks, it, dst => by
    rw [copyKVs, copyAssoc]
    split
    · rfl
    · cases src.get k with
      | none => rfl
      | some v => exact copyKVs_eq src c ks (it + 1) (dst.set k v)

theorem copyAssoc_ok {β : Type} (get : Bytes → Option β) :
    ∀ (ks : List Bytes) (it : Nat) (xs : List (Bytes × β)), (∀ k ∈ ks, (get k).isSome) →
      ∃ xs', copyAssoc get none ks it xs = (.ok, xs', it + ks.length) ∧
        ∀ k, xs'.find? (·.1 = k) = if k ∈ ks then (get k).map (fun v => (k, v)) else xs.find? (·.1 = k)
  | [], it, xs, _ => ⟨xs, rfl, by simp⟩
  | k0 :: ks, it, xs, h => by
    obtain ⟨v, hv⟩ := Option.isSome_iff_exists.1 (h k0 List.mem_cons_self)
    obtain ⟨xs', hrun, hfind⟩ := copyAssoc_ok get ks (it + 1) (upd xs k0 v) fun k hk => h k (List.mem_cons_of_mem _ hk)
    refine ⟨xs', ?_, fun k => ?_⟩
    · simp only [copyAssoc, Option.any_none, Bool.false_eq_true, if_false, hv, hrun, List.length_cons]
      rw [Nat.add_right_comm, Nat.add_assoc]
    · rw [hfind k, find_upd]
      by_cases hin : k ∈ ks
      · rw [if_pos hin, if_pos (List.mem_cons_of_mem _ hin)]
      · rw [if_neg hin]
        by_cases hk0 : k = k0
        · subst hk0
          rw [if_pos rfl, if_pos List.mem_cons_self, hv]
          rfl
        · rw [if_neg hk0, if_neg fun h => (List.mem_cons.1 h).elim hk0 hin]

theorem copyAssoc_late {β : Type} (get : Bytes → Option β) (c : Nat) :
    ∀ (ks : List Bytes) (it : Nat) (xs : List (Bytes × β)), it + ks.length ≤ c →
      copyAssoc get (some c) ks it xs = copyAssoc get none ks it xs
  | [], _, _, _ => rfl
  | k :: ks, it, xs, hc => by
    rw [List.length_cons] at hc
    rw [copyAssoc, copyAssoc, Option.any_some, decide_eq_false (by omega)]
    cases get k with
    | none => rfl
    | some v => exact copyAssoc_late get c ks (it + 1) _ (by omega)

theorem copyAssoc_cancel {β : Type} (get : Bytes → Option β) (c : Nat) :
    ∀ (ks : List Bytes) (it : Nat) (xs : List (Bytes × β)), (∀ k ∈ ks, (get k).isSome) →
      it ≤ c → c < it + ks.length → (copyAssoc get (some c) ks it xs).1 = .ctxErr
  | [], it, _, _, h1, h2 => absurd (Nat.lt_of_le_of_lt h1 h2) (Nat.lt_irrefl _)
  | k0 :: ks, it, xs, h, h1, h2 => by
    obtain ⟨v, hv⟩ := Option.isSome_iff_exists.1 (h k0 List.mem_cons_self)
    rw [List.length_cons] at h2
    rw [copyAssoc, Option.any_some, hv]
    by_cases hc : c ≤ it
    · rw [decide_eq_true hc]; rfl
    · rw [decide_eq_false hc]
      exact copyAssoc_cancel get c ks (it + 1) _ (fun k hk => h k (List.mem_cons_of_mem _ hk)) (by omega) (by omega)

/-- **C19 copyStable**: when every requested key is readable on the source (present, or absent on a store that
    answers absent keys with the zero value) every requested key ends up on the destination with the source's
    answer -/
theorem copyStable_copies (knownInt known extraKeys extraIntKeys : List Bytes) (src dst : Stable)
    (hint : ∀ k ∈ knownInt ++ extraIntKeys, (src.getU k).isSome)
    (hkv : ∀ k ∈ known ++ extraKeys, (src.get k).isSome) :
    let (r, dst') := copyStable knownInt known src dst extraKeys extraIntKeys none
    r = .ok ∧ (∀ k ∈ knownInt ++ extraIntKeys, dst'.ints.find? (·.1 = k) = (src.getU k).map (fun v => (k, v))) ∧
    (∀ k ∈ known ++ extraKeys, dst'.kvs.find? (·.1 = k) = (src.get k).map (fun v => (k, v))) := by
  obtain ⟨is, hrun1, hf1⟩ := copyAssoc_ok src.getU (knownInt ++ extraIntKeys) 0 dst.ints hint
  obtain ⟨kvs, hrun2, hf2⟩ := copyAssoc_ok src.get (known ++ extraKeys) (0 + (knownInt ++ extraIntKeys).length) dst.kvs hkv
  simp only [copyStable, copyInts_eq, copyKVs_eq, hrun1, hrun2]
  exact ⟨trivial, fun k hk => (hf1 k).trans (if_pos hk), fun k hk => (hf2 k).trans (if_pos hk)⟩

/-- an oracle that fires at one of CopyStable's iterations makes it return the context's error -/
theorem copyStable_cancel (knownInt known extraKeys extraIntKeys : List Bytes) (src dst : Stable) (k : Nat)
    (hint : ∀ k ∈ knownInt ++ extraIntKeys, (src.getU k).isSome)
    (hkv : ∀ k ∈ known ++ extraKeys, (src.get k).isSome)
    (hk : k < (knownInt ++ extraIntKeys).length + (known ++ extraKeys).length) :
    (copyStable knownInt known src dst extraKeys extraIntKeys (some k)).1 = .ctxErr := by
  rw [copyStable, copyInts_eq]
  by_cases h1 : k < (knownInt ++ extraIntKeys).length
  · have hc := copyAssoc_cancel src.getU k (knownInt ++ extraIntKeys) 0 dst.ints hint (Nat.zero_le _) (by omega)
    simp only [hc]
  · obtain ⟨is, hrun, _⟩ := copyAssoc_ok src.getU (knownInt ++ extraIntKeys) 0 dst.ints hint
    simp only [copyAssoc_late src.getU k (knownInt ++ extraIntKeys) 0 dst.ints (by omega), hrun, copyKVs_eq]
    exact copyAssoc_cancel src.get k (known ++ extraKeys) _ _ hkv (by omega) (by omega)

end RaftWal.Migrate
