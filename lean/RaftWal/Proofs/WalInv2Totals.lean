/-
  Proofs/WalInv2Totals.lean — C20: in a state related to the specification (`Sim w s`), one call moves
  the model's counters exactly as `specTotalsStep` moves the true totals (the two truncation counters
  are uint64 in the code, hence compared modulo 2^64: `Totals.wrap`).
-/
import RaftWal.Proofs.WalInv2Trans
namespace RaftWal

def Totals.wrap (t : Totals) : Totals := { t with head := u64 t.head, tail := u64 t.tail }

theorem u64_u64_add (a b : Nat) : u64 (u64 a + b) = u64 (a + b) := Nat.mod_add_mod a _ b

theorem specTotalsStep_store (s : Spec.SLog) (t : Totals) (logs : List Log) :
    (specTotalsStep s t (.log (.store logs))).2 =
      if (s.store logs).2 = none ∧ logs ≠ [] then t.app logs else t := by
  simp only [specTotalsStep]
  rcases s.store logs with ⟨s', e⟩
  cases e <;> cases logs <;> simp [Totals.app]

theorem ctr_store {w : Wal} {s : Spec.SLog} {t : Totals} (h : Sim w s) (hct : w.ctr.totals = t.wrap)
    (logs : List Log) (hr : ∀ l ∈ logs, l.index < 2^64 - 1) :
    (w.step (.store logs)).1.ctr.totals = (specTotalsStep s t (.log (.store logs))).2.wrap := by
  have ha := (sim_store h logs hr).1
  rw [step_store_eq, sstep_store_eq] at ha
  simp only at ha
  have hiff : (w.storeLogs logs).2 = none ↔ (s.store logs).2 = none := by
    rw [← optAns_ok, ha, sOptAns_ok]
  rw [step_store_eq, specTotalsStep_store]
  simp only
  rw [(storeLogs_tr w logs).2, hct]
  by_cases hc : (s.store logs).2 = none ∧ logs ≠ []
  · rw [if_pos hc, if_pos ⟨hiff.mpr hc.1, hc.2⟩]; rfl
  · rw [if_neg hc, if_neg (fun h' => hc ⟨hiff.mp h'.1, h'.2⟩)]

theorem getLog_ctr (w : Wal) (i : Nat) (hw : w.closed = false) :
    (w.getLog i).1.ctr.totals =
      match w.getLogRaw i with
      | .ok l => { w.ctr.totals with entriesR := w.ctr.totals.entriesR + 1, bytesR := w.ctr.totals.bytesR + encLen l }
      | .error _ => { w.ctr.totals with entriesR := w.ctr.totals.entriesR + 1 } := by
  unfold Wal.getLog
  rw [if_neg (by simp [hw])]
  simp only
  have e : Wal.getLogRaw { w with ctr := { w.ctr with entriesR := w.ctr.entriesR + 1 } } i = w.getLogRaw i :=
    getLogRaw_congr rfl rfl i
  rw [e]
  cases w.getLogRaw i <;> rfl

theorem ctr_get {w : Wal} {s : Spec.SLog} {t : Totals} (h : Sim w s) (hct : w.ctr.totals = t.wrap) (i : Nat) :
    (w.step (.get i)).1.ctr.totals = (specTotalsStep s t (.log (.get i))).2.wrap := by
  obtain ⟨F, hc, ht, hcl, hf⟩ := h
  simp only [Wal.step, specTotalsStep]
  cases hw : w.closed
  · rw [hw] at hcl
    rw [getLog_ctr w i hw, getLogRaw_eq hc ht i, spec_get_eq hcl hf i, hct]
    simp only [hcl, Bool.false_eq_true, if_false]
    cases look F s.entries i <;> rfl
  · rw [hw] at hcl
    simp only [Wal.getLog, hw, hcl, if_true]
    exact hct

theorem specTotalsStep_del (s : Spec.SLog) (t : Totals) (mn mx : Nat) :
    (specTotalsStep s t (.log (.del mn mx))).2 =
      if (s.delete mn mx).2.isSome ∨ s.entries.length - (s.delete mn mx).1.entries.length = 0 then t
      else if mn ≤ s.firstIndex then { t with head := t.head + (s.entries.length - (s.delete mn mx).1.entries.length) }
      else { t with tail := t.tail + (s.entries.length - (s.delete mn mx).1.entries.length) } := rfl

/-- the number of entries a `DeleteRange` that decided `d` removes from a log spanning `[first, last]` -/
def delRemoved (first last : Nat) : DelAction → Nat
  | .head n => headRemoved first last n
  | .tail n => last - n
  | _ => 0

def Totals.del (t : Totals) (first last : Nat) (d : DelAction) : Totals :=
  match d with
  | .head _ => { t with head := t.head + delRemoved first last d }
  | .tail _ => { t with tail := t.tail + delRemoved first last d }
  | _ => t

theorem applyDel_totals {w : Wal} {t : Totals} (hct : w.ctr.totals = t.wrap) (d : DelAction)
    (hok : d ≠ .refuse → (w.applyDel d).2 = none) :
    (w.applyDel d).1.ctr.totals = (t.del w.firstIndex w.lastIndex d).wrap := by
  have hhead : w.ctr.headTrunc = u64 t.head := congrArg Totals.head hct
  have htail : w.ctr.tailTrunc = u64 t.tail := congrArg Totals.tail hct
  cases d with
  | nothing => exact hct
  | refuse => exact hct
  | head n =>
    rw [Wal.applyDel, (truncateHead_tr w n).2, headBump, hhead, u64_u64_add, hct]
    rfl
  | tail n =>
    rw [Wal.applyDel, (truncateTail_tr w n).2 (hok DelAction.noConfusion), tailBump, htail, u64_u64_add, hct]
    rfl

theorem headRemoved_eq_drop {first last len mx : Nat} (h1 : 1 ≤ first) (hlen : 0 < len) (hl : last + 1 = first + len)
    (hf : first ≤ mx) : headRemoved first last (min mx last + 1) = len - (len - (mx + 1 - first)) := by
  have hfl : first ≤ last := by omega
  have hclamp : min (min mx last + 1) (last + 1) = min mx last + 1 :=
    Nat.min_eq_left (Nat.succ_le_succ (Nat.min_le_right mx last))
  have hspan : last + 1 - first = len := by rw [hl, Nat.add_sub_cancel_left]
  have hsub : min mx last + 1 - first = min (mx + 1 - first) len := by
    rw [← Nat.add_min_add_right, ← Nat.sub_min_sub_right, hspan]
  unfold headRemoved
  rw [if_pos ⟨h1, Nat.lt_succ_of_le (Nat.le_min.mpr ⟨hf, hfl⟩)⟩, Nat.sub_sub_eq_min]
  show min (min mx last + 1) (last + 1) - first = _
  rw [hclamp, hsub, Nat.min_comm]

theorem tail_eq_take {first last len mn : Nat} (hl : last + 1 = first + len) (hf : first < mn) (hm : mn ≤ last) :
    len - min (mn - first) len = last - (mn - 1) := by
  have hkept : mn - first ≤ len := Nat.sub_le_of_le_add (by omega)
  have e1 : len - (mn - first) = last + 1 - mn := by
    rw [← Nat.add_sub_add_right len first, Nat.sub_add_cancel (Nat.le_of_lt hf), hl, Nat.add_comm]
  have e2 : last - (mn - 1) = last + 1 - mn := by
    rw [← Nat.add_sub_add_right last 1, Nat.sub_add_cancel (Nat.lt_of_le_of_lt (Nat.zero_le _) hf)]
  rw [Nat.min_eq_left hkept, e1, e2]

def specApplyDel (s : Spec.SLog) (mn mx : Nat) : DelAction → Spec.SLog × Option Spec.SErr
  | .nothing => (s, none)
  | .head _ => ({ s with first := s.first + (mx + 1 - s.first), entries := s.entries.drop (mx + 1 - s.first) }, none)
  | .tail _ => ({ s with entries := s.entries.take (mn - s.first) }, none)
  | .refuse => (s, some .rejected)

theorem specApplyDel_ok (s : Spec.SLog) (mn mx : Nat) (d : DelAction) :
    (specApplyDel s mn mx d).2 = none ↔ d ≠ .refuse := by
  cases d <;> simp [specApplyDel]

/-- on a non-empty open log `delete` runs through the tests of `delDecide` -/
theorem spec_delete_eq_decision {s : Spec.SLog} (hcl : s.closed = false) (hemp : s.entries.isEmpty = false)
    (mn mx : Nat) : s.delete mn mx = specApplyDel s mn mx (delDecide mn mx s.firstIndex s.lastIndex) := by
  unfold delDecide
  rw [Spec.SLog.delete_open hcl, hemp]
  simp only [Bool.false_eq_true, false_or, apply_ite (specApplyDel s mn mx)]
  rfl

/-- (`first ≥ 1` and `lastIndex + 1 < 2^64` hold of every log the WAL can hold: `Sim.indexes`) -/
theorem specTotals_del {s : Spec.SLog} (t : Totals) (mn mx : Nat) (hcl : s.closed = false)
    (hpos : s.entries ≠ [] → 1 ≤ s.first) (hb : s.lastIndex + 1 < 2^64) :
    ((s.delete mn mx).2 = none ↔ delDecide mn mx s.firstIndex s.lastIndex ≠ .refuse) ∧
      (specTotalsStep s t (.log (.del mn mx))).2 =
        t.del s.firstIndex s.lastIndex (delDecide mn mx s.firstIndex s.lastIndex) := by
  have hd := delDecide_case mn mx s.firstIndex s.lastIndex
  have key : ((s.delete mn mx).2 = none ↔ delDecide mn mx s.firstIndex s.lastIndex ≠ .refuse) ∧
      s.entries.length - (s.delete mn mx).1.entries.length =
        delRemoved s.firstIndex s.lastIndex (delDecide mn mx s.firstIndex s.lastIndex) := by
    cases hemp : s.entries.isEmpty
    · have hne : s.entries ≠ [] := fun e => by rw [e] at hemp; exact Bool.noConfusion hemp
      have h1 := hpos hne
      have hfi := Spec.SLog.firstIndex_of_ne hne
      have hla := Spec.SLog.lastIndex_succ hne
      rw [spec_delete_eq_decision hcl hemp]
      refine ⟨specApplyDel_ok s mn mx _, ?_⟩
      generalize delDecide mn mx s.firstIndex s.lastIndex = d at hd ⊢
      cases d with
      | nothing => exact Nat.sub_self _
      | refuse => exact Nat.sub_self _
      | head n =>
        obtain ⟨⟨_, c2, _⟩, rfl⟩ := hd
        show s.entries.length - (s.entries.drop (mx + 1 - s.first)).length = headRemoved _ _ _
        rw [List.length_drop, u64_of_lt (Nat.lt_of_le_of_lt (Nat.succ_le_succ (Nat.min_le_right _ _)) hb), hfi]
        exact (headRemoved_eq_drop h1 (List.length_pos_iff.mpr hne) hla
          (Nat.le_of_not_lt fun h => c2 (Or.inl (hfi ▸ h)))).symm
      | tail n =>
        obtain ⟨⟨_, c2, c3, _⟩, rfl⟩ := hd
        show s.entries.length - (s.entries.take (mn - s.first)).length = s.lastIndex - (mn - 1)
        rw [List.length_take]
        exact tail_eq_take hla (hfi ▸ Nat.lt_of_not_le c3) (Nat.le_of_not_lt fun h => c2 (Or.inr h))
    · -- the empty log: nothing to remove, whatever the decision (it cannot be `tail` or `refuse`)
      have he : s.entries = [] := List.isEmpty_iff.mp hemp
      rw [Spec.SLog.delete_of_nil hcl he]
      generalize delDecide mn mx s.firstIndex s.lastIndex = d at hd ⊢
      rw [Spec.SLog.firstIndex_of_nil he, Spec.SLog.lastIndex_of_nil he] at hd ⊢
      cases d with
      | nothing => exact ⟨⟨fun _ => nofun, fun _ => rfl⟩, Nat.sub_self _⟩
      | head n => exact ⟨⟨fun _ => nofun, fun _ => rfl⟩, Nat.sub_self _⟩
      | tail n =>
        obtain ⟨⟨_, c2, c3, _⟩, _⟩ := hd
        exact absurd (Nat.le_of_not_lt fun h => c2 (Or.inr h)) c3
      | refuse =>
        obtain ⟨_, c2, c3, _⟩ := hd
        exact absurd (Nat.le_of_not_lt fun h => c2 (Or.inr h)) c3
  refine ⟨key.1, ?_⟩
  rw [specTotalsStep_del, key.2]
  generalize delDecide mn mx s.firstIndex s.lastIndex = d at hd key
  cases d with
  | nothing => exact if_pos (Or.inr rfl)
  | refuse =>
    cases h : (s.delete mn mx).2 with
    | none => exact absurd rfl (key.1.mp h)
    | some _ => exact if_pos (Or.inl rfl)
  | head n =>
    rw [key.1.mpr nofun]
    by_cases hr : delRemoved s.firstIndex s.lastIndex (.head n) = 0
    · rw [if_pos (Or.inr hr), Totals.del, hr]
      rfl
    · rw [if_neg (fun h => h.elim Bool.noConfusion hr), if_pos hd.1.2.2]
      rfl
  | tail n =>
    rw [key.1.mpr nofun]
    by_cases hr : delRemoved s.firstIndex s.lastIndex (.tail n) = 0
    · rw [if_pos (Or.inr hr), Totals.del, hr]
      rfl
    · rw [if_neg (fun h => h.elim Bool.noConfusion hr), if_neg hd.1.2.2.1]
      rfl

theorem Sim.indexes {w : Wal} {s : Spec.SLog} (h : Sim w s) :
    w.firstIndex = s.firstIndex ∧ w.lastIndex = s.lastIndex ∧ (s.entries ≠ [] → 1 ≤ s.first) ∧
      s.lastIndex + 1 < 2^64 := by
  obtain ⟨F, hc, ht, _, hf⟩ := h
  have hla := Spec.SLog.lastIndex_eq hf
  refine ⟨(firstIndex_eq hc ht).trans (Spec.SLog.firstIndex_eq hf).symm, (lastIndex_eq hc ht).trans hla.symm,
    fun hne => hf hne ▸ F_pos hc, ?_⟩
  rw [hla]
  by_cases hlen : s.entries.length = 0
  · rw [if_pos hlen]
    decide
  · rw [if_neg hlen, Nat.sub_add_cancel (Nat.le_add_right_of_le (F_pos hc))]
    exact Nat.lt_of_le_of_lt hc.bound (by decide)

theorem ctr_del {w : Wal} {s : Spec.SLog} {t : Totals} (h : Sim w s) (hct : w.ctr.totals = t.wrap) (mn mx : Nat) :
    (w.step (.del mn mx)).1.ctr.totals = (specTotalsStep s t (.log (.del mn mx))).2.wrap := by
  have hans := (sim_del h mn mx).1
  rw [step_del_eq, sstep_del_eq] at hans
  rw [step_del_eq]
  cases hwc : w.closed
  · obtain ⟨hfi, hla, hpos, hb⟩ := h.indexes
    obtain ⟨hok, hspec⟩ := specTotals_del t mn mx (h.closed_eq.trans hwc) hpos hb
    rw [deleteRange_eq_decision w mn mx hwc, Wal.delDecision_eq] at hans ⊢
    rw [hspec, ← hfi, ← hla] at *
    exact applyDel_totals hct _ (fun hne => optAns_ok.mp (hans.trans (sOptAns_ok.mpr (hok.mpr hne))))
  · rw [deleteRange_closed hwc, specTotalsStep_del]
    rw [Spec.SLog.delete_of_closed (h.closed_eq.trans hwc)]
    exact hct

theorem ctr_log {w : Wal} {s : Spec.SLog} {t : Totals} (h : Sim w s) (hct : w.ctr.totals = t.wrap)
    (op : Op) (hop : op.inRange) :
    (w.step op).1.ctr.totals = (specTotalsStep s t (.log op)).2.wrap := by
  cases op with
  | store logs => exact ctr_store h hct logs hop
  | del mn mx => exact ctr_del h hct mn mx
  | get i => exact ctr_get h hct i
  | first => exact hct
  | last => exact hct
  | close => exact hct
  | reopen =>
    show _ = t.wrap
    simp only [Wal.step]
    split
    · rename_i w' h'; rw [(reopen_tr h').2.1]; exact hct
    · exact hct

end RaftWal
