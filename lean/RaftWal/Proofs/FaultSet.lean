/-
  Proofs/FaultSet.lean — `set` under any fault plan: the stable store is no part of the invariant.
-/
import RaftWal.Proofs.FaultInv

namespace RaftWal.Fault.B
open RaftWal.Crash RaftWal.Fault.A

/-- no conjunct of `finvRunB` reads `md.stable` -/
theorem finvRunB_stable (n : Nat) (s : List Seg) (st st' : List (Nat × Nat)) (fs : List File) :
    finvRunB ⟨⟨n, s, st⟩, fs⟩ = finvRunB ⟨⟨n, s, st'⟩, fs⟩ := by
  unfold finvRunB quiescentSB quiescentB strip cleanTail
  simp only
  cases s.getLast? <;> rfl

theorem finvB_stable (p : Proc) (st : List (Nat × Nat)) :
    finvB { p with disk := { p.disk with md := { p.disk.md with stable := st } } } = finvB p := by
  obtain ⟨⟨⟨n, s, st0⟩, fs⟩, fr⟩ := p
  cases fr with
  | none => exact finvRunB_stable n s st st0 fs
  | some segs0 =>
    show (_ && finvRunB ⟨⟨n - 1, segs0, st⟩, fs⟩ && _) = (_ && finvRunB ⟨⟨n - 1, segs0, st0⟩, fs⟩ && _)
    rw [finvRunB_stable (n - 1) segs0 st st0]
    rfl

theorem fextraB_stable (p : Proc) (st : List (Nat × Nat)) :
    fextraB { p with disk := { p.disk with md := { p.disk.md with stable := st } } } = fextraB p := by
  obtain ⟨⟨⟨n, s, st0⟩, fs⟩, fr⟩ := p
  cases fr <;> rfl

/-- the commit of a `set` fails and nothing changed, or the stable store has the new value -/
theorem runOp_set (p : Proc) (key val : Nat) (pl : Plan) :
    runOp p (.set key val) pl = (p, false) ∨
    runOp p (.set key val) pl =
      ({ p with disk := { p.disk with md := { p.disk.md with stable := upsert p.disk.md.stable key val } } }, true) := by
  unfold runOp
  rcases runActs_failsUnchanged p.disk (.commit { p.disk.md with stable := upsert p.disk.md.stable key val }) [] pl rfl with
    ⟨k, hr⟩ | ⟨k, hr⟩
  · exact Or.inl (by simp only [hr]; rfl)
  · exact Or.inr (by simp only [hr, runActs_nil]; rfl)

theorem set_spec (p : Proc) (hi : FInv p) (key val : Nat) (pl : Plan) : CallOK p (.set key val) pl := by
  unfold CallOK CallFrom
  rcases runOp_set p key val pl with hr | hr
  · rw [hr]
    exact callSpec_same p hi _ _
  · rw [hr]
    refine ⟨?_, absLog_congr rfl rfl, Or.inr (Or.inr (absLog_congr rfl rfl)), fun hx => ?_⟩
    · show finvB _ = true
      rw [finvB_stable]
      exact hi
    · show fextraB _ = true
      rw [fextraB_stable]
      exact hx

end RaftWal.Fault.B
