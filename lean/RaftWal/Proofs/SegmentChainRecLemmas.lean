/-
  Proofs/SegmentChainRecLemmas.lean — tail recovery cut by power losses while it zeroes the stale tail
  (`clearStaleTail`), any number of times in a row: definitions (`tornRecoveryImage`, `recCut`, `cutImages`) and
  the facts about power-loss images the chain theorem of Proofs/SegmentChainRec.lean needs.
-/
import RaftWal.Proofs.SegmentChainTorn
namespace RaftWal
open Spec (Acc Batch addEntry addBatch)

/-- the power-loss image of a recovery cut while it zeroes the stale tail.  `recoverTail info img = .ok (w, img')`
    with `img' = clearStale img w.writeOffset = img.take w.writeOffset ++ zeros (img.length - w.writeOffset)`:
    recovery rewrites exactly the range `[w.writeOffset, img.length)`, with zeros.  The crash leaves 8-byte chunk
    `j` of that range zeroed iff `zmask j`, the other chunks as they were in `img`.

    Correspondence with segment/writer.go: `clearStaleTail` writes zeros over `[writeOffset, staleEnd)`, where
    `staleEnd` is the end of the last non-zero byte behind `writeOffset`, in `WriteAt` calls of `minBufSize` bytes,
    then fsyncs.  The bytes of `[staleEnd, EOF)` are zero before and after, so tearing the longer range
    `[writeOffset, EOF)` yields exactly the same set of images (a chunk beyond `staleEnd` is zero whether "written"
    or not; the chunk `staleEnd` falls into is zero behind `staleEnd` either way); `writeOffset` is 8-byte aligned,
    so the chunks of the range are chunks of the file.  When nothing non-zero follows `writeOffset` the code does
    not write at all: `img' = img` and every tear of it is `img` (`tearImage_self`). -/
def tornRecoveryImage (img img' : Bytes) (writeOffset : Nat) (zmask : Nat → Bool) : Bytes :=
  tearImage img img' writeOffset (img'.length - writeOffset) zmask

/-- recovery of `img`, cut by a power loss during its zeroing write once for every mask of `zmasks` (each time the
    next Open runs recovery on the image the crash left), then running to completion -/
def recCut (info : SegInfo) (img : Bytes) : List (Nat → Bool) → Except SegErr (Writer × Bytes)
  | [] => recoverTail info img
  | z :: zs =>
    match recoverTail info img with
    | .error e => .error e
    | .ok (w, img') => recCut info (tornRecoveryImage img img' w.writeOffset z) zs

/-- the images recovery is run on along `recCut info img zmasks`: `img` and the power-loss images of the cut
    recoveries, in order -/
def cutImages (info : SegInfo) (img : Bytes) : List (Nat → Bool) → List Bytes
  | [] => [img]
  | z :: zs =>
    img :: match recoverTail info img with
      | .error _ => []
      | .ok (w, img') => cutImages info (tornRecoveryImage img img' w.writeOffset z) zs

theorem recCut_nil (info : SegInfo) (img : Bytes) : recCut info img [] = recoverTail info img := rfl

theorem recCut_cons_ok (info : SegInfo) (img : Bytes) (z : Nat → Bool) (zs : List (Nat → Bool)) (w : Writer) (img' : Bytes)
    (h : recoverTail info img = .ok (w, img')) :
    recCut info img (z :: zs) = recCut info (tornRecoveryImage img img' w.writeOffset z) zs := by
  rw [recCut, h]

theorem recCut_cons_error (info : SegInfo) (img : Bytes) (z : Nat → Bool) (zs : List (Nat → Bool)) (e : SegErr)
    (h : recoverTail info img = .error e) : recCut info img (z :: zs) = .error e := by
  rw [recCut, h]

theorem cutImages_head (info : SegInfo) (img : Bytes) (zs : List (Nat → Bool)) : img ∈ cutImages info img zs := by
  cases zs with
  | nil => exact List.mem_cons_self
  | cons z zs => exact List.mem_cons_self

theorem cutImages_cons_ok (info : SegInfo) (img : Bytes) (z : Nat → Bool) (zs : List (Nat → Bool)) (w : Writer) (img' : Bytes)
    (h : recoverTail info img = .ok (w, img')) :
    cutImages info img (z :: zs) = img :: cutImages info (tornRecoveryImage img img' w.writeOffset z) zs := by
  rw [cutImages, h]

/-- a write that changes nothing cannot be torn -/
theorem tearImage_self (f : Bytes) (off len : Nat) (mask : Nat → Bool) : tearImage f f off len mask = f := by
  apply List.ext_getElem (tearImage_length _ _ _ _ _)
  intro i h1 h2
  rw [tearImage_getElem, ite_self, getD_of_lt _ _ h2]

/-- **a torn append whose discarding recovery is cut is a torn append**: the power-loss image of `b`'s append
    with chunk mask `m`, recovered as "batch absent" (file as before, lengthened with zeros) with the zeroing write
    torn by `z`, IS the power-loss image of the append with mask `fun j => m j && !z j` (the zeroing starts at the
    write offset the append started at, so the chunk indices coincide) -/
theorem tearImage_tear (file file' : Bytes) (wo len : Nat) (m z : Nat → Bool) (hlen : file.length ≤ file'.length) :
    tornRecoveryImage (tearImage file file' wo len m) (file ++ zeros (file'.length - file.length)) wo z
      = tearImage file file' wo len (fun j => m j && !z j) := by
  have hl : (file ++ zeros (file'.length - file.length)).length = file'.length := by
    rw [List.length_append, zeros_length]; exact Nat.add_sub_cancel' hlen
  unfold tornRecoveryImage
  apply List.ext_getElem
  · rw [tearImage_length, tearImage_length, hl]
  · intro i h1 h2
    have hi : i < file'.length := by rw [tearImage_length] at h2; exact h2
    rw [tearImage_getElem, tearImage_getElem, getD_append_zeros, tearImage_getD _ _ _ _ _ _ hi, hl]
    by_cases hz : z ((i - wo) / 8) = true
    · by_cases hw : wo ≤ i
      · rw [if_pos ⟨hw, by omega, hz⟩, if_neg (by simp [hz])]
      · rw [if_neg (fun h => hw h.1), if_neg (fun h => hw h.1), if_neg (fun h => hw h.1)]
    · rw [if_neg (by simp [hz])]
      simp only [Bool.not_eq_true] at hz
      simp [hz]

theorem tearImage_complete_mono (file file' : Bytes) (wo len : Nat) (m m2 : Nat → Bool) (hm : ∀ j, m2 j = true → m j = true)
    (h : tearImage file file' wo len m2 = file') : tearImage file file' wo len m = file' := by
  apply List.ext_getElem (tearImage_length _ _ _ _ _)
  intro i h1 h2
  have h3 : i < (tearImage file file' wo len m2).length := by rw [tearImage_length]; exact h2
  have hg : (tearImage file file' wo len m2)[i] = file'[i] := by simp only [h]
  rw [tearImage_getElem] at hg
  rw [tearImage_getElem]
  by_cases hc : wo ≤ i ∧ i < wo + len ∧ m ((i - wo) / 8) = true
  · rw [if_pos hc, getD_of_lt _ _ h2]
  · rw [if_neg hc]
    rw [if_neg (fun h' => hc ⟨h'.1, h'.2.1, hm _ h'.2.2⟩)] at hg
    exact hg

/-- every recovery returns the writer the process had and rewrites nothing (zeros over zeros), so every power-loss
    image is the file itself -/
theorem recCut_inv (info : SegInfo) (hb : info.base < 2^64) (hi : info.id < 2^64) (hc : info.codec < 2^64)
    (bs : List (List Bytes)) (w : Writer) (file : Bytes) (h : ChainInv info w file bs) (zs : List (Nat → Bool)) :
    recCut info file zs = .ok (w, file) := by
  have hr := recover_inv info hb hi hc bs w file h
  induction zs with
  | nil => exact hr
  | cons z zs ih =>
    rw [recCut_cons_ok info file z zs w file hr, tornRecoveryImage, tearImage_self]
    exact ih

/-- **a cut recovery resurrects nothing and loses nothing**: short of a CRC-32C collision in one of the images,
    the recovery that finally completes returns exactly what the FIRST recovery of the torn image would have
    returned had it not been cut — a partly zeroed stale region never makes a later recovery accept a batch the
    first one rejected (nor reject one it accepted) -/
theorem recCut_torn_same (info : SegInfo) (bs : List (List Bytes)) (b : List Bytes)
    (hwf : RunWF info (bs ++ [b]))
    (w : Writer) (file : Bytes) (hCI : ChainInv info w file bs)
    (w' : Writer) (file' : Bytes)
    (happ : w.append file (indexBatch (info.base + bs.flatten.length) b) .none = (none, w', file'))
    (zs : List (Nat → Bool)) (mask : Nat → Bool) :
    let img := tearImage file file' w.writeOffset (w'.writeOffset - w.writeOffset) mask
    recCut info img zs = recoverTail info img
    ∨ (∃ x ∈ cutImages info img zs, RegionCollision x file' w.writeOffset w'.writeOffset) := by
  have hlen : file.length ≤ file'.length := append_none_length_le _ _ _ _ _ happ
  have hCI' := chainInv_append info bs b hwf w file hCI w' file' happ
  have hU' := recover_inv info hwf.base_lt hwf.id_lt hwf.codec_lt _ w' file' hCI'
  have hne : w ≠ w' := by
    intro heq
    have h1 := hCI.next
    have h2 := hCI'.next
    rw [← heq, h1, List.flatten_append, List.length_append] at h2
    have hb : b ≠ [] := hwf.nonempty b (List.mem_append_right _ List.mem_cons_self)
    have : b.length = 0 := by simpa using h2
    exact hb (List.length_eq_zero_iff.mp this)
  induction zs generalizing mask with
  | nil => intro img; exact Or.inl rfl
  | cons z zs ih =>
    intro img
    rcases chain_torn_cases info bs b hwf w file hCI w' file' happ mask with h | ⟨h, _⟩ | ⟨_, h, _⟩
    · have h' : recoverTail info img = .ok (w, file ++ zeros (file'.length - file.length)) := h
      rw [recCut_cons_ok info img z zs _ _ h', cutImages_cons_ok info img z zs _ _ h', tearImage_tear _ _ _ _ _ _ hlen]
      rcases ih (fun j => mask j && !z j) with g | ⟨x, hx, g⟩
      · rw [g, h']
        rcases chain_torn_cases info bs b hwf w file hCI w' file' happ (fun j => mask j && !z j)
          with k | ⟨_, k | k⟩ | ⟨_, _, _, k1, k2⟩
        · exact Or.inl k
        · exfalso
          have hfull : img = file' :=
            tearImage_complete_mono file file' _ _ mask _ (fun j hj => by simp at hj; exact hj.1) k
          rw [hfull, hU'] at h'
          injection h' with h'
          injection h' with h' _
          exact hne h'.symm
        · exact Or.inr ⟨_, List.mem_cons_of_mem _ (cutImages_head _ _ _), k⟩
        · exact Or.inr ⟨_, List.mem_cons_of_mem _ (cutImages_head _ _ _), k1, k2⟩
      · exact Or.inr ⟨x, List.mem_cons_of_mem _ hx, g⟩
    · have h' : recoverTail info img = .ok (w', img) := h
      rw [recCut_cons_ok info img z zs _ _ h', cutImages_cons_ok info img z zs _ _ h', tornRecoveryImage, tearImage_self]
      rcases ih mask with g | ⟨x, hx, g⟩
      · exact Or.inl (by rw [g])
      · exact Or.inr ⟨x, List.mem_cons_of_mem _ hx, g⟩
    · have h' : recoverTail info img = .error .corrupt := h
      exact Or.inl (by rw [recCut_cons_error info img z zs _ h', h'])

theorem recCut_torn_cases (info : SegInfo) (bs : List (List Bytes)) (b : List Bytes)
    (hwf : RunWF info (bs ++ [b]))
    (w : Writer) (file : Bytes) (hCI : ChainInv info w file bs)
    (w' : Writer) (file' : Bytes)
    (happ : w.append file (indexBatch (info.base + bs.flatten.length) b) .none = (none, w', file'))
    (zs : List (Nat → Bool)) (mask : Nat → Bool) :
    let img := tearImage file file' w.writeOffset (w'.writeOffset - w.writeOffset) mask
    (recCut info img zs = .ok (w, file ++ zeros (file'.length - file.length)))
    ∨ (recCut info img zs = .ok (w', file'))
    ∨ (∃ x ∈ cutImages info img zs, RegionCollision x file' w.writeOffset w'.writeOffset) := by
  intro img
  rcases recCut_torn_same info bs b hwf w file hCI w' file' happ zs mask with hs | hc
  · rcases chain_torn_cases info bs b hwf w file hCI w' file' happ mask with h | ⟨h, hc | hc⟩ | ⟨_, _, _, hc⟩
    · exact Or.inl (hs.trans h)
    · exact Or.inr (Or.inl (hs.trans (h.trans (by rw [hc]))))
    · exact Or.inr (Or.inr ⟨img, cutImages_head _ _ _, hc⟩)
    · exact Or.inr (Or.inr ⟨img, cutImages_head _ _ _, hc⟩)
  · exact Or.inr (Or.inr hc)

end RaftWal
