/-
  Proofs/CrashDelTail.lean — tail truncation: the kept segments are a prefix; its last segment is sealed at the new
  last index (the tail after a ForceSeal, or a sealed segment whose `max` is lowered) and a fresh tail follows it.
-/
import RaftWal.Proofs.CrashCall
namespace RaftWal.Crash

theorem specApply_delTail (l : Log) (newMax : Nat) :
    specApply l (.delTail newMax) = l.filter (fun p => decide (p.1 ≤ newMax)) := rfl

def keptB (newMax : Nat) (s : Seg) : Bool := decide (s.base ≤ newMax)

theorem delTailProg_eq (d : Disk) (newMax : Nat) :
    delTailProg d newMax =
      match (d.md.segs.filter (keptB newMax)).getLast? with
      | none => []
      | some t =>
        (if t.sealed then [] else [.write t.id [] true, .fsync t.id]) ++
          newTailActs d.md (setSeg (d.md.segs.filter (keptB newMax)) { t with sealed := true, max := newMax }) (newMax + 1) ++
          (d.md.segs.filter (fun s => !keptB newMax s)).map (fun s => .delete s.id) ++ [.ack] := rfl

theorem Base.keptB_pw {d : Disk} {P : List Seg} {t : Seg} (hb : Base d P t) (newMax : Nat) :
    (P ++ [t]).Pairwise (fun a b => keptB newMax b = true → keptB newMax a = true) :=
  hb.pw.imp fun hab hk =>
    decide_eq_true (Nat.le_trans hab.2 (Nat.le_trans (Nat.le_of_lt hab.1) (of_decide_eq_true hk)))

theorem delTail_split {d : Disk} {P : List Seg} {t : Seg} {f : File} (h : QS d P t f) {newMax : Nat}
    (hok : (Op.delTail newMax).ok d) :
    (d.md.segs.filter (keptB newMax) = P ++ [t] ∧ d.md.segs.filter (fun s => !keptB newMax s) = [] ∧
      t.base ≤ newMax) ∨
    (∃ K0 tk D', P = K0 ++ tk :: D' ∧ d.md.segs.filter (keptB newMax) = K0 ++ [tk] ∧
      d.md.segs.filter (fun s => !keptB newMax s) = D' ++ [t] ∧ tk.base ≤ newMax ∧
      ∀ s ∈ D' ++ [t], newMax < s.base) := by
  have hb := h.base
  -- along the chain the bases increase: the kept segments are `takeWhile`, the dropped ones `dropWhile`
  obtain ⟨h1, h2⟩ := filter_eq_takeWhile (hb.keptB_pw newMax)
  rw [hb.segs]
  have hmem : ∀ s ∈ (P ++ [t]).dropWhile (keptB newMax), newMax < s.base := by
    intro s hs
    rw [← h2] at hs
    simpa [keptB] using (List.mem_filter.1 hs).2
  have hkept : ∀ s ∈ (P ++ [t]).takeWhile (keptB newMax), s.base ≤ newMax := fun s hs =>
    of_decide_eq_true (mem_takeWhile_imp' (p := keptB newMax) hs)
  have hsplit := List.takeWhile_append_dropWhile (p := keptB newMax) (l := P ++ [t])
  rw [h1, h2]
  cases hdw : (P ++ [t]).dropWhile (keptB newMax) with
  | nil =>
    rw [hdw, List.append_nil] at hsplit
    exact Or.inl ⟨hsplit, rfl, hkept t (by rw [hsplit]; exact List.mem_concat_self)⟩
  | cons x rest' =>
    rw [hdw] at hsplit hmem
    rcases eq_nil_or_snoc ((P ++ [t]).takeWhile (keptB newMax)) with htw | ⟨K0, tk, htw⟩
    · -- impossible: the first segment starts at or below the first index, so it is kept
      rw [htw, List.nil_append] at hsplit
      obtain ⟨q, hq, hq1⟩ := firstIndex_mem hok.1
      exact absurd (Nat.le_trans (hb.seg_base_le_min (hsplit ▸ List.mem_cons_self))
        (Nat.le_trans (hb.ge_min hsplit.symm hq) (hq1 ▸ hok.2.1))) (Nat.not_le.2 (hmem x List.mem_cons_self))
    · rw [htw] at hsplit hkept
      rcases split_last (D := K0) (h := tk) (by rw [← hsplit, List.append_assoc]; rfl) with ⟨hr, _, _⟩ | ⟨r0, hr, hP⟩
      · cases hr
      · exact Or.inr ⟨K0, tk, r0, hP, htw, hr, hkept tk List.mem_concat_self, hr ▸ hmem⟩

theorem delTail_tail {d : Disk} {P : List Seg} {t : Seg} {f : File} (h : QS d P t f) {newMax : Nat}
    (hok : (Op.delTail newMax).ok d)
    (hk : d.md.segs.filter (keptB newMax) = P ++ [t])
    (hD : d.md.segs.filter (fun s => !keptB newMax s) = []) (htb : t.base ≤ newMax) :
    CallRes d (.delTail newMax)
      ([.write t.id [] true, .fsync t.id] ++ newTailActs d.md (P ++ [sealSeg t newMax]) (newMax + 1) ++
        ([] : List Nat).map .delete) [] := by
  have hb := h.base
  have hq := h.toQO
  have hmin : t.min ≤ newMax := hb.seg_min_le (A := P) (B := []) rfl hok.1 hok.2.1 htb
  have hlt : newMax < f.base + f.synced.length := hq.next hok.1 ▸ Nat.lt_succ_of_lt hok.2.2
  have hX : f.synced ≠ [] := fun hc => by
    rw [hc, hq.qt.base] at hlt; exact Nat.lt_irrefl _ (Nat.lt_of_lt_of_le hlt htb)
  have hafter : specApply (absLog d) (.delTail newMax) =
      logP d P ++ (visU t.min f.base f.synced).filter (fun p => decide (p.1 ≤ newMax)) := by
    rw [specApply_delTail, hq.log_eq, List.filter_append, logP_filter_le_all hb.sealed fun s hs =>
      Nat.le_trans (Nat.le_of_lt ((List.pairwise_append.1 hb.pw).2.2 s hs t (List.mem_singleton.2 rfl)).1) htb]
  -- ForceSeal: an empty sealing write, then fsync; neither changes what the tail shows
  have hold : absLog d = logP d P ++ visU t.min f.base (f.synced ++ []) := by rw [List.append_nil]; exact hq.log_eq
  obtain ⟨h1, h2, hl2, f2, hf2, g1, g2, g3, g4, g5, g6⟩ :=
    hq.write_fsync (A := fun l => l = absLog d ∨ l = specApply (absLog d) (.delTail newMax)) [] true
      (fun _ => by rw [List.append_nil]; exact hX) (Or.inl rfl) (Or.inl hold.symm)
  rw [List.append_nil] at g2
  have h2 := h2 (A' := fun l => l = absLog d ∨ l = specApply (absLog d) (.delTail newMax)) (Or.inl hold.symm)
  refine callres_fresh h (.delTail newMax) [.write t.id [] true, .fsync t.id] [] (P' := P ++ [sealSeg t newMax])
    (newMax + 1) (fun k => ?_) (by simp) rfl
    (show fids ((d.apply (.write t.id [] true)).apply (.fsync t.id)) = fids d by rw [fids_fsync, fids_write]) ?_
    (by rw [segIds_append, segIds_append]; exact List.Perm.refl _)
    (forall_mem_concat h2.base.sealed ⟨f2, hf2, ⟨g1.trans hq.qt.base, g3, g5, hb.tbm, hb.tb1, rfl,
      g4, g6, hmin, by rw [g1, g2]; exact hlt⟩⟩)
    (chainOK_snoc_newSeg (a := sealSeg t newMax) (chainOK_retail hb.chain rfl rfl) _) (Nat.succ_pos _) ?_
  · rcases k with _ | _ | k
    · exact hq.toRec (Or.inl rfl)
    · exact h1
    · rw [List.take_of_length_le (Nat.le_add_left 2 k)]; exact h2
  · show delTailProg d newMax = _
    rw [delTailProg_eq, hk, hD, List.getLast?_concat]
    simp only [hb.tsl, Bool.false_eq_true, ↓reduceIte]
    rw [setSeg_tail (t' := { t with sealed := true, max := newMax }) hb.tid_ne rfl]
    rfl
  · show _ = logP ((d.apply (.write t.id [] true)).apply (.fsync t.id)) (P ++ [sealSeg t newMax])
    rw [hafter, logP_append, logP_single, segEntries_some (s := sealSeg t newMax) hf2, hl2, sealSeg, visF_sealed,
      File.content, g1, g2, g3, List.append_nil]

theorem delTail_sealed {d : Disk} {K0 D' : List Seg} {tk t : Seg} {f : File} (h : QS d (K0 ++ tk :: D') t f)
    {newMax : Nat} (hok : (Op.delTail newMax).ok d)
    (hk : d.md.segs.filter (keptB newMax) = K0 ++ [tk])
    (hD : d.md.segs.filter (fun s => !keptB newMax s) = D' ++ [t]) (htb : tk.base ≤ newMax)
    (hdrop : ∀ s ∈ D' ++ [t], newMax < s.base) :
    CallRes d (.delTail newMax)
      ([] ++ newTailActs d.md (K0 ++ [sealSeg tk newMax]) (newMax + 1) ++ (segIds (D' ++ [t])).map .delete) [] := by
  have hb := h.base
  have hq := h.toQO
  have hsplit : (K0 ++ tk :: D') ++ [t] = (K0 ++ [tk]) ++ (D' ++ [t]) := by simp
  have hsK : ∀ s ∈ K0, SealedOK d s := fun s hs => hb.sealed s (List.mem_append_left _ hs)
  have hsD : ∀ s ∈ D', SealedOK d s := fun s hs => hb.sealed s (List.mem_append_right _ (List.mem_cons_of_mem _ hs))
  obtain ⟨fk, hfk, hsf⟩ := hb.sealed tk (List.mem_append_right _ List.mem_cons_self)
  have hmin : tk.min ≤ newMax :=
    hb.seg_min_le (A := K0) (B := D' ++ [t]) (by rw [List.append_assoc]; rfl) hok.1 hok.2.1 htb
  have hch := hb.chain
  rw [hsplit, chainOK_append] at hch
  -- the next segment starts right after `tk.max` and above `newMax`
  have hmax : newMax ≤ tk.max := by
    cases hD' : D' ++ [t] with
    | nil => exact absurd hD' (List.append_ne_nil_of_right_ne_nil _ (List.cons_ne_nil _ _))
    | cons x rest =>
      have h1 := (hch.2.2 tk x List.getLast?_concat (by rw [hD']; rfl)).1
      have h2 := hdrop x (by rw [hD']; exact List.mem_cons_self)
      exact Nat.le_of_lt_succ (show newMax < tk.max + 1 from h1 ▸ h2)
  have hpw := hb.pw
  rw [hsplit, List.append_assoc] at hpw
  have hpw' := List.pairwise_append.1 hpw
  have hafter : specApply (absLog d) (.delTail newMax) = logP d (K0 ++ [sealSeg tk newMax]) := by
    rw [specApply_delTail, hq.log_eq, List.filter_append, logP_append, logP_cons, List.filter_append,
      List.filter_append, logP_append, logP_single,
      logP_filter_le_all hsK fun s hs =>
        Nat.le_trans (Nat.le_of_lt (hpw'.2.2 s hs tk List.mem_cons_self).1) htb,
      logP_filter_le_nil hsD fun s hs =>
        Nat.lt_of_lt_of_le (hdrop s (List.mem_append_left _ hs)) (hsD s hs).bounds.1,
      segEntries_some hfk, segEntries_some (s := sealSeg tk newMax) hfk, visF_setMax hsf.sl hmax,
      List.filter_eq_nil_iff.2 fun p hp hc => Nat.not_le.2 (Nat.lt_of_lt_of_le
        (hdrop t List.mem_concat_self)
        (hq.qt.base ▸ (mem_visU hp).2.1)) (of_decide_eq_true hc),
      List.append_nil, List.append_nil]
    rfl
  have hnidK : ∀ s ∈ K0, s.id ≠ tk.id := by
    have hnd := hb.nodupS
    rw [hsplit, List.map_append] at hnd
    exact ids_ne_last (List.nodup_append.1 hnd).1
  refine callres_fresh h (.delTail newMax) [] (segIds (D' ++ [t])) (P' := K0 ++ [sealSeg tk newMax]) (newMax + 1)
    (fun k => by rw [List.take_nil]; exact hq.toRec (Or.inl rfl)) (fun _ h => nomatch h) rfl rfl ?_ ?_
    (forall_mem_concat hsK ⟨fk, hfk, ⟨hsf.base, hsf.pend, hsf.sp, hsf.bm, hsf.b1, rfl, hsf.ss, hsf.lk, hmin,
      Nat.lt_of_le_of_lt hmax hsf.mx⟩⟩)
    (chainOK_snoc_newSeg (a := sealSeg tk newMax) (chainOK_retail hch.1 rfl rfl) _) (Nat.succ_pos _) hafter
  · show delTailProg d newMax = _
    rw [delTailProg_eq, hk, hD, map_delete_eq, List.getLast?_concat]
    simp only [hsf.sl, ↓reduceIte]
    rw [setSeg_tail (t' := { tk with sealed := true, max := newMax }) hnidK rfl]
    rfl
  · rw [hsplit, segIds_append, segIds_append, segIds_append K0]
    exact List.perm_append_comm

theorem delTail_res {d : Disk} {P : List Seg} {t : Seg} {f : File} (h : QS d P t f) {newMax : Nat}
    (hok : (Op.delTail newMax).ok d) : ∃ pre post, CallRes d (.delTail newMax) pre post := by
  rcases delTail_split h hok with ⟨hk, hD, htb⟩ | ⟨K0, tk, D', hP, hk, hD, htb, hdrop⟩
  · exact ⟨_, _, delTail_tail h hok hk hD htb⟩
  · subst hP
    exact ⟨_, _, delTail_sealed h hok hk hD htb hdrop⟩

end RaftWal.Crash
