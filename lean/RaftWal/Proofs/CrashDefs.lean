/-
  Proofs/CrashDefs.lean — what the crash theorems about Model/Crash.lean talk about: the invariant of a live
  process between calls (`Quiescent`, executable: the correspondence harness evaluates it on every state the model
  reaches while shadowing the real code), which calls are legal, what they mean on the abstract log, and the
  states reachable by recoveries that are themselves interrupted.
-/
import RaftWal.Model.Crash
namespace RaftWal.Crash

/-- segment `s` and its file agree; `isTail`: s is the last segment -/
def fileOK (d : Disk) (s : Seg) (isTail : Bool) : Bool :=
  match d.file? s.id with
  | none => false
  | some f =>
    f.base == s.base && f.pending.isEmpty && !f.sealedP && decide (s.base ≤ s.min) && decide (1 ≤ s.base) &&
    (if isTail then
       !s.sealed && !f.sealedS && (f.linked || f.synced.isEmpty) && decide (s.min ≤ f.base + f.synced.length)
     else
       s.sealed && f.sealedS && f.linked && decide (s.min ≤ s.max) && decide (s.max < f.base + f.synced.length))

/-- consecutive segments are contiguous and only the first may have lost a prefix -/
def chainOK : List Seg → Bool
  | a :: b :: rest => decide (b.base = a.max + 1) && decide (b.min = b.base) && chainOK (b :: rest)
  | _ => true

def nodupB : List Nat → Bool
  | [] => true
  | a :: l => !l.contains a && nodupB l

/-- the state of the directory between two calls of a live process, and right after a successful Open -/
def quiescentB (d : Disk) : Bool :=
  match d.md.segs.getLast? with
  | none => false
  | some t =>
    d.md.segs.dropLast.all (fun s => fileOK d s false) && fileOK d t true && chainOK d.md.segs &&
    nodupB (d.md.segs.map (·.id)) && d.md.segs.all (fun s => decide (s.id < d.md.nextID)) &&
    nodupB (d.files.map (·.id)) && d.files.all (fun f => d.md.segs.any (fun s => s.id == f.id))

def Quiescent (d : Disk) : Prop := quiescentB d = true

/-- the calls the WAL accepts in state `d` (everything else is refused before any I/O: C05) -/
def Op.ok (d : Disk) : Op → Prop
  | .store first es _ => es ≠ [] ∧ 1 ≤ first ∧ (absLog d = [] ∨ first = lastIndex d + 1)
  | .delHead newMin => absLog d ≠ [] ∧ firstIndex d < newMin ∧ newMin ≤ lastIndex d + 1
  | .delTail newMax => absLog d ≠ [] ∧ firstIndex d ≤ newMax ∧ newMax < lastIndex d
  | .set _ _ => True

/-- what a call means on the abstract log (the contiguous-log specification of C05) -/
def specApply (l : List (Nat × Entry)) : Op → List (Nat × Entry)
  | .store first es _ => l ++ ((List.range es.length).zip es).map (fun p => (first + p.1, p.2))
  | .delHead newMin => l.filter (fun p => decide (newMin ≤ p.1))
  | .delTail newMax => l.filter (fun p => decide (p.1 ≤ newMax))
  | .set _ _ => l

/-- the disk after the first `k` actions of a program, then a crash -/
def crashAfter (d : Disk) (as : List Act) (k : Nat) (c : CrashKind) : Disk := (d.applyAll (as.take k)).crash c

/-- states reachable from `d` by recoveries that are themselves cut by crashes, any number of times -/
inductive ReachRec : Disk → Disk → Prop
  | refl (d : Disk) : ReachRec d d
  | step (d : Disk) (as : List Act) (k : Nat) (c : CrashKind) (d2 : Disk) :
      openProg d = some as → ReachRec (crashAfter d as k c) d2 → ReachRec d d2

/-! ### the strengthened invariant, executable (added after the prover showed `quiescentB` admits two kinds of state
    no run reaches; `QuiescentS` and `quiescentSB_iff` are in CrashInv / CrashProps) -/

def tailVisB (t : Seg) (f : File) : Bool := f.synced.isEmpty || decide (t.min < f.base + f.synced.length)


/-- `quiescentB` plus (H1) a handle that has completed a Sync belongs to a file whose directory entry is durable and
    (H2) a non-empty tail file shows at least its last entry: what the correspondence harness evaluates on every
    state the model reaches while shadowing the real code -/
def quiescentSB (d : Disk) : Bool :=
  quiescentB d && d.files.all (fun f => !f.hsynced || f.linked) &&
  (match d.md.segs.getLast? with
   | none => true
   | some t =>
     match d.file? t.id with
     | none => true
     | some f => tailVisB t f)


end RaftWal.Crash
