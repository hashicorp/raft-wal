/-
  Proofs/EndToEnd.lean — **C12, second half**: "StoreLogs followed by GetLog returns an equal log", across the
  layers.  The codec round trip (`decode_encode`, Proofs/Codec.lean) is composed with the byte-level theorems of the
  segment model: `accepted_implies_readable` (Proofs/SegmentL1Run.lean: what a run of appends acknowledged is read back
  byte for byte) and `chain_atomic` (Proofs/SegmentChain.lean: the same after any chain of appends, torn appends,
  recoveries and restarts).

  `StoreLogs` = encode every log of the batch with the codec (all or nothing), hand the payloads to `Writer.Append`.
  `GetLog`    = `Writer.GetLog` (tail) / `Reader.GetLog` (sealed) for the payload, then `BinaryCodec.Decode`.
-/
import RaftWal.Proofs.SegmentChain
import RaftWal.Proofs.SegmentL1Run
import RaftWal.Proofs.Codec
import RaftWal.Generated.Codec
namespace RaftWal
open Spec (Acc addBatch)

/-- `StoreLogs`' encoding step: encode a batch, all or nothing -/
def encodeBatch : List Log → Option (List Bytes)
  | [] => some []
  | l :: ls =>
    match encode l, encodeBatch ls with
    | some p, some ps => some (p :: ps)
    | _, _ => none

def encodeBatches : List (List Log) → Option (List (List Bytes))
  | [] => some []
  | b :: bs =>
    match encodeBatch b, encodeBatches bs with
    | some p, some ps => some (p :: ps)
    | _, _ => none

theorem encodeBatch_eq_mapM (ls : List Log) : encodeBatch ls = ls.mapM encode := by
  induction ls with
  | nil => rfl
  | cons l ls ih =>
    rw [List.mapM_cons, encodeBatch, ih]
    cases encode l <;> cases List.mapM encode ls <;> rfl

theorem encodeBatches_eq_mapM (ls : List (List Log)) : encodeBatches ls = ls.mapM encodeBatch := by
  induction ls with
  | nil => rfl
  | cons l ls ih =>
    rw [List.mapM_cons, encodeBatches, ih]
    cases encodeBatch l <;> cases List.mapM encodeBatch ls <;> rfl

theorem encodeBatch_cons_some {l : Log} {ls : List Log} {ps : List Bytes} (h : encodeBatch (l :: ls) = some ps) :
    ∃ p ps', encode l = some p ∧ encodeBatch ls = some ps' ∧ ps = p :: ps' := by
  rw [encodeBatch] at h
  split at h
  · next p ps' h1 h2 => exact ⟨p, ps', h1, h2, (Option.some.inj h).symm⟩
  · cases h

theorem encodeBatches_cons_some {b : List Log} {ls : List (List Log)} {bs : List (List Bytes)}
    (h : encodeBatches (b :: ls) = some bs) :
    ∃ p bs', encodeBatch b = some p ∧ encodeBatches ls = some bs' ∧ bs = p :: bs' := by
  rw [encodeBatches] at h
  split at h
  · next p bs' h1 h2 => exact ⟨p, bs', h1, h2, (Option.some.inj h).symm⟩
  · cases h

theorem encodeBatch_append {a b : List Log} {x y : List Bytes} (ha : encodeBatch a = some x) (hb : encodeBatch b = some y) :
    encodeBatch (a ++ b) = some (x ++ y) := by
  induction a generalizing x with
  | nil => cases ha; exact hb
  | cons l a ih =>
    obtain ⟨p, ps', h1, h2, rfl⟩ := encodeBatch_cons_some ha
    rw [List.cons_append, encodeBatch, h1, ih h2]
    rfl

theorem encodeBatches_flatten {ls : List (List Log)} {bs : List (List Bytes)} (h : encodeBatches ls = some bs) :
    encodeBatch ls.flatten = some bs.flatten := by
  induction ls generalizing bs with
  | nil => cases h; rfl
  | cons b ls ih =>
    obtain ⟨p, bs', h1, h2, rfl⟩ := encodeBatches_cons_some h
    exact encodeBatch_append h1 (ih h2)

theorem encodeBatch_get {ls : List Log} {ps : List Bytes} (h : encodeBatch ls = some ps) :
    ps.length = ls.length ∧ ∀ (k : Nat) (hk : k < ls.length) (hk' : k < ps.length), encode ls[k] = some ps[k] := by
  induction ls generalizing ps with
  | nil => cases h; exact ⟨rfl, fun k hk => absurd hk (Nat.not_lt_zero k)⟩
  | cons l ls ih =>
    obtain ⟨p, ps', h1, h2, rfl⟩ := encodeBatch_cons_some h
    obtain ⟨hlen, hget⟩ := ih h2
    refine ⟨congrArg Nat.succ hlen, fun k hk hk' => ?_⟩
    cases k with
    | zero => exact h1
    | succ k => exact hget k (Nat.lt_of_succ_lt_succ hk) (Nat.lt_of_succ_lt_succ hk')

theorem encodeBatch_nil_iff {ls : List Log} {ps : List Bytes} (h : encodeBatch ls = some ps) : ps = [] ↔ ls = [] := by
  rw [← List.length_eq_zero_iff, (encodeBatch_get h).1, List.length_eq_zero_iff]

theorem encodeBatches_flatten_length {ls : List (List Log)} {bs : List (List Bytes)} (h : encodeBatches ls = some bs) :
    bs.flatten.length = ls.flatten.length :=
  (encodeBatch_get (encodeBatches_flatten h)).1

theorem encodeBatches_get {ls : List (List Log)} {bs : List (List Bytes)} (h : encodeBatches ls = some bs) (k : Nat)
    (hk : k < ls.flatten.length) : ∃ hk' : k < bs.flatten.length, encode ls.flatten[k] = some bs.flatten[k] := by
  obtain ⟨hlen, hget⟩ := encodeBatch_get (encodeBatches_flatten h)
  exact ⟨hlen ▸ hk, hget k hk (hlen ▸ hk)⟩

theorem encode_some {l : Log} {p : Bytes} (h : encode l = some p) :
    (∃ t, l.time = some t) ∧ l.data.length ≤ p.length ∧ l.ext.length ≤ p.length := by
  unfold encode at h
  cases ht : l.time with
  | none => rw [ht] at h; cases h
  | some t =>
    rw [ht] at h
    cases h
    simp only [List.length_append]
    exact ⟨⟨t, rfl⟩, Nat.le_add_right_of_le (Nat.le_add_right_of_le (Nat.le_add_right_of_le (Nat.le_add_left _ _))),
      Nat.le_add_right_of_le (Nat.le_add_left _ _)⟩

/-- the hypotheses of `decode_encode` on one log -/
structure LogWF (l : Log) : Prop where
  /-- the fields are in the range of their Go types (`uint64`, `uint64`, `uint8`; the wire time has its field widths) -/
  wf      : l.wf
  /-- `AppendedAt.MarshalBinary` succeeds -/
  time    : ∃ t, l.time = some t
  /-- `len(Data)` is a `uint64` -/
  data_lt : l.data.length < 2^64
  /-- `len(Extensions)` is a `uint64` -/
  ext_lt  : l.ext.length < 2^64

structure LogsWF (ls : List (List Log)) : Prop where
  all : ∀ b ∈ ls, ∀ l ∈ b, LogWF l

theorem LogsWF.flatten {ls : List (List Log)} (h : LogsWF ls) : ∀ l ∈ ls.flatten, LogWF l := by
  intro l hl
  obtain ⟨b, hb, hlb⟩ := List.mem_flatten.mp hl
  exact h.all b hb l hlb

theorem decode_encode_wf (cfg : DecodeCfg) {l : Log} (h : LogWF l) {p : Bytes} (henc : encode l = some p) :
    decode cfg p = .ok l := by
  obtain ⟨t, ht⟩ := h.time
  exact decode_encode cfg l t h.wf ht h.data_lt h.ext_lt p henc

/-- Only `Log.wf` is a real hypothesis: a log that was encoded has a wire time, and payloads the segment writer
    accepted are at most `maxEntrySize` (64 MiB) long, so the two length bounds hold. -/
theorem LogsWF.of_encoded {ls : List (List Log)} {bs : List (List Bytes)} (hwf : ∀ b ∈ ls, ∀ l ∈ b, l.wf)
    (henc : encodeBatches ls = some bs) (hmax : ∀ b ∈ bs, ∀ p ∈ b, p.length ≤ maxEntrySize) : LogsWF ls := by
  refine ⟨fun b hb l hl => ?_⟩
  obtain ⟨k, hk, rfl⟩ := List.getElem_of_mem (List.mem_flatten.mpr ⟨b, hb, hl⟩)
  obtain ⟨hk', he⟩ := encodeBatches_get henc k hk
  obtain ⟨b', hb', hp⟩ := List.mem_flatten.mp (List.getElem_mem hk')
  obtain ⟨htime, hdata, hext⟩ := encode_some he
  have hlt : bs.flatten[k].length < 2^64 := Nat.lt_of_le_of_lt (hmax b' hb' _ hp) (by decide)
  exact ⟨hwf b hb _ hl, htime, Nat.lt_of_le_of_lt hdata hlt, Nat.lt_of_le_of_lt hext hlt⟩

/-- outcome of a decode as an option: `err` and `panic` are both "no log" -/
def DecRes.toOption : DecRes → Option Log
  | .ok l => some l
  | _ => none

/-- `GetLog` on the tail segment: `Writer.GetLog` for the payload, then `BinaryCodec.Decode` -/
def Writer.getLogDecoded (cfg : DecodeCfg) (w : Writer) (file : Bytes) (idx bufSize : Nat) : Option Log :=
  (w.getLog file idx bufSize).toOption.bind (fun p => (decode cfg p).toOption)

/-- `GetLog` on a sealed segment: `Reader.GetLog` (offset from the on-disk index) for the payload, then `Decode` -/
def sealedGetLogDecoded (cfg : DecodeCfg) (info : SegInfo) (file : Bytes) (idx bufSize : Nat) : Option Log :=
  (sealedGetLog info file idx bufSize).toOption.bind (fun p => (decode cfg p).toOption)

/-- the composition step: if position `k` of the encoded batches is read back byte for byte, it decodes to log `k` -/
theorem decoded_of_readable (cfg : DecodeCfg) {ls : List (List Log)} {bs : List (List Bytes)} (hls : LogsWF ls)
    (henc : encodeBatches ls = some bs) (k : Nat) (hk : k < ls.flatten.length) (r : Except SegErr Bytes)
    (hr : ∀ hk' : k < bs.flatten.length, r = .ok (bs.flatten[k]'hk')) :
    r.toOption.bind (fun p => (decode cfg p).toOption) = some (ls.flatten[k]'hk) := by
  obtain ⟨hk', he⟩ := encodeBatches_get henc k hk
  rw [hr hk', Except.toOption, Option.bind_some, decode_encode_wf cfg (hls.flatten _ (List.getElem_mem hk)) he]
  rfl

/-- **C12** StoreLogs then GetLog, for every decoder configuration: after a run of `StoreLogs` calls on a fresh segment
    (each batch encoded all-or-nothing, the payloads appended and acknowledged), reading index `base + k` and decoding
    gives back exactly the `k`-th stored log, every field. -/
theorem stored_log_reads_back_cfg (cfg : DecodeCfg) (info : SegInfo) (ls : List (List Log)) (bs : List (List Bytes))
    (hls : LogsWF ls) (henc : encodeBatches ls = some bs) (hwf : RunWF info bs) (hmin : info.min = info.base)
    (w : Writer) (file : Bytes)
    (hrun : (freshSegment info).1.appendAll (freshSegment info).2 info.base bs = some (w, file))
    (k : Nat) (hk : k < ls.flatten.length) (bufSize : Nat) (hbuf : 8 ≤ bufSize) :
    (w.getLog file (info.base + k) bufSize).toOption.bind (fun p => (decode cfg p).toOption)
      = some (ls.flatten[k]'hk) :=
  decoded_of_readable cfg hls henc k hk _
    (fun hk' => accepted_implies_readable info bs hwf hmin w file hrun k hk' bufSize hbuf)

/-- **C12** StoreLogs then GetLog, with the decoder as the fact extractor found it in codec.go -/
theorem stored_log_reads_back (info : SegInfo) (ls : List (List Log)) (bs : List (List Bytes))
    (hls : LogsWF ls) (henc : encodeBatches ls = some bs) (hwf : RunWF info bs) (hmin : info.min = info.base)
    (w : Writer) (file : Bytes)
    (hrun : (freshSegment info).1.appendAll (freshSegment info).2 info.base bs = some (w, file))
    (k : Nat) (hk : k < ls.flatten.length) (bufSize : Nat) (hbuf : 8 ≤ bufSize) :
    (w.getLog file (info.base + k) bufSize).toOption.bind (fun p => (decode Generated.decodeCfg p).toOption)
      = some (ls.flatten[k]'hk) :=
  stored_log_reads_back_cfg Generated.decodeCfg info ls bs hls henc hwf hmin w file hrun k hk bufSize hbuf

/-- the same in relational form -/
theorem stored_log_reads_back_rel (cfg : DecodeCfg) (info : SegInfo) (ls : List (List Log)) (bs : List (List Bytes))
    (hls : LogsWF ls) (henc : encodeBatches ls = some bs) (hwf : RunWF info bs) (hmin : info.min = info.base)
    (w : Writer) (file : Bytes)
    (hrun : (freshSegment info).1.appendAll (freshSegment info).2 info.base bs = some (w, file))
    (k : Nat) (hk : k < ls.flatten.length) (bufSize : Nat) (hbuf : 8 ≤ bufSize) :
    ∃ p, encode (ls.flatten[k]'hk) = some p ∧ w.getLog file (info.base + k) bufSize = .ok p
      ∧ decode cfg p = .ok (ls.flatten[k]'hk) := by
  obtain ⟨hk', he⟩ := encodeBatches_get henc k hk
  exact ⟨_, he, accepted_implies_readable info bs hwf hmin w file hrun k hk' bufSize hbuf,
    decode_encode_wf cfg (hls.flatten _ (List.getElem_mem hk)) he⟩

/-- **C12** with the minimal hypothesis on the logs: field ranges only (`Log.wf`).  That the times marshal follows from
    `encodeBatches ls = some bs`, the two length bounds follow from the writer having accepted the payloads. -/
theorem stored_log_reads_back_min (info : SegInfo) (ls : List (List Log)) (bs : List (List Bytes))
    (hls : ∀ b ∈ ls, ∀ l ∈ b, l.wf) (henc : encodeBatches ls = some bs) (hwf : RunWF info bs) (hmin : info.min = info.base)
    (w : Writer) (file : Bytes)
    (hrun : (freshSegment info).1.appendAll (freshSegment info).2 info.base bs = some (w, file))
    (k : Nat) (hk : k < ls.flatten.length) (bufSize : Nat) (hbuf : 8 ≤ bufSize) :
    (w.getLog file (info.base + k) bufSize).toOption.bind (fun p => (decode Generated.decodeCfg p).toOption)
      = some (ls.flatten[k]'hk) :=
  stored_log_reads_back info ls bs (LogsWF.of_encoded hls henc (appendAll_payload_le _ _ _ bs w file hrun))
    henc hwf hmin w file hrun k hk bufSize hbuf

/-- **C12 over crash chains**: whatever chain of acknowledged appends, torn appends (power loss + recovery) and restarts
    led to `(w, file)` holding the batches `bs` (`ChainResult`, the conclusion of `chain_atomic`): if `bs` are the
    encodings of the logs `ls`, every entry of the file decodes to the log that was stored. -/
theorem stored_log_reads_back_any_chain (info : SegInfo) (evs : List ChainEv) (w : Writer) (file : Bytes)
    (bs : List (List Bytes)) (hres : ChainResult info evs w file bs)
    (ls : List (List Log)) (hls : LogsWF ls) (henc : encodeBatches ls = some bs) (hmin : info.min = info.base)
    (k : Nat) (hk : k < ls.flatten.length) (bufSize : Nat) (hbuf : 8 ≤ bufSize) :
    (w.getLog file (info.base + k) bufSize).toOption.bind (fun p => (decode Generated.decodeCfg p).toOption)
      = some (ls.flatten[k]'hk) :=
  decoded_of_readable _ hls henc k hk _ (fun hk' => hres.readable hmin k hk' bufSize hbuf)

/-- the same with `Log.wf` only -/
theorem stored_log_reads_back_any_chain_min (info : SegInfo) (evs : List ChainEv) (w : Writer) (file : Bytes)
    (bs : List (List Bytes)) (hres : ChainResult info evs w file bs)
    (ls : List (List Log)) (hls : ∀ b ∈ ls, ∀ l ∈ b, l.wf) (henc : encodeBatches ls = some bs) (hmin : info.min = info.base)
    (k : Nat) (hk : k < ls.flatten.length) (bufSize : Nat) (hbuf : 8 ≤ bufSize) :
    (w.getLog file (info.base + k) bufSize).toOption.bind (fun p => (decode Generated.decodeCfg p).toOption)
      = some (ls.flatten[k]'hk) := by
  obtain ⟨w0, file0, hrun, _⟩ := hres.asFresh
  exact stored_log_reads_back_any_chain info evs w file bs hres ls
    (LogsWF.of_encoded hls henc (appendAll_payload_le _ _ _ bs w0 file0 hrun)) henc hmin k hk bufSize hbuf

/-- one step of the life of a tail segment, at the level of StoreLogs -/
inductive LogEv
  /-- `StoreLogs` of the batch, acknowledged -/
  | store   (b : List Log)
  | restart
  /-- `StoreLogs` of the batch in flight, power loss with chunk `j` of the write on disk iff `mask j`, recovery -/
  | torn    (b : List Log) (mask : Nat → Bool)

/-- the byte-level events: every batch encoded all-or-nothing; `none` if some log of the chain does not encode -/
def encodeEvs : List LogEv → Option (List ChainEv)
  | [] => some []
  | .store b :: evs =>
    match encodeBatch b, encodeEvs evs with
    | some p, some es => some (.append p :: es)
    | _, _ => none
  | .restart :: evs =>
    match encodeEvs evs with
    | some es => some (.restart :: es)
    | none => none
  | .torn b m :: evs =>
    match encodeBatch b, encodeEvs evs with
    | some p, some es => some (.torn p m :: es)
    | _, _ => none

/-- the batches of logs the segment may hold after the events: every stored batch, every torn batch whole or not at
    all, in order (`chainSpec` at the level of logs) -/
def logSpec : List LogEv → List (List Log) → Prop
  | [], ls => ls = []
  | .store b :: evs, ls => ∃ ls', ls = b :: ls' ∧ logSpec evs ls'
  | .restart :: evs, ls => logSpec evs ls
  | .torn b _ :: evs, ls => logSpec evs ls ∨ ∃ ls', ls = b :: ls' ∧ logSpec evs ls'

def LogEv.batches : LogEv → List (List Log)
  | .store b => [b]
  | .restart => []
  | .torn b _ => [b]

def logBatches (levs : List LogEv) : List (List Log) := levs.flatMap LogEv.batches

/-- the byte-level ghost outcome of an encoded chain is the encoding of a log-level ghost outcome -/
theorem logSpec_of_chainSpec (levs : List LogEv) : ∀ (evs : List ChainEv) (bs : List (List Bytes)),
    encodeEvs levs = some evs → chainSpec evs bs →
    ∃ ls, encodeBatches ls = some bs ∧ logSpec levs ls ∧ ls ⊆ logBatches levs := by
  have hcons : ∀ {b p ls' bs'}, encodeBatch b = some p → encodeBatches ls' = some bs' →
      encodeBatches (b :: ls') = some (p :: bs') := fun h1 h2 => by rw [encodeBatches, h1, h2]
  induction levs with
  | nil =>
    intro evs bs he hs
    cases he
    cases hs
    exact ⟨[], rfl, rfl, List.Subset.refl _⟩
  | cons e levs ih =>
    intro evs bs he hs
    cases e with
    | store b =>
      rw [encodeEvs] at he
      split at he
      · next p es h1 h2 =>
        cases he
        obtain ⟨bs', rfl, hs'⟩ := hs
        obtain ⟨ls', h3, h4, h5⟩ := ih es bs' h2 hs'
        exact ⟨b :: ls', hcons h1 h3, ⟨ls', rfl, h4⟩, List.cons_subset_cons b h5⟩
      · cases he
    | restart =>
      rw [encodeEvs] at he
      split at he
      · next es h2 =>
        cases he
        exact ih es bs h2 hs
      · cases he
    | torn b m =>
      rw [encodeEvs] at he
      split at he
      · next p es h1 h2 =>
        cases he
        rcases hs with hs' | ⟨bs', rfl, hs'⟩
        · obtain ⟨ls', h3, h4, h5⟩ := ih es bs h2 hs'
          exact ⟨ls', h3, Or.inl h4, List.subset_cons_of_subset b h5⟩
        · obtain ⟨ls', h3, h4, h5⟩ := ih es bs' h2 hs'
          exact ⟨b :: ls', hcons h1 h3, Or.inr ⟨ls', rfl, h4⟩, List.cons_subset_cons b h5⟩
      · cases he

theorem logSpec_stored (levs : List LogEv) : ∀ (ls : List (List Log)), logSpec levs ls →
    ∀ b, LogEv.store b ∈ levs → b ∈ ls := by
  induction levs with
  | nil => intro _ _ b hb; cases hb
  | cons e levs ih =>
    intro ls h b hb
    cases e with
    | store b' =>
      obtain ⟨ls', rfl, hs⟩ := h
      rcases List.mem_cons.mp hb with hb | hb
      · cases hb; exact List.mem_cons_self
      · exact List.mem_cons_of_mem _ (ih ls' hs b hb)
    | restart => exact ih ls h b ((List.mem_cons.mp hb).resolve_left (fun h => nomatch h))
    | torn b' m =>
      have hb' := (List.mem_cons.mp hb).resolve_left (fun h => nomatch h)
      rcases h with h | ⟨ls', rfl, hs⟩
      · exact ih ls h b hb'
      · exact List.mem_cons_of_mem _ (ih ls' hs b hb')

/-- **C12 over crash chains, from the logs** (closed form on top of `chain_atomic`).  Take any chain of `StoreLogs`
    calls, torn `StoreLogs` calls and restarts over well-formed logs, on a fresh segment, within the size conditions
    `ChainWF` of `chain_atomic`.  Unless a torn event exhibits a CRC-32C collision, the chain runs to a state
    `(w, file)` and there are batches of logs `ls` — every stored batch, every torn batch whole or not at all, in
    order — such that reading any index `base + k` and decoding returns exactly `ls.flatten[k]`, and nothing above is
    readable. -/
theorem stored_log_reads_back_chain (info : SegInfo) (levs : List LogEv) (evs : List ChainEv)
    (hls : ∀ b ∈ logBatches levs, ∀ l ∈ b, l.wf) (henc : encodeEvs levs = some evs) (hwf : ChainWF info evs)
    (hmin : info.min = info.base) :
    ChainCollision info evs ∨
    ∃ w file ls, chainRun info (freshSegment info) evs = .ok (w, file) ∧ logSpec levs ls
      ∧ (∀ b, LogEv.store b ∈ levs → b ∈ ls)
      ∧ (∀ (k : Nat) (hk : k < ls.flatten.length) (bufSize : Nat), 8 ≤ bufSize →
          (w.getLog file (info.base + k) bufSize).toOption.bind (fun p => (decode Generated.decodeCfg p).toOption)
            = some (ls.flatten[k]'hk))
      ∧ (∀ (idx bufSize : Nat), info.base + ls.flatten.length ≤ idx → ∃ e, w.getLog file idx bufSize = .error e) := by
  rcases chain_atomic info evs hwf with h | ⟨w, file, bs, h⟩
  · exact Or.inl h
  · obtain ⟨ls, h1, h2, h3⟩ := logSpec_of_chainSpec levs evs bs henc h.spec
    refine Or.inr ⟨w, file, ls, h.run, h2, logSpec_stored levs ls h2, ?_, ?_⟩
    · intro k hk bufSize hbuf
      exact stored_log_reads_back_any_chain_min info evs w file bs h ls
        (fun b hb => hls b (h3 hb)) h1 hmin k hk bufSize hbuf
    · intro idx bufSize hi
      rw [← encodeBatches_flatten_length h1] at hi
      exact (h.nothingAbove idx bufSize hi).2

/-! ## the sealed reader

  `Reader.GetLog` on a sealed segment does not use the writer's in-memory offsets: it reads entry `idx`'s file offset
  from slot `idx - BaseIndex` of the index array the sealing append wrote (`IndexStart` from the meta store). -/

theorem readAt_le4_flatten (os : List Nat) (rest : Bytes) (k : Nat) (hk : k < os.length) :
    readAt ((os.map (Spec.le 4)).flatten ++ rest) (4 * k) 4 = Spec.le 4 os[k] := by
  induction os generalizing k with
  | nil => cases hk
  | cons o os ih =>
    simp only [List.map_cons, List.flatten_cons, List.append_assoc]
    cases k with
    | zero =>
      rw [readAt, Nat.mul_zero, List.drop_zero, take_app_len _ _ 4 (specLe_length 4 o)]
      rfl
    | succ k =>
      have h4 : 4 * (k + 1) = 4 + 4 * k := by omega
      rw [readAt, h4, ← List.drop_drop, drop_app_len _ _ 4 (specLe_length 4 o)]
      exact ih k (Nat.lt_of_succ_lt_succ hk)

theorem indexFrame_split (os : List Nat) :
    ∃ hdr pad, Spec.indexFrame os = hdr ++ ((os.map (Spec.le 4)).flatten ++ pad) ∧ hdr.length = 8 :=
  ⟨Spec.frameHeader 2 _, List.replicate _ 0, List.append_assoc _ _ _, specFrameHeader_length _ _⟩

/-- in the layout of batches the last of which seals, the index array sits at `idxPos` -/
theorem sealed_index_at (a : Acc) (bs : List (List Bytes)) (hne : bs ≠ []) :
    ∃ pre post, ((runBatches true bs).foldl addBatch a).bytes
        = pre ++ ((((runBatches true bs).foldl addBatch a).offsets.map (Spec.le 4)).flatten ++ post)
      ∧ pre.length = idxPos a bs := by
  induction bs generalizing a with
  | nil => exact absurd rfl hne
  | cons b x ih =>
    cases x with
    | nil =>
      obtain ⟨hdr, pad, hif, hhdr⟩ := indexFrame_split (a.offsets ++ offs a.bytes.length b)
      refine ⟨a.bytes ++ encEntries b ++ hdr, pad ++ Spec.commitFrame (batchCrc a ⟨b, true⟩).toNat, ?_, ?_⟩
      · show (addBatch a ⟨b, true⟩).bytes = _ ++ (((addBatch a ⟨b, true⟩).offsets.map (Spec.le 4)).flatten ++ _)
        rw [addBatch_eq]
        simp only [batchBody, idxPart, if_true, hif, List.append_assoc]
      · rw [List.length_append, hhdr]
        rfl
    | cons b' r => exact ih (addBatch a ⟨b, false⟩) (List.cons_ne_nil _ _)

/-- `Reader.findFrameOffset`: where the file holds an array of `u32` offsets at `IndexStart`, slot `idx - BaseIndex` is
    returned, provided the uint64 arithmetic does not wrap -/
theorem sealedFindOffset_slot {sinfo : SegInfo} {file pre post : Bytes} {os : List Nat} {k : Nat}
    (hfile : file = pre ++ ((os.map (Spec.le 4)).flatten ++ post)) (hpre : pre.length = sinfo.indexStart)
    (hpos : 0 < sinfo.indexStart) (hk : k < os.length) (hlen : sinfo.indexStart + 4 * os.length < 2^64)
    (ho : os[k] < 2^32) (hmin : sinfo.min ≤ sinfo.base + k) (hmax : sinfo.max = 0 ∨ sinfo.base + k ≤ sinfo.max) :
    sealedFindOffset sinfo file (sinfo.base + k) = .ok os[k] := by
  have h1 : sinfo.indexStart + 4 * k < 2^64 :=
    Nat.lt_trans (Nat.add_lt_add_left (Nat.mul_lt_mul_of_pos_left hk (by decide)) _) hlen
  have h2 : 4 * k < 2^64 := Nat.lt_of_le_of_lt (Nat.le_add_left _ _) h1
  have h3 : k < 2^64 := Nat.lt_of_le_of_lt (Nat.le_mul_of_pos_left k (by decide)) h2
  have hoff : u64 (sinfo.indexStart + u64 (u64 (sinfo.base + k + 2^64 - sinfo.base) * 4)) = pre.length + 4 * k := by
    rw [Nat.add_assoc, Nat.add_sub_cancel_left, u64, u64, u64, Nat.add_mod_right, Nat.mod_eq_of_lt h3, Nat.mul_comm,
      Nat.mod_eq_of_lt h2, Nat.mod_eq_of_lt h1, hpre]
  have hslot : readAt file (pre.length + 4 * k) 4 = Spec.le 4 os[k] := by
    rw [hfile, readAt, ← List.drop_drop, drop_app_len _ _ _ rfl]
    exact readAt_le4_flatten os post k hk
  have hrange : ¬ (sinfo.base + k < sinfo.min ∨ (sinfo.max > 0 ∧ sinfo.base + k > sinfo.max)) :=
    fun h => h.elim (Nat.not_lt.mpr hmin) fun ⟨h1, h2⟩ => hmax.elim (Nat.ne_of_gt h1) fun h => Nat.not_lt.mpr h h2
  rw [sealedFindOffset, if_neg (Nat.ne_of_gt hpos), if_neg hrange]
  simp only [hoff, hslot, specLe_length]
  rw [if_neg (Nat.lt_irrefl 4), getLE_specLe 4 _ ho]

theorem chainAcc_eq_runBatches (info : SegInfo) (s : Bool) (bs : List (List Bytes)) :
    chainAcc info s bs = (runBatches s bs).foldl addBatch (acc0 info) := by
  rw [chainAcc, specBatches_eq_runBatches]; rfl

/-- **sealed reader, bytes**: in a sealed state satisfying the chain invariant (`ChainInv`), `Reader.GetLog` with the
    segment info the WAL keeps for a sealed segment (`IndexStart` = the writer's, same `BaseIndex`; `MinIndex`/`MaxIndex`
    not excluding the index) returns entry `k` byte for byte. -/
theorem sealedGetLog_of_chainInv (info : SegInfo) (bs : List (List Bytes)) (w : Writer) (file : Bytes)
    (hinv : ChainInv info w file bs) (hmaxp : ∀ b ∈ bs, ∀ p ∈ b, p.length ≤ maxEntrySize)
    (hsealed : w.indexStart > 0)
    (sinfo : SegInfo) (hbase : sinfo.base = info.base) (hidx : sinfo.indexStart = w.indexStart)
    (k : Nat) (hk : k < bs.flatten.length)
    (hmin : sinfo.min ≤ info.base + k) (hmax : sinfo.max = 0 ∨ info.base + k ≤ sinfo.max)
    (bufSize : Nat) (hbuf : 8 ≤ bufSize) :
    sealedGetLog sinfo file (info.base + k) bufSize = .ok (bs.flatten[k]'hk) := by
  have hne : bs ≠ [] := by rintro rfl; cases hk
  obtain ⟨pre, post, hfile, ho, hoff⟩ := hinv.frame_at rfl k hk
  obtain ⟨b, hb, hpb⟩ := List.mem_flatten.mp (List.getElem_mem hk)
  -- the index array sits at `IndexStart`, in front of the zeros that follow the layout
  obtain ⟨n, hn⟩ := hinv.file_eq hne
  have hsmall := hinv.small
  rw [decide_eq_true hsealed, chainAcc_eq_runBatches] at ho hn hsmall
  obtain ⟨ipre, ipost, hbytes, hipre⟩ := sealed_index_at (acc0 info) bs hne
  rw [← hinv.idx.resolve_left (Nat.ne_of_gt hsealed), ← hidx] at hipre
  rw [hbytes, List.append_assoc, List.append_assoc] at hn
  rw [hbytes, List.length_append, List.length_append, flatten_le4_length, hipre] at hsmall
  obtain ⟨hkl, hok⟩ := List.getElem?_eq_some_iff.mp ho
  have hfind := sealedFindOffset_slot hn hipre (hidx ▸ hsealed) hkl
    (Nat.lt_trans (Nat.lt_of_le_of_lt (Nat.add_le_add_left (Nat.le_add_right _ _) _) hsmall) (by decide))
    (hok ▸ Nat.lt_of_le_of_lt (Nat.le_add_right _ 8) hoff) (hbase ▸ hmin) (hbase ▸ hmax)
  rw [hbase, hok] at hfind
  rw [sealedGetLog, hfind, hfile]
  exact readFrame_entry pre post _ bufSize hbuf (hmaxp b hb _ hpb) hoff

/-- `Filer.Open` accepts the file of a state satisfying the chain invariant -/
theorem openSealed_of_chainInv (info : SegInfo) (bs : List (List Bytes)) (w : Writer) (file : Bytes)
    (hinv : ChainInv info w file bs) (hne : bs ≠ [])
    (hb : info.base < 2^64) (hi : info.id < 2^64) (hc : info.codec < 2^64)
    (sinfo : SegInfo) (hhdr : sinfo.hdr = info.hdr) :
    openSealed sinfo file = .ok () := by
  obtain ⟨n, hn⟩ := hinv.file_eq hne
  rw [chainAcc, Spec.layoutAcc, foldl_addBatch_bytes] at hn
  simp only [List.append_assoc] at hn
  rw [openSealed, hn, readAt, List.drop_zero, take_app_len _ _ fileHeaderLen (by simp [fileHeaderLen])]
  rw [if_neg (by simp [fileHeaderLen]), readFileHeader_specHeader _ _ _ hb hi hc]
  simp only [hhdr]
  simp [validateFileHeader, SegInfo.hdr]

/-- the segment info the WAL keeps once the tail is sealed: `IndexStart` as the writer reported it, `MaxIndex` the
    last committed index, `SealTime` set -/
def sealInfo (info : SegInfo) (w : Writer) : SegInfo :=
  { info with indexStart := w.indexStart, max := w.commitIdx, sealed := true }

theorem sealed_reads_back_of_chainInv (cfg : DecodeCfg) {info : SegInfo} {bs : List (List Bytes)} {w : Writer}
    {file : Bytes} (hinv : ChainInv info w file bs) (hmaxp : ∀ b ∈ bs, ∀ p ∈ b, p.length ≤ maxEntrySize)
    (hsealed : w.indexStart > 0) (hb : info.base < 2^64) (hi : info.id < 2^64) (hc : info.codec < 2^64)
    {ls : List (List Log)} (hls : LogsWF ls) (henc : encodeBatches ls = some bs) (hmin : info.min = info.base)
    (k : Nat) (hk : k < ls.flatten.length) (bufSize : Nat) (hbuf : 8 ≤ bufSize) :
    openSealed (sealInfo info w) file = .ok () ∧
    (sealedGetLog (sealInfo info w) file (info.base + k) bufSize).toOption.bind
        (fun p => (decode cfg p).toOption) = some (ls.flatten[k]'hk) := by
  have hkb : k < bs.flatten.length := by rw [encodeBatches_flatten_length henc]; exact hk
  have hne : bs ≠ [] := by rintro rfl; cases hkb
  refine ⟨openSealed_of_chainInv info bs w file hinv hne hb hi hc _ rfl, ?_⟩
  refine decoded_of_readable _ hls henc k hk _ (fun hk' => ?_)
  -- `MaxIndex` of `sealInfo` is the commit index, the index of the last entry
  have hmax : info.base + k ≤ w.commitIdx := by
    rw [(hinv.done hne).2.1, cnt_eq_flatten_length]
    exact Nat.le_sub_one_of_lt (Nat.add_lt_add_left hk' info.base)
  exact sealedGetLog_of_chainInv info bs w file hinv hmaxp hsealed (sealInfo info w) rfl rfl k hk'
    (Nat.le_trans (Nat.le_of_eq hmin) (Nat.le_add_right _ _)) (Or.inr hmax) bufSize hbuf

/-- **C12, sealed reader**: StoreLogs, the last of which seals the segment, then `Filer.Open` + `Reader.GetLog` + decode
    returns exactly the `k`-th stored log. -/
theorem stored_log_reads_back_sealed (info : SegInfo) (ls : List (List Log)) (bs : List (List Bytes))
    (hls : LogsWF ls) (henc : encodeBatches ls = some bs) (hwf : RunWF info bs) (hmin : info.min = info.base)
    (w : Writer) (file : Bytes)
    (hrun : (freshSegment info).1.appendAll (freshSegment info).2 info.base bs = some (w, file))
    (hsealed : w.indexStart > 0)
    (k : Nat) (hk : k < ls.flatten.length) (bufSize : Nat) (hbuf : 8 ≤ bufSize) :
    openSealed (sealInfo info w) file = .ok () ∧
    (sealedGetLog (sealInfo info w) file (info.base + k) bufSize).toOption.bind
        (fun p => (decode Generated.decodeCfg p).toOption) = some (ls.flatten[k]'hk) :=
  sealed_reads_back_of_chainInv _ (chainInv_of_run info bs hwf w file hrun) (appendAll_payload_le _ _ _ bs w file hrun)
    hsealed hwf.base_lt hwf.id_lt hwf.codec_lt hls henc hmin k hk bufSize hbuf

/-- **C12, sealed reader, over crash chains**: the same for the state any chain of appends, torn appends and restarts
    ends in (`ChainResult`), when that state is sealed — e.g. after a torn sealing append that recovery found whole. -/
theorem stored_log_reads_back_sealed_any_chain (info : SegInfo) (evs : List ChainEv) (w : Writer) (file : Bytes)
    (bs : List (List Bytes)) (hres : ChainResult info evs w file bs) (hsealed : w.indexStart > 0)
    (hb : info.base < 2^64) (hi : info.id < 2^64) (hc : info.codec < 2^64)
    (ls : List (List Log)) (hls : LogsWF ls) (henc : encodeBatches ls = some bs) (hmin : info.min = info.base)
    (k : Nat) (hk : k < ls.flatten.length) (bufSize : Nat) (hbuf : 8 ≤ bufSize) :
    openSealed (sealInfo info w) file = .ok () ∧
    (sealedGetLog (sealInfo info w) file (info.base + k) bufSize).toOption.bind
        (fun p => (decode Generated.decodeCfg p).toOption) = some (ls.flatten[k]'hk) := by
  obtain ⟨w0, file0, hrun, _⟩ := hres.asFresh
  exact sealed_reads_back_of_chainInv _ hres.inv (appendAll_payload_le _ _ _ bs w0 file0 hrun) hsealed hb hi hc hls henc
    hmin k hk bufSize hbuf

/-! ## the hypotheses are satisfiable: two batches, three logs

  Base index 2^63 + 5 (ten-byte uvarints).  Three log types (0, 1, 255); data non-empty / empty; extensions empty /
  non-empty; the zero time, a version-2 time with a negative zone offset and offset seconds, a version-1 time with the
  largest seconds value; the largest term. -/

instance (l : Log) : Decidable l.wf := by unfold Log.wf; infer_instance

def exL1 : Log := ⟨2^63 + 5, 3, 0, [1, 2, 3], [], some WTime.zero⟩
def exL2 : Log := ⟨2^63 + 6, 3, 1, [], [9, 8],
  some { v2 := true, sec := 63000000000, nsec := 999999999, offMin := 0xff88, offSec := 30 }⟩
def exL3 : Log := ⟨2^63 + 7, 2^64 - 1, 255, [], [],
  some { v2 := false, sec := 2^64 - 1, nsec := 0, offMin := 60, offSec := 0 }⟩

def exLs : List (List Log) := [[exL1, exL2], [exL3]]

def exBs : List (List Bytes) :=
  [[[133, 128, 128, 128, 128, 128, 128, 128, 128, 1, 3, 0, 3, 1, 2, 3, 0, 1, 0, 0, 0, 0, 0, 0, 0, 0, 0, 0, 0, 0, 255, 255],
    [134, 128, 128, 128, 128, 128, 128, 128, 128, 1, 3, 1, 0, 2, 9, 8, 2, 0, 0, 0, 14, 171, 23, 182, 0, 59, 154, 201, 255,
     255, 136, 30]],
   [[135, 128, 128, 128, 128, 128, 128, 128, 128, 1, 255, 255, 255, 255, 255, 255, 255, 255, 255, 1, 255, 1, 0, 0, 1, 255,
     255, 255, 255, 255, 255, 255, 255, 0, 0, 0, 0, 0, 60]]]

/-- 4 KiB preallocated: nothing seals -/
def exInfo : SegInfo :=
  { id := 7, base := 2^63 + 5, min := 2^63 + 5, max := 0, codec := 1, indexStart := 0, sizeLimit := 4096, sealed := false }

/-- 160 bytes preallocated: the second batch seals the segment -/
def exInfoS : SegInfo := { exInfo with sizeLimit := 160 }

theorem exEnc : encodeBatches exLs = some exBs := by decide +kernel

theorem exLogsWF : LogsWF exLs := LogsWF.of_encoded (by decide) exEnc (by decide)

theorem exRunWF : RunWF exInfo exBs where
  nonempty := by decide
  base_lt := by decide
  id_lt := by decide
  codec_lt := by decide
  limit_lt := by decide
  size_lt := by decide

theorem exRunWFS : RunWF exInfoS exBs where
  nonempty := by decide
  base_lt := by decide
  id_lt := by decide
  codec_lt := by decide
  limit_lt := by decide
  size_lt := by decide

/-- the model run on the example, evaluated once for the examples below -/
theorem exRun_eval : (match (freshSegment exInfo).1.appendAll (freshSegment exInfo).2 exInfo.base exBs with
    | some (w, file) => (List.range 4).map (fun k =>
        (w.getLog file (exInfo.base + k) 64).toOption.bind (fun p => (decode Generated.decodeCfg p).toOption))
    | none => []) = [some exL1, some exL2, some exL3, none] := by decide +kernel

/-- the same on the small segment, with the flag that the second append sealed it -/
theorem exRunS_eval : (match (freshSegment exInfoS).1.appendAll (freshSegment exInfoS).2 exInfoS.base exBs with
    | some (w, file) => decide (w.indexStart > 0) && decide ((List.range 3).map (fun k =>
        (sealedGetLog (sealInfo exInfoS w) file (exInfoS.base + k) 8).toOption.bind
          (fun p => (decode Generated.decodeCfg p).toOption)) = [some exL1, some exL2, some exL3])
    | none => false) = true := by decide +kernel

/-- all hypotheses of `stored_log_reads_back` hold of the example -/
example : ∃ w file, LogsWF exLs ∧ encodeBatches exLs = some exBs ∧ RunWF exInfo exBs ∧ exInfo.min = exInfo.base
    ∧ (freshSegment exInfo).1.appendAll (freshSegment exInfo).2 exInfo.base exBs = some (w, file) := by
  have h := exRun_eval
  split at h
  · next w file hrun => exact ⟨w, file, exLogsWF, exEnc, exRunWF, rfl, hrun⟩
  · cases h

/-- all hypotheses of `stored_log_reads_back_sealed` hold of the example with the small segment -/
example : ∃ w file, LogsWF exLs ∧ encodeBatches exLs = some exBs ∧ RunWF exInfoS exBs ∧ exInfoS.min = exInfoS.base
    ∧ (freshSegment exInfoS).1.appendAll (freshSegment exInfoS).2 exInfoS.base exBs = some (w, file)
    ∧ w.indexStart > 0 := by
  have h := exRunS_eval
  split at h
  · next w file hrun =>
    exact ⟨w, file, exLogsWF, exEnc, exRunWFS, rfl, hrun, of_decide_eq_true (Bool.and_eq_true_iff.mp h).1⟩
  · cases h

/-- the models computed on the example agree with the theorems: tail reader, 64-byte read buffer … -/
example : (match (freshSegment exInfo).1.appendAll (freshSegment exInfo).2 exInfo.base exBs with
    | some (w, file) => (List.range 4).map (fun k =>
        (w.getLog file (exInfo.base + k) 64).toOption.bind (fun p => (decode Generated.decodeCfg p).toOption))
    | none => []) = [some exL1, some exL2, some exL3, none] := exRun_eval

/-- … and sealed reader, 8-byte read buffer (every payload needs the second read) -/
example : (match (freshSegment exInfoS).1.appendAll (freshSegment exInfoS).2 exInfoS.base exBs with
    | some (w, file) => (List.range 3).map (fun k =>
        (sealedGetLog (sealInfo exInfoS w) file (exInfoS.base + k) 8).toOption.bind
          (fun p => (decode Generated.decodeCfg p).toOption))
    | none => []) = [some exL1, some exL2, some exL3] := by
  have h := exRunS_eval
  split at h
  · exact of_decide_eq_true (Bool.and_eq_true_iff.mp h).2
  · cases h

end RaftWal

#print axioms RaftWal.stored_log_reads_back
#print axioms RaftWal.stored_log_reads_back_cfg
#print axioms RaftWal.stored_log_reads_back_rel
#print axioms RaftWal.stored_log_reads_back_min
#print axioms RaftWal.stored_log_reads_back_any_chain
#print axioms RaftWal.stored_log_reads_back_any_chain_min
#print axioms RaftWal.stored_log_reads_back_chain
#print axioms RaftWal.sealedGetLog_of_chainInv
#print axioms RaftWal.openSealed_of_chainInv
#print axioms RaftWal.stored_log_reads_back_sealed
#print axioms RaftWal.stored_log_reads_back_sealed_any_chain
#print axioms RaftWal.encodeBatch_eq_mapM
#print axioms RaftWal.encodeBatches_eq_mapM
#print axioms RaftWal.exEnc
#print axioms RaftWal.exLogsWF
#print axioms RaftWal.exRunWF
