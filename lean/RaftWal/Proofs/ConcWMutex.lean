/-
  Proofs/ConcWMutex.lean — `MutexInv`, the invariant of every reachable state: mutual exclusion on writeMu, the flags
  Close sets, no writer panics, nothing runs after Close.
-/
import RaftWal.Proofs.ConcWSteps
namespace RaftWal.ConcW

/-- the number of threads at a position at which they hold writeMu -/
def holders (s : Sys) : Nat :=
  (s.writers.filter (fun w => w.pc == .locked || w.pc == .check || w.pc == .use)).length
  + (if s.rpc == .locked then 1 else 0) + (if s.cpc == .locked then 1 else 0)

theorem holders_eq (s : Sys) : holders s =
    s.writers.countP (fun w => holdsPc w.pc) + (s.rpc == .locked).toNat + (s.cpc == .locked).toNat := by
  unfold holders
  rw [List.countP_eq_length_filter]
  cases s.rpc == .locked <;> cases s.cpc == .locked <;> rfl

theorem holders_writer {s s2 : Sys} {i : Nat} {w : Writer} (pc' : WPc) (hw : s.writers[i]? = some w)
    (h2w : s2.writers = s.writers) (h2r : s2.rpc = s.rpc) (h2c : s2.cpc = s.cpc) :
    holders (setW s2 i { w with pc := pc' }) + (holdsPc w.pc).toNat = holders s + (holdsPc pc').toNat := by
  have : (s.writers.set i { w with pc := pc' }).countP (fun w => holdsPc w.pc) + (holdsPc w.pc).toNat =
      s.writers.countP (fun w => holdsPc w.pc) + (holdsPc pc').toNat := countP_set_of_get _ _ hw
  rw [holders_eq, holders_eq, setW_writers, setW_rpc, setW_cpc, h2w, h2r, h2c]
  omega

theorem holders_rotator {s s' : Sys} (hw : s'.writers = s.writers) (hc : s'.cpc = s.cpc) :
    holders s' + (s.rpc == .locked).toNat = holders s + (s'.rpc == .locked).toNat := by
  rw [holders_eq, holders_eq, hw, hc, Nat.add_right_comm _ _ (s.cpc == .locked).toNat,
    Nat.add_right_comm _ (s.rpc == .locked).toNat (s.cpc == .locked).toNat]
  exact Nat.add_right_comm _ _ _

theorem holders_closer {s s' : Sys} (hw : s'.writers = s.writers) (hr : s'.rpc = s.rpc) :
    holders s' + (s.cpc == .locked).toNat = holders s + (s'.cpc == .locked).toNat := by
  rw [holders_eq, holders_eq, hw, hr]
  exact Nat.add_right_comm _ _ _

/-- what the step of one thread does to the lock bit `l`; `h`, `h'`: whether the thread is at a lock-holding position
    before and after -/
inductive LockMove : (h l h' l' : Bool) → Prop
  | keep (h l : Bool) : LockMove h l h l
  | acquire : LockMove false false true true
  | release (l : Bool) : LockMove true l false false

theorem LockMove.mutex {h l h' l' : Bool} (hl : LockMove h l h' l') {n n' : Nat} (hm : n = l.toNat)
    (hn : n' + h.toNat = n + h'.toNat) : n' = l'.toNat := by
  cases hl with
  | keep => exact (Nat.add_right_cancel hn).trans hm
  | acquire => exact Eq.trans (b := n + 1) hn (congrArg (· + 1) hm)
  | release l =>
    have : n' + 1 ≤ 1 := Nat.le_trans (Nat.le_of_eq (Eq.trans (b := n) hn hm)) (Bool.toNat_le l)
    exact Nat.le_zero.mp (Nat.le_of_succ_le_succ this)

theorem WStep.lockMove {s : Sys} {w : Writer} {b : Bool} {pc' : WPc} (ht : WStep s w b pc') :
    LockMove (holdsPc w.pc) s.lock (holdsPc pc') b := by
  cases ht with
  | startClosed h _ => rw [h, holdsPc_start, holdsPc_done]; exact .keep _ _
  | startOpen h _ => rw [h, holdsPc_start, holdsPc_wantLock]; exact .keep _ _
  | lock h hf => rw [h, hf, holdsPc_wantLock, holdsPc_locked]; exact .acquire
  | wait ch h _ => rw [h, holdsPc_locked, holdsPc_waiting]; exact .release _
  | nowait h _ => rw [h, holdsPc_locked, holdsPc_check]; exact .keep _ _
  | woken ch h _ => rw [h, holdsPc_waiting, holdsPc_relock]; exact .keep _ _
  | relock h hf => rw [h, hf, holdsPc_relock, holdsPc_check]; exact .acquire
  | checkClosed h _ => rw [h, holdsPc_check, holdsPc_done]; exact .release _
  | checkOpen h _ => rw [h, holdsPc_check, holdsPc_use]; exact .keep _ _
  | usePlain h _ => rw [h, holdsPc_use, holdsPc_done]; exact .release _

structure MutexInv (s : Sys) : Prop where
  mutex : holders s = s.lock.toNat
  trigClosed_iff : s.trigClosed = true ↔ s.cpc = .done
  stateEmpty_iff : s.stateEmpty = true ↔ s.cpc = .done
  closed_iff : s.closed = true ↔ s.cpc ≠ .idle
  writers_ok : ∀ w ∈ s.writers, w.pc ≠ .done .panic ∧ (w.pc = .use → s.cpc ≠ .done)
  io : s.ioAfterClose = false

theorem MutexInv.closed_false {s : Sys} (h : MutexInv s) : s.closed = false ↔ s.cpc = .idle := by
  rw [← Bool.not_eq_true, h.closed_iff, Decidable.not_not]

theorem MutexInv.no_writer_holds {s : Sys} (h : MutexInv s) (hl : s.lock = false ∨ s.cpc = .locked) :
    ∀ w ∈ s.writers, holdsPc w.pc = false := by
  have hm := h.mutex
  rw [holders_eq] at hm
  have hz : s.writers.countP (fun w => holdsPc w.pc) = 0 := by
    rcases hl with hl | hl
    · rw [hl] at hm; exact Nat.eq_zero_of_add_eq_zero_right (Nat.eq_zero_of_add_eq_zero_right hm)
    · have hle : _ + (s.cpc == .locked).toNat ≤ 1 := hm ▸ Bool.toNat_le s.lock
      rw [hl] at hle
      exact Nat.eq_zero_of_add_eq_zero_right (Nat.le_zero.mp (Nat.le_of_succ_le_succ hle))
  intro w hw
  exact Bool.eq_false_iff.mpr (List.countP_eq_zero.mp hz w hw)

theorem MutexInv.holder {s : Sys} (h : MutexInv s) (hl : s.lock = true) :
    (∃ w ∈ s.writers, holdsPc w.pc = true) ∨ s.rpc = .locked ∨ s.cpc = .locked := by
  have hm := h.mutex
  rw [holders_eq, hl] at hm
  by_cases h1 : s.rpc = .locked
  · exact Or.inr (Or.inl h1)
  · by_cases h2 : s.cpc = .locked
    · exact Or.inr (Or.inr h2)
    · rw [beq_false_of_ne h1, beq_false_of_ne h2] at hm
      have hm : s.writers.countP (fun w => holdsPc w.pc) = 1 := hm
      exact Or.inl (List.countP_pos_iff.mp (by rw [hm]; exact Nat.one_pos))

theorem MutexInv.writer_cases {s : Sys} (h : MutexInv s) {i : Nat} {w : Writer} (hw : s.writers[i]? = some w) :
    WMove s i w (stepWriter fixed s i) := by
  refine stepWriter_cases s i w hw fun hpc =>
    ⟨Bool.eq_false_iff.mpr fun he => ?_, fun hc => Bool.eq_false_iff.mpr fun ht => ?_⟩
  · exact (h.writers_ok w (List.mem_of_getElem? hw)).2 hpc (h.stateEmpty_iff.mp he)
  · have := h.closed_false.mp hc
    rw [h.trigClosed_iff.mp ht] at this
    cases this

theorem MutexInv.closer_cases {s : Sys} (h : MutexInv s) : CStep s (stepCloser fixed s) :=
  stepCloser_cases s h.closed_false.mpr

theorem mutexInv_init (seals : List Bool) : MutexInv (init seals) := by
  refine ⟨?_, ⟨nofun, nofun⟩, ⟨nofun, nofun⟩, ⟨nofun, fun h => absurd rfl h⟩,
    fun w hw => by rw [init_start hw]; exact ⟨nofun, nofun⟩, rfl⟩
  rw [holders_eq]
  exact congrArg (· + 0 + 0) (List.countP_eq_zero.mpr fun w hw => by rw [init_start hw]; exact Bool.false_ne_true)

theorem mutexInv_wmove {s s' : Sys} {i : Nat} {w : Writer} (hw : s.writers[i]? = some w) (h0 : MutexInv s)
    (hm : WMove s i w s') : MutexInv s' := by
  cases hm with
  | stay => exact h0
  | @step _ pc' ht =>
    refine { h0 with
      mutex := ht.lockMove.mutex h0.mutex (holders_writer pc' hw rfl rfl rfl)
      writers_ok := forall_mem_set h0.writers_ok ⟨fun e => ?_, fun e => ?_⟩ }
    -- no transition leads to `done panic`, and only `checkOpen` leads to `use`
    · have e : pc' = .done .panic := e
      subst e
      cases ht
    · have e : pc' = .use := e
      subst e
      cases ht with
      | checkOpen _ hc => rw [h0.closed_false.mp hc]; nofun
  | queue hpc =>
    exact { h0 with
      mutex := (hpc ▸ LockMove.release s.lock : LockMove (holdsPc w.pc) s.lock false false).mutex h0.mutex
        (holders_writer (.done .ok) hw rfl rfl rfl)
      writers_ok := forall_mem_set h0.writers_ok ⟨nofun, nofun⟩ }

theorem mutexInv_rstep {s s' : Sys} (h0 : MutexInv s) (ht : RStep s s') : MutexInv s' := by
  have mutex : ∀ {s'}, s'.writers = s.writers → s'.cpc = s.cpc →
      LockMove (s.rpc == .locked) s.lock (s'.rpc == .locked) s'.lock → holders s' = s'.lock.toNat :=
    fun hw hc hl => hl.mutex h0.mutex (holders_rotator hw hc)
  cases ht with
  | stay => exact h0
  | recv hr => exact { h0 with mutex := mutex rfl rfl (by rw [hr]; exact .keep _ _) }
  | recvClosed hr => exact { h0 with mutex := mutex rfl rfl (by rw [hr]; exact .keep _ _) }
  | lock hr hl => exact { h0 with mutex := mutex rfl rfl (by rw [hr, hl]; exact .acquire) }
  | leave hr => exact { h0 with mutex := mutex rfl rfl (by rw [hr]; exact .release _) }
  | rotate hr hc =>
    exact { h0 with
      mutex := mutex rfl rfl (by rw [hr]; exact .release _)
      io := by show (s.ioAfterClose || s.cpc == .done) = false; rw [h0.io, h0.closed_false.mp hc]; rfl }
  | wake c hr => exact { h0 with mutex := mutex rfl rfl (by rw [hr]; exact .keep _ _) }
  | panic hp =>
    refine { h0 with mutex := mutex rfl rfl ?_ }
    rcases hp with ⟨_, hc, he⟩ | hr | ⟨c, hr, _⟩
    · have := h0.stateEmpty_iff.mp he
      rw [h0.closed_false.mp hc] at this
      cases this
    · rw [hr]; exact .keep _ _
    · rw [hr]; exact .keep _ _

theorem mutexInv_cstep {s s' : Sys} (h0 : MutexInv s) (ht : CStep s s') : MutexInv s' := by
  have mutex : ∀ {s'}, s'.writers = s.writers → s'.rpc = s.rpc →
      LockMove (s.cpc == .locked) s.lock (s'.cpc == .locked) s'.lock → holders s' = s'.lock.toNat :=
    fun hw hr hl => hl.mutex h0.mutex (holders_closer hw hr)
  cases ht with
  | stay => exact h0
  | flag hcp =>
    exact { h0 with
      mutex := mutex rfl rfl (by rw [hcp]; exact .keep _ _)
      trigClosed_iff := by rw [h0.trigClosed_iff, hcp]; exact ⟨nofun, nofun⟩
      stateEmpty_iff := by rw [h0.stateEmpty_iff, hcp]; exact ⟨nofun, nofun⟩
      closed_iff := ⟨fun _ => nofun, fun _ => rfl⟩
      writers_ok := fun w hw => ⟨(h0.writers_ok w hw).1, nofun⟩ }
  | lock hcp hl =>
    exact { h0 with
      mutex := mutex rfl rfl (by rw [hcp, hl]; exact .acquire)
      trigClosed_iff := by rw [h0.trigClosed_iff, hcp]; exact ⟨nofun, nofun⟩
      stateEmpty_iff := by rw [h0.stateEmpty_iff, hcp]; exact ⟨nofun, nofun⟩
      closed_iff := by rw [h0.closed_iff, hcp]; exact ⟨fun _ => nofun, fun _ => nofun⟩
      writers_ok := fun w hw => ⟨(h0.writers_ok w hw).1, nofun⟩ }
  | finish hcp =>
    exact { h0 with
      mutex := mutex rfl rfl (by rw [hcp]; exact .release _)
      trigClosed_iff := ⟨fun _ => rfl, fun _ => rfl⟩
      stateEmpty_iff := ⟨fun _ => rfl, fun _ => rfl⟩
      closed_iff := by rw [h0.closed_iff, hcp]; exact ⟨fun _ => nofun, fun _ => nofun⟩
      writers_ok := fun w hw => ⟨(h0.writers_ok w hw).1, fun hpc => by
        have := h0.no_writer_holds (Or.inr hcp) w hw
        rw [hpc] at this
        cases this⟩ }

theorem mutexInv_step (s : Sys) (t : Tid) (h0 : MutexInv s) : MutexInv (step fixed s t) := by
  cases t with
  | writer i =>
    show MutexInv (stepWriter fixed s i)
    cases hw : s.writers[i]? with
    | none => rw [stepWriter_none _ _ _ hw]; exact h0
    | some w => exact mutexInv_wmove hw h0 (h0.writer_cases hw)
  | rotator => exact mutexInv_rstep h0 (stepRotator_cases s)
  | closer => exact mutexInv_cstep h0 h0.closer_cases

theorem mutexInv_run (sched : List Tid) (s : Sys) (h0 : MutexInv s) : MutexInv (run fixed s sched) :=
  foldl_induction (step fixed) mutexInv_step sched h0

end RaftWal.ConcW
