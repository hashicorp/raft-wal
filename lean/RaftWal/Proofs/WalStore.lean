/-
  Proofs/WalStore.lean — simulation of `StoreLogs`: the base reset of an empty log, the
  monotonicity/encodability check, the append with and without sealing, and the rotation.
-/
import RaftWal.Proofs.WalCore
namespace RaftWal

theorem okIdx_eq (n : Nat) (logs : List Log) : appendFile.okIdx n logs = Spec.consecutiveFrom n logs := by
  induction logs generalizing n with
  | nil => rfl
  | cons l ls ih =>
    simp only [appendFile.okIdx, Spec.consecutiveFrom, ih]
    by_cases h : l.index = n <;> simp [h]

/-- on a batch that continues the log, the monotonicity loop only tests encodability -/
theorem chk_eq {n last : Nat} {logs : List Log} (hl : last = 0 ∨ last + 1 = n)
    (hc : Spec.consecutiveFrom n logs = true) :
    Wal.storeLogs.chk last logs = logs.all (fun l => (encode l).isSome) := by
  induction logs generalizing n last with
  | nil => rfl
  | cons l ls ih =>
    rw [Spec.consecutiveFrom_cons] at hc
    have h1 : ¬ (last > 0 ∧ l.index ≠ last + 1) := fun ⟨hp, hne⟩ =>
      hl.elim (fun e => absurd hp (e ▸ Nat.lt_irrefl 0)) fun e => hne (hc.1.trans e.symm)
    simp only [Wal.storeLogs.chk, h1, if_false, List.all_cons]
    rw [ih (n := n + 1) (Or.inr (congrArg (· + 1) hc.1)) hc.2]
    cases encode l <;> rfl

/-- `hP`: the base of an empty log has been moved to where the batch starts -/
theorem accepts_eq {s : Spec.SLog} {F : Nat} {first : Log} {rest : List Log} (hF1 : 1 ≤ F)
    (hf : s.entries ≠ [] → s.first = F)
    (hP : s.entries.length = 0 → 1 ≤ first.index → F = first.index) :
    s.accepts (first :: rest) =
      (Spec.consecutiveFrom (F + s.entries.length) (first :: rest) &&
        (first :: rest).all (fun l => (encode l).isSome)) := by
  have hnext : (if s.entries = [] then 1 ≤ first.index else first.index = s.lastIndex + 1) ↔
      first.index = F + s.entries.length := by
    by_cases he : s.entries = []
    · rw [if_pos he]
      rw [he] at hP ⊢
      exact ⟨fun h => (hP rfl h).symm, fun h => h ▸ hF1⟩
    · rw [if_neg he, Spec.SLog.lastIndex_succ he, hf he]
  rw [Bool.eq_iff_iff, Spec.SLog.accepts_cons_iff, hnext, Bool.and_eq_true, List.all_eq_true]
  exact ⟨fun ⟨h1, h2, h3⟩ => ⟨h3 ▸ h1, h2⟩,
    fun ⟨h1, h2⟩ => have h3 := (Spec.consecutiveFrom_cons.mp h1).1; ⟨h3.symm ▸ h1, h2, h3⟩⟩

theorem appendFile_err {f : FileL} (sl : Nat) {logs : List Log} (hi0 : f.indexStart = 0)
    (hok : Spec.consecutiveFrom (f.base + f.entries.length) logs = false) :
    appendFile f sl logs = .error .other := by
  unfold appendFile
  rw [okIdx_eq, hok, if_neg (by rw [hi0]; exact Nat.lt_irrefl 0)]
  rfl

theorem appendFile_ok {f : FileL} (sl : Nat) {logs : List Log} (hi0 : f.indexStart = 0)
    (hok : Spec.consecutiveFrom (f.base + f.entries.length) logs = true) :
    ∃ f', appendFile f sl logs = .ok f' ∧ f'.id = f.id ∧ f'.base = f.base ∧ f'.codec = f.codec ∧
      f'.entries = f.entries ++ logs ∧ 0 < f'.wsize := by
  unfold appendFile
  rw [okIdx_eq, hok, if_neg (by rw [hi0]; exact Nat.lt_irrefl 0)]
  exact ⟨_, rfl, rfl, rfl, rfl, rfl, frame_pos _ _⟩

theorem rotate_rep (w : Wal) (is : Nat) {F : Nat} {es : List Log} {pre : List (SegS × Rdr)} {t : SegS} {r : Rdr}
    {ft : FileL} (hc : Core w.cfg w.nextID w.segs w.files F es) (hs : w.segs = pre ++ [(t, r)])
    (hsl : t.sealed = false) (hf : fileOf w.files t.id = some ft) (hlen : 0 < ft.entries.length)
    (hw : 0 < ft.wsize) (his : is ≠ 0) :
    (w.rotate is).closed = w.closed ∧ Rep (w.rotate is) F es := by
  have hrev : w.segs.reverse = (t, r) :: pre.reverse := by
    rw [hs, List.reverse_append]
    rfl
  have htci := tailCommitIdx_eq hs hf
  rw [commitIdx_eq, if_pos hlen] at htci
  rw [hs] at hc
  have hseal := hc.seal hsl hf hlen hw is his
  unfold Wal.rotate
  simp only [hrev, htci, List.reverse_reverse]
  obtain ⟨w', hcn, h1, h2, _⟩ := createNext_sealed
    { w with segs := pre ++ [({ t with sealed := true, max := ft.base + ft.entries.length - 1, indexStart := is }, r)],
             ctr := { w.ctr with rotations := w.ctr.rotations + 1 } } 0 (F := F) (es := es) hseal
    ⟨_, _, List.getLast?_concat, rfl⟩
  rw [hcn]
  exact ⟨h1, h2⟩

theorem resetBase_rep (w : Wal) (nb : Nat) {F : Nat} (h : Rep w F []) (hnb : nb ≤ 2^64 - 1) :
    ∃ w' b, w.resetBase nb = some w' ∧ w'.closed = w.closed ∧ (0 < nb → b = nb) ∧ Rep w' b [] := by
  obtain ⟨t, r, ft, hs, hsl, hf, hi0, hseg, hfe, hmin, hbase⟩ := shape_empty h.1 h.2
  have hlast : w.lastIndex = 0 := lastIndex_eq h.1 h.2
  unfold Wal.resetBase
  simp only [hlast, Nat.lt_irrefl, if_false, hs, List.reverse_cons, List.reverse_nil, List.nil_append]
  by_cases hb : t.base = nb
  · rw [if_pos hb]
    exact ⟨w, F, rfl, rfl, fun _ => hbase.symm.trans hb, h⟩
  · rw [if_neg hb]
    obtain ⟨w2, b, hcn, h2, h4, h5, h7⟩ :=
      createNext_empty { w with segs := [] } nb rfl h.1.cfgOK h.1.fileIds hnb
    rw [hcn]
    exact ⟨_, b, rfl, h2, h4, h5.removeFiles [t.id] fun c rc hm hin =>
      Nat.ne_of_gt hseg.idlt ((h7 c rc hm).symm.trans (List.mem_singleton.mp hin))⟩

theorem storeTail_eq {w : Wal} {pre : List (SegS × Rdr)} {t : SegS} {r : Rdr} {ft : FileL}
    (hs : w.segs = pre ++ [(t, r)]) (hf : fileOf w.files t.id = some ft) (lastIdx : Nat) (logs : List Log) :
    storeTail w lastIdx logs =
      if ¬ Wal.storeLogs.chk lastIdx logs then (w, some .other)
      else match appendFile ft t.sizeLimit logs with
        | .error e => (w, some e)
        | .ok f' =>
          let w1 := { w with files := updFile w.files f'
                           , ctr := { w.ctr with appends := w.ctr.appends + 1, entriesW := w.ctr.entriesW + logs.length
                                               , bytesW := w.ctr.bytesW + (logs.map encLen).sum } }
          (if f'.indexStart > 0 then w1.rotate f'.indexStart else w1, none) := by
  unfold storeTail
  simp only [Wal.tailSeg, hs, List.getLast?_concat, Wal.file?_eq, hf]
  rfl

theorem storeTail_sim (w : Wal) (s : Spec.SLog) {F : Nat} (first : Log) (rest : List Log)
    (h : Rep w F s.entries) (hcl : s.closed = w.closed) (hwc : w.closed = false)
    (hf : s.entries ≠ [] → s.first = F) (hP : s.entries.length = 0 → 1 ≤ first.index → F = first.index)
    (hr : ∀ l ∈ first :: rest, l.index < 2^64 - 1) {L : Nat} (hL : L = 0 ∨ L + 1 = F + s.entries.length) :
    SimRes (storeTail w L (first :: rest)) (s.store (first :: rest)) := by
  obtain ⟨pre, t, r, ft, hs, hsl, hfl, hi0, hseg, hE, hpre⟩ := shape h.1 h.2
  have hF1 := F_pos h.1
  have hsim : Sim w s := ⟨F, h.1, h.2, hcl, hf⟩
  rw [storeTail_eq hs hfl, Spec.SLog.store_cons (hcl.trans hwc), accepts_eq hF1 hf hP]
  cases hcs : Spec.consecutiveFrom (F + s.entries.length) (first :: rest)
  · -- the batch does not continue the log: the monotonicity loop or the writer refuses it
    rw [appendFile_err t.sizeLimit hi0 (hE ▸ hcs), Bool.false_and, if_neg Bool.false_ne_true]
    cases Wal.storeLogs.chk L (first :: rest) <;> exact ⟨rfl, hsim⟩
  · rw [chk_eq hL hcs, Bool.true_and]
    cases hall : (first :: rest).all (fun l => (encode l).isSome)
    · exact ⟨rfl, hsim⟩
    · obtain ⟨f', hap, g1, g2, g3, g4, g5⟩ := appendFile_ok t.sizeLimit hi0 (hE ▸ hcs)
      rw [hap, if_neg (not_not_intro rfl), if_pos rfl]
      refine ⟨rfl, ?_⟩
      obtain ⟨hc1, hfl1⟩ := (hs ▸ h.1).append hsl hfl f' (first :: rest) g1 g2 g3 g4
        (Spec.consec_bound hcs hr (List.cons_ne_nil _ _))
      rw [← hs] at hc1
      have hfirst : s.entries ++ first :: rest ≠ [] →
          (if s.entries.isEmpty = true then first.index else s.first) = F := by
        intro _
        have hfi : first.index = F + s.entries.length :=
          (Spec.consecutiveFrom_cons.mp hcs).1
        cases he : s.entries with
        | nil =>
          rw [he] at hP hfi
          exact (hP rfl (hfi ▸ hF1)).symm
        | cons a l => exact hf (by rw [he]; exact List.cons_ne_nil _ _)
      by_cases hseal : f'.indexStart > 0
      · simp only [hseal, if_true]
        have hlen : 0 < f'.entries.length := by
          rw [g4, List.length_append]
          exact Nat.lt_of_lt_of_le (Nat.succ_pos _) (Nat.le_add_left _ _)
        obtain ⟨r2, r3⟩ := rotate_rep
          { w with files := updFile w.files f',
                   ctr := { w.ctr with appends := w.ctr.appends + 1, entriesW := w.ctr.entriesW + (first :: rest).length,
                                       bytesW := w.ctr.bytesW + ((first :: rest).map encLen).sum } }
          f'.indexStart (F := F) (es := s.entries ++ first :: rest) (pre := pre) (t := t) (r := r) (ft := f')
          hc1 hs hsl hfl1 hlen g5 (Nat.ne_of_gt hseal)
        exact ⟨F, r3.1, r3.2, (hcl.trans hwc).trans (r2.trans hwc).symm, hfirst⟩
      · simp only [hseal, if_false]
        exact ⟨F, hc1, ⟨t, r, f', by rw [hs]; exact List.getLast?_concat, hsl, hfl1,
          Nat.eq_zero_of_not_pos hseal⟩, hcl, hfirst⟩

theorem sim_store {w : Wal} {s : Spec.SLog} (h : Sim w s) (logs : List Log)
    (hr : ∀ l ∈ logs, l.index < 2^64 - 1) :
    (w.step (.store logs)).2 = (s.step (.store logs)).2 ∧
      Sim (w.step (.store logs)).1 (s.step (.store logs)).1 := by
  rw [step_store_eq, sstep_store_eq]
  show SimRes (w.storeLogs logs) (s.store logs)
  have hsim := h
  obtain ⟨F, hc, ht, hcl, hf⟩ := h
  cases hwc : w.closed
  · have hscl : s.closed = false := hcl.trans hwc
    cases logs with
    | nil =>
      have e1 : w.storeLogs [] = (w, none) := by
        unfold Wal.storeLogs
        exact if_neg (hwc ▸ Bool.false_ne_true)
      rw [e1, Spec.SLog.store_nil hscl]
      exact ⟨rfl, hsim⟩
    | cons first rest =>
      rw [storeLogs_eq, hwc, if_neg Bool.false_ne_true]
      have hlast := lastIndex_eq hc ht
      have hF1 := F_pos hc
      by_cases hcond : w.lastIndex = 0 ∧ first.index ≠ (w.tailSeg.map (·.1.base)).getD 0
      · -- the log is empty and does not start where the batch does: its base is reset first
        rw [if_pos hcond]
        have hlen : s.entries.length = 0 := Classical.byContradiction fun h0 => by
          rw [hlast, if_neg h0] at hcond
          exact absurd hcond.1 (Nat.ne_of_gt (Nat.sub_pos_of_lt (one_lt_add hF1 (Nat.pos_of_ne_zero h0))))
        have hnil : s.entries = [] := List.eq_nil_of_length_eq_zero hlen
        obtain ⟨w', b, hrb, h2, h4, h5⟩ :=
          resetBase_rep w first.index ⟨hnil ▸ hc, ht⟩ (Nat.le_of_lt (hr first List.mem_cons_self))
        rw [hrb]
        exact storeTail_sim w' s first rest (hnil ▸ h5) (hcl.trans h2.symm) (h2.trans hwc)
          (fun hne => absurd hnil hne) (fun _ hp => h4 hp) hr (Or.inl hcond.1)
      · rw [if_neg hcond]
        refine storeTail_sim w s first rest ⟨hc, ht⟩ hcl hwc hf ?_ hr ?_
        · intro hlen _
          have hnil : s.entries = [] := List.eq_nil_of_length_eq_zero hlen
          rw [hnil] at hc
          obtain ⟨t, r, ft, hs, _, _, _, _, _, _, hbase⟩ := shape_empty hc ht
          rw [hlast, hlen, if_pos rfl] at hcond
          simp only [true_and, Wal.tailSeg, hs, List.getLast?_singleton, Option.map_some,
            Option.getD_some, ne_eq, Decidable.not_not] at hcond
          exact hbase.symm.trans hcond.symm
        · rw [hlast]
          split
          · exact Or.inl rfl
          · exact Or.inr (last_add_one hF1)
  · have e1 : w.storeLogs logs = (w, some .closed) := by
      unfold Wal.storeLogs
      exact if_pos hwc
    rw [e1, Spec.SLog.store_of_closed (hcl.trans hwc)]
    exact ⟨rfl, hsim⟩

end RaftWal
