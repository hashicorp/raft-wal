/-
  Theorems about Model/OpenCheck.lean (C11, C03): `wal.Open` fails when a sealed segment (1) is missing, (2) is shorter
  than its header, (3) carries another header; (4) what success says of every sealed record; (5) totality; witnesses.
-/
import RaftWal.Model.OpenCheck
import RaftWal.Model.SegmentRun
import RaftWal.Proofs.Bytes
import RaftWal.Proofs.Segment.Frames
namespace RaftWal.OpenCheck
open RaftWal

theorem lookup_mem {dir : Dir} {n : String} {b : Bytes} (h : dir.lookup n = some b) : (n, b) ∈ dir := by
  obtain ⟨l₁, l₂, rfl, _⟩ := List.lookup_eq_some_iff.1 h
  exact List.mem_append_right _ List.mem_cons_self

theorem lookup_none_of_not_mem {dir : Dir} {n : String} (h : ∀ b, (n, b) ∉ dir) : dir.lookup n = none := by
  cases hl : dir.lookup n with
  | none => rfl
  | some b => exact absurd (lookup_mem hl) (h b)

theorem validate_iff (got expect : HdrInfo) : validateFileHeader got expect = true ↔ got = expect := by
  cases got; cases expect
  simp only [validateFileHeader, decide_eq_true_eq, HdrInfo.mk.injEq]
  constructor
  · rintro ⟨h1, h2, h3⟩; exact ⟨h2.symm, h1.symm, h3.symm⟩
  · rintro ⟨h1, h2, h3⟩; exact ⟨h2.symm, h1.symm, h3.symm⟩

theorem filerOpen_eq (dir : Dir) (s : SegInfo) :
    filerOpen dir s = match dir.lookup (segName s) with
      | none => .error .notExist
      | some file =>
        if fileHeaderLen ≤ file.length ∧ readFileHeader (file.take fileHeaderLen) = some s.hdr then .ok ()
        else .error .corrupt := by
  unfold filerOpen
  cases dir.lookup (segName s) with
  | none => rfl
  | some file =>
    simp only [readAt, List.drop_zero, List.length_take]
    by_cases hlen : fileHeaderLen ≤ file.length
    · rw [Nat.min_eq_left hlen, if_neg (Nat.lt_irrefl _)]
      cases readFileHeader (file.take fileHeaderLen) with
      | none => simp
      | some got => simp only [validate_iff, hlen, true_and, Option.some.injEq]
    · rw [Nat.min_eq_right (Nat.le_of_not_le hlen), if_pos (Nat.lt_of_not_le hlen), if_neg (fun h => hlen h.1)]

theorem filerOpen_ok_iff (dir : Dir) (s : SegInfo) :
    filerOpen dir s = .ok () ↔
      ∃ bytes, dir.lookup (segName s) = some bytes ∧ fileHeaderLen ≤ bytes.length ∧
        readFileHeader (bytes.take fileHeaderLen) = some s.hdr := by
  rw [filerOpen_eq]
  cases dir.lookup (segName s) <;> simp

/-- the tail branch once the file is found: what the loop makes of `RecoverTail`'s answer -/
def ofRecovered : Except SegErr (Writer × Bytes) → Except OpenErr TailRes
  | .error e => .error (.tail e)
  | .ok (w, file') => if w.indexStart = 0 then .ok (.recovered w file') else .ok (.sealedTail w file')

theorem walOpenCheck_sealed {dir : Dir} {s : SegInfo} {rest : List SegInfo} {codec : Nat}
    (hc : s.codec = codec) (hs : s.sealed = true) :
    walOpenCheck dir (s :: rest) codec = (filerOpen dir s).bind fun _ => walOpenCheck dir rest codec := by
  rw [walOpenCheck, if_neg (fun h => h hc), if_pos hs]
  cases filerOpen dir s <;> rfl

theorem walOpenCheck_tail {dir : Dir} {s : SegInfo} {codec : Nat} (hc : s.codec = codec) (hs : s.sealed = false) :
    walOpenCheck dir [s] codec = match dir.lookup (segName s) with
      | none => if s.base = 0 then .error .createBaseZero else .ok (.created (Writer.create s))
      | some file => ofRecovered (recoverTail s file) := by
  rw [walOpenCheck, if_neg (fun h => h hc), if_neg (hs ▸ Bool.false_ne_true), if_neg (fun h => h rfl)]
  cases dir.lookup (segName s) with
  | none => rfl
  | some file =>
    simp only [ofRecovered]
    rfl

theorem walOpenCheck_cons_sealed_ok {dir : Dir} {s : SegInfo} {rest : List SegInfo} {codec : Nat} {r : TailRes}
    (hs : s.sealed = true) (h : walOpenCheck dir (s :: rest) codec = .ok r) :
    s.codec = codec ∧ filerOpen dir s = .ok () ∧ walOpenCheck dir rest codec = .ok r := by
  rw [walOpenCheck] at h
  by_cases hc : s.codec ≠ codec
  · rw [if_pos hc] at h; cases h
  · rw [if_neg hc, if_pos hs] at h
    cases hf : filerOpen dir s with
    | error e => rw [hf] at h; cases h
    | ok u => rw [hf] at h; exact ⟨Decidable.not_not.1 hc, rfl, h⟩

theorem walOpenCheck_cons_unsealed_ok {dir : Dir} {s : SegInfo} {rest : List SegInfo} {codec : Nat} {r : TailRes}
    (hs : s.sealed = false) (h : walOpenCheck dir (s :: rest) codec = .ok r) : rest = [] := by
  rw [walOpenCheck] at h
  by_cases hc : s.codec ≠ codec
  · rw [if_pos hc] at h; cases h
  · rw [if_neg hc, if_neg (hs ▸ Bool.false_ne_true)] at h
    by_cases hr : rest ≠ []
    · rw [if_pos hr] at h; cases h
    · simpa using hr

/-- **4.** a successful walk pins down every sealed record -/
theorem open_ok_characterised (dir : Dir) (segs : List SegInfo) (codec : Nat) (r : TailRes)
    (h : walOpenCheck dir segs codec = .ok r) :
    ∀ s ∈ segs, s.sealed = true →
      s.codec = codec ∧
      ∃ bytes, dir.lookup (segName s) = some bytes ∧ (segName s, bytes) ∈ dir ∧ bytes.length ≥ fileHeaderLen ∧
        readFileHeader (bytes.take fileHeaderLen) = some { base := s.base, id := s.id, codec := s.codec } := by
  induction segs with
  | nil => intro s hs; cases hs
  | cons a rest ih =>
    intro s hmem hsealed
    cases ha : a.sealed with
    | true =>
      obtain ⟨hc, hf, hrest⟩ := walOpenCheck_cons_sealed_ok ha h
      rcases List.mem_cons.1 hmem with rfl | hin
      · obtain ⟨bytes, hl, hlen, hhdr⟩ := (filerOpen_ok_iff dir s).1 hf
        exact ⟨hc, bytes, hl, lookup_mem hl, hlen, hhdr⟩
      · exact ih hrest s hin hsealed
    | false =>
      have hnil := walOpenCheck_cons_unsealed_ok ha h
      subst hnil
      rcases List.mem_cons.1 hmem with rfl | hin
      · rw [ha] at hsealed; cases hsealed
      · cases hin

theorem open_ok_file {dir : Dir} {segs : List SegInfo} {codec : Nat} {r : TailRes} {s : SegInfo} {bytes : Bytes}
    (h : walOpenCheck dir segs codec = .ok r) (hmem : s ∈ segs) (hsealed : s.sealed = true)
    (hfile : dir.lookup (segName s) = some bytes) :
    fileHeaderLen ≤ bytes.length ∧ readFileHeader (bytes.take fileHeaderLen) = some s.hdr := by
  obtain ⟨_, bytes', hl, _, hlen, hh⟩ := open_ok_characterised dir segs codec r h s hmem hsealed
  rw [hfile] at hl; cases hl
  exact ⟨hlen, hh⟩

theorem open_fails_on_header {dir : Dir} {segs : List SegInfo} {codec : Nat} {s : SegInfo} {bytes : Bytes}
    (hmem : s ∈ segs) (hsealed : s.sealed = true) (hfile : dir.lookup (segName s) = some bytes)
    (hne : readFileHeader (bytes.take fileHeaderLen) ≠ some s.hdr) : ∀ r, walOpenCheck dir segs codec ≠ .ok r :=
  fun _ h => hne (open_ok_file h hmem hsealed hfile).2

/-- **1.** a sealed segment with no file under its name: Open fails. -/
theorem open_fails_on_missing_sealed (dir : Dir) (segs : List SegInfo) (codec : Nat) (s : SegInfo)
    (hmem : s ∈ segs) (hsealed : s.sealed = true) (hmissing : ∀ bytes, (segName s, bytes) ∉ dir) :
    ∀ r, walOpenCheck dir segs codec ≠ .ok r := by
  intro r h
  obtain ⟨_, bytes, _, hin, _⟩ := open_ok_characterised dir segs codec r h s hmem hsealed
  exact hmissing bytes hin

/-- **2.** a sealed segment whose file is shorter than the 32-byte header: Open fails. -/
theorem open_fails_on_short_sealed (dir : Dir) (segs : List SegInfo) (codec : Nat) (s : SegInfo) (bytes : Bytes)
    (hmem : s ∈ segs) (hsealed : s.sealed = true) (hfile : dir.lookup (segName s) = some bytes)
    (hshort : bytes.length < fileHeaderLen) :
    ∀ r, walOpenCheck dir segs codec ≠ .ok r :=
  fun _ h => Nat.not_le.2 hshort (open_ok_file h hmem hsealed hfile).1

/-- **3.** a sealed segment whose file starts with a well-formed header of another BaseIndex or ID: Open fails. -/
theorem open_fails_on_foreign_header (dir : Dir) (segs : List SegInfo) (codec : Nat) (s : SegInfo) (bytes : Bytes)
    (hdr : HdrInfo)
    (hmem : s ∈ segs) (hsealed : s.sealed = true) (hfile : dir.lookup (segName s) = some bytes)
    (hwell : readFileHeader (bytes.take fileHeaderLen) = some hdr)
    (hforeign : hdr.base ≠ s.base ∨ hdr.id ≠ s.id) :
    ∀ r, walOpenCheck dir segs codec ≠ .ok r :=
  open_fails_on_header hmem hsealed hfile fun e =>
    have e : hdr = s.hdr := Option.some.inj (hwell.symm.trans e)
    hforeign.elim (· (congrArg HdrInfo.base e)) (· (congrArg HdrInfo.id e))

/-- **5.** totality — true of every Lean function; the statement records only that the model is one.  That the Go code
    does not panic on these inputs is read off the source, not proved: each place that slices by a value read from the
    file is guarded:
    * file shorter than 32 bytes, sealed: fixed `[32]byte` + `ReadAt`, io.EOF → ErrCorrupt (segment/filer.go:93-103);
    * `readFileHeader` slices `buf[0:8] … buf[24:32]` only after `len(buf) < fileHeaderLen` (segment/format.go:89-91);
    * tail shorter than 32 bytes: fixed `[32]byte`, io.EOF tolerated, rest stays zero (segment/writer.go:584-590);
      a header that does not decode becomes the zero `SegmentInfo`, not a nil dereference (writer.go:592-610);
    * frame scan: fixed `[8]byte`, a short read ends the scan (writer.go:618-622), `readFrameHeader` checks the
      length first (segment/format.go:175-177); the frame length is never used to slice, only to advance `offset`
      (writer.go:656), and an `offset` past EOF is a short read;
    * CRC batches: `make([]byte, c.offset-c.crcStart)` with `crcStart ≤ offset` by construction of the scan
      (writer.go:157-166, 186); `offsets[:accepted.offsetsLen]` is a length recorded from the same slice (:163, :208).
    (On a platform with 32-bit `int`, `int(fh.len)` at writer.go:656 can be negative and the scan may fail to
    advance; the model, like the 64-bit builds, uses unbounded arithmetic there.) -/
theorem open_total (dir : Dir) (segs : List SegInfo) (codec : Nat) :
    (∃ r, walOpenCheck dir segs codec = .ok r) ∨ (∃ e, walOpenCheck dir segs codec = .error e) := by
  cases walOpenCheck dir segs codec with
  | ok r => exact .inl ⟨r, rfl⟩
  | error e => exact .inr ⟨e, rfl⟩

/-- 4 on the bytes: the first 32 bytes of a sealed segment's file are exactly what `writeFileHeader` produces for the record -/
theorem open_ok_header_bytes (dir : Dir) (segs : List SegInfo) (codec : Nat) (r : TailRes)
    (h : walOpenCheck dir segs codec = .ok r) (s : SegInfo) (hmem : s ∈ segs) (hsealed : s.sealed = true) :
    ∃ bytes, dir.lookup (segName s) = some bytes ∧ bytes.take fileHeaderLen = fileHeader s.hdr := by
  obtain ⟨_, bytes, hl, _, hlen, hh⟩ := open_ok_characterised dir segs codec r h s hmem hsealed
  exact ⟨bytes, hl, readFileHeader_exact _ _ (by rw [List.length_take]; exact Nat.min_eq_left hlen) hh⟩

/-- 3 with the foreign header given as the bytes the writer produces (a different Codec counts too) -/
theorem open_fails_on_foreign_written_header (dir : Dir) (segs : List SegInfo) (codec : Nat) (s : SegInfo)
    (hdr : HdrInfo) (rest : Bytes)
    (hmem : s ∈ segs) (hsealed : s.sealed = true) (hfile : dir.lookup (segName s) = some (fileHeader hdr ++ rest))
    (hb : hdr.base < 2^64) (hi : hdr.id < 2^64) (hc : hdr.codec < 2^64)
    (hforeign : hdr ≠ s.hdr) :
    ∀ r, walOpenCheck dir segs codec ≠ .ok r :=
  open_fails_on_header hmem hsealed hfile fun e =>
    hforeign (Option.some.inj ((readFileHeader_fileHeader hdr hb hi hc rest).symm.trans e))

theorem open_fails_on_malformed_header (dir : Dir) (segs : List SegInfo) (codec : Nat) (s : SegInfo) (bytes : Bytes)
    (hmem : s ∈ segs) (hsealed : s.sealed = true) (hfile : dir.lookup (segName s) = some bytes)
    (hbad : readFileHeader (bytes.take fileHeaderLen) = none) :
    ∀ r, walOpenCheck dir segs codec ≠ .ok r :=
  open_fails_on_header hmem hsealed hfile (hbad ▸ nofun)

/-- converse of 4: the walk asks for nothing else — nothing about the file beyond its first 32 bytes, nothing about
    `indexStart`, `min`, `max` -/
theorem open_ok_of_sealed_good (dir : Dir) (segs : List SegInfo) (codec : Nat)
    (h : ∀ s ∈ segs, s.sealed = true ∧ s.codec = codec ∧
      ∃ bytes, dir.lookup (segName s) = some bytes ∧ bytes.length ≥ fileHeaderLen ∧
        readFileHeader (bytes.take fileHeaderLen) = some s.hdr) :
    walOpenCheck dir segs codec = .ok .noTail := by
  induction segs with
  | nil => rfl
  | cons a rest ih =>
    obtain ⟨hs, hc, hex⟩ := h a List.mem_cons_self
    rw [walOpenCheck_sealed hc hs, (filerOpen_ok_iff dir a).2 hex]
    exact ih (fun s hs => h s (List.mem_cons_of_mem _ hs))

theorem filerOpen_eq_openSealed (dir : Dir) (s : SegInfo) :
    filerOpen dir s = match dir.lookup (segName s) with
      | none => .error .notExist
      | some file => (openSealed s file).mapError (fun _ => .corrupt) := by
  unfold filerOpen openSealed
  cases dir.lookup (segName s) with
  | none => rfl
  | some file =>
    simp only
    split
    · rfl
    · cases readFileHeader (readAt file 0 fileHeaderLen) with
      | none => rfl
      | some got =>
        simp only
        split <;> rfl

/-! ## witnesses: a directory written by the model's own writer, and damaged variants.  Evaluated by the kernel, not by
compiled code (no `ofReduceBool` among the axioms, see Props/OpenAudit.lean). -/

deriving instance DecidableEq for Except

/-- which `TailRes` and the writer's commit index -/
def TailRes.kind : TailRes → Nat × Nat
  | .noTail => (0, 0)
  | .created w => (1, w.commitIdx)
  | .recovered w _ => (2, w.commitIdx)
  | .sealedTail w _ => (3, w.commitIdx)

def outcome (dir : Dir) (segs : List SegInfo) (codec : Nat) : Except OpenErr (Nat × Nat) :=
  (walOpenCheck dir segs codec).map TailRes.kind

/-- a fresh segment (`Create` on a preallocated file) with the batches appended, entries numbered from `info.base` -/
def run (info : SegInfo) (batches : List (List Bytes)) : Writer × Bytes :=
  ((freshSegment info).1.appendAll (freshSegment info).2 info.base batches).getD default

def seg1w : SegInfo :=
  { id := 1, base := 1, min := 1, max := 0, codec := 1, indexStart := 0, sizeLimit := 64, sealed := false }
/-- two batches; the second one exceeds the 64-byte limit and seals the segment -/
def seg1Run : Writer × Bytes := run seg1w [[[1, 2, 3]], [[4, 5]]]
/-- the record the meta store holds once the rotation is committed -/
def seg1 : SegInfo := { seg1w with max := 2, indexStart := seg1Run.1.indexStart, sealed := true }
def seg2 : SegInfo :=
  { id := 2, base := 3, min := 3, max := 0, codec := 1, indexStart := 0, sizeLimit := 128, sealed := false }
def seg2Run : Writer × Bytes := run seg2 [[[7]]]
/-- a segment with another ID (and base) written by the same writer -/
def seg9Run : Writer × Bytes := run { seg1w with id := 9, base := 5, min := 5 } [[[1, 2, 3]], [[4, 5]]]
def goodDir : Dir := [(segName seg1, seg1Run.2), (segName seg2, seg2Run.2)]

theorem seg1_facts : (seg1Run.1.indexStart = 80 ∧ seg1Run.2.length = 96 ∧ seg1Run.1.commitIdx = 2) ∧
    readFileHeader (seg1Run.2.take fileHeaderLen) = some seg1.hdr := by decide +kernel

/-- the writer did seal segment 1: index at 80, 96 bytes, entries 1..2 -/
theorem ex_sealed_written : seg1Run.1.indexStart = 80 ∧ seg1Run.2.length = 96 ∧ seg1Run.1.commitIdx = 2 :=
  seg1_facts.1

theorem outcome_sealed_error {dir : Dir} {s : SegInfo} {rest : List SegInfo} {codec : Nat} {e : OpenErr}
    (hc : s.codec = codec) (hs : s.sealed = true) (he : filerOpen dir s = .error e) :
    outcome dir (s :: rest) codec = .error e := by
  rw [outcome, walOpenCheck_sealed hc hs, he]
  rfl

theorem names_ne : segName seg2 ≠ segName seg1 := by decide +kernel

theorem seg1_len : fileHeaderLen ≤ seg1Run.2.length := by
  rw [ex_sealed_written.2.1]; decide

theorem seg9_foreign : readFileHeader (seg9Run.2.take fileHeaderLen) ≠ some seg1.hdr ∧
    (ofRecovered (recoverTail seg2 seg9Run.2)).map TailRes.kind = .error (.tail .corrupt) := by decide +kernel

theorem seg2_recovers : (ofRecovered (recoverTail seg2 seg2Run.2)).map TailRes.kind = .ok (2, 3) := by decide +kernel

/-- `x` begins like segment 1's file; `s` agrees with `seg1` on what the header carries -/
theorem outcome_seg1 {s : SegInfo} {x : Bytes} {dir : Dir} {rest : List SegInfo}
    (hs : s.base = 1 ∧ s.id = 1 ∧ s.codec = 1 ∧ s.sealed = true)
    (hlen : fileHeaderLen ≤ x.length) (hx : x.take fileHeaderLen = seg1Run.2.take fileHeaderLen) :
    outcome ((segName seg1, x) :: dir) (s :: rest) 1 = outcome ((segName seg1, x) :: dir) rest 1 := by
  have hn : segName s = segName seg1 := by rw [segName, hs.1, hs.2.1]; rfl
  have hh : s.hdr = seg1.hdr := by rw [SegInfo.hdr, hs.1, hs.2.1, hs.2.2.1]; rfl
  have ho : filerOpen ((segName seg1, x) :: dir) s = .ok () := by
    rw [filerOpen_eq, hn, List.lookup_cons_self]
    exact if_pos ⟨hlen, by rw [hx, hh, seg1_facts.2]⟩
  rw [outcome, walOpenCheck_sealed hs.2.2.1 hs.2.2.2, ho]
  rfl

theorem outcome_files {s : SegInfo} {x y : Bytes} (hs : s.base = 1 ∧ s.id = 1 ∧ s.codec = 1 ∧ s.sealed = true)
    (hlen : fileHeaderLen ≤ x.length) (hx : x.take fileHeaderLen = seg1Run.2.take fileHeaderLen) :
    outcome [(segName seg1, x), (segName seg2, y)] [s, seg2] 1 = (ofRecovered (recoverTail seg2 y)).map TailRes.kind := by
  rw [outcome_seg1 hs hlen hx, outcome, walOpenCheck_tail (codec := 1) rfl rfl, List.lookup_cons,
    beq_false_of_ne names_ne, List.lookup_cons_self]

/-- intact directory: Open succeeds, tail recovered with entry 3 -/
theorem ex_good_ok : outcome goodDir [seg1, seg2] 1 = .ok (2, 3) :=
  (outcome_files ⟨rfl, rfl, rfl, rfl⟩ seg1_len rfl).trans seg2_recovers
/-- 1: sealed file missing -/
theorem ex_missing : outcome [(segName seg2, seg2Run.2)] [seg1, seg2] 1 = .error .notExist := by
  refine outcome_sealed_error rfl rfl ?_
  rw [filerOpen_eq, List.lookup_cons, beq_false_of_ne names_ne.symm]
  rfl
/-- 2: sealed file cut to 31 bytes -/
theorem ex_short :
    outcome [(segName seg1, seg1Run.2.take 31), (segName seg2, seg2Run.2)] [seg1, seg2] 1 = .error .corrupt := by
  refine outcome_sealed_error rfl rfl ?_
  rw [filerOpen_eq, List.lookup_cons_self]
  exact if_neg fun h => Nat.lt_irrefl 31 (Nat.lt_of_lt_of_le h.1 (List.length_take_le 31 _))
/-- 3: the file of segment (base 5, id 9) under the name of segment 1 -/
theorem ex_foreign :
    outcome [(segName seg1, seg9Run.2), (segName seg2, seg2Run.2)] [seg1, seg2] 1 = .error .corrupt := by
  refine outcome_sealed_error rfl rfl ?_
  rw [filerOpen_eq, List.lookup_cons_self]
  exact if_neg fun h => seg9_foreign.1 h.2
/-- the other error branches are reachable too -/
theorem ex_codec : outcome goodDir [seg1, seg2] 2 = .error .unknownCodec := by decide +kernel
theorem ex_unsealed_first : outcome goodDir [seg2, seg1] 1 = .error .unsealedNotTail := by decide +kernel
/-- a foreign segment's committed content under the tail's name is refused by `recoverTail` -/
theorem ex_foreign_tail :
    outcome [(segName seg1, seg1Run.2), (segName seg2, seg9Run.2)] [seg1, seg2] 1 = .error (.tail .corrupt) :=
  (outcome_files ⟨rfl, rfl, rfl, rfl⟩ seg1_len rfl).trans seg9_foreign.2

/-! ## what the walk does *not* check (witnesses; none contradicts the property text of C11) -/

/-- a sealed segment cut to exactly its 32-byte header — every entry and the index gone — passes Open -/
theorem ex_header_only_sealed_ok :
    outcome [(segName seg1, seg1Run.2.take 32), (segName seg2, seg2Run.2)] [seg1, seg2] 1 = .ok (2, 3) :=
  (outcome_files (x := seg1Run.2.take 32) ⟨rfl, rfl, rfl, rfl⟩
    (by rw [List.length_take, ex_sealed_written.2.1]; decide) (List.take_take ..)).trans seg2_recovers
/-- a sealed record with `IndexStart = 0` passes Open (`findFrameOffset` refuses every read later, reader.go:135-137) -/
theorem ex_sealed_indexStart_zero_ok :
    outcome goodDir [{ seg1 with indexStart := 0 }, seg2] 1 = .ok (2, 3) :=
  (outcome_files ⟨rfl, rfl, rfl, rfl⟩ seg1_len rfl).trans seg2_recovers
/-- a missing *tail* file is not an error: the tail is created afresh (wal.go:171-181), so entry 3, which the tail
    had committed, is gone after this Open without any error -/
theorem ex_missing_tail_created : outcome [(segName seg1, seg1Run.2)] [seg1, seg2] 1 = .ok (1, 0) := by
  rw [outcome_seg1 ⟨rfl, rfl, rfl, rfl⟩ seg1_len rfl, outcome, walOpenCheck_tail (codec := 1) rfl rfl, List.lookup_cons,
    beq_false_of_ne names_ne]
  rfl

end RaftWal.OpenCheck
