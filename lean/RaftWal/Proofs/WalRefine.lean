/-
  Proofs/WalRefine.lean — the sequential WAL model refines the contiguous-log
  specification (C05).

  Proof: simulation.  `Sim w s` (Proofs/WalSimRel.lean) relates a WAL state to a specification state;
  it holds initially (`init_sim`), every operation preserves it and answers alike (`step_sim`,
  Proofs/WalStep.lean), hence equal answer lists (`run_sim`).
-/
import RaftWal.Proofs.WalStep
namespace RaftWal

/-- **C05** for every program (any operation sequence, any segment size, any start index, any
    batch shapes) the answers of the WAL model equal those of the reference contiguous log. -/
theorem wal_refines_spec (cfg : WalCfg) (hcfg : cfg.newSegCodec = cfg.codecId) (w0 : Wal)
    (h0 : Wal.init cfg = some w0) (ops : List Op) (hops : ∀ op ∈ ops, op.inRange) :
    w0.run ops = ({ first := 0, entries := [] } : Spec.SLog).run ops :=
  run_sim (init_sim cfg hcfg w0 h0) ops hops

end RaftWal
