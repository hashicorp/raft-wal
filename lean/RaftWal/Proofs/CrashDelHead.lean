/-
  Proofs/CrashDelHead.lean — head truncation: every segment goes and a fresh tail replaces them, or the first kept
  segment (a sealed one, or the tail) has its `min` raised.
-/
import RaftWal.Proofs.CrashCall
namespace RaftWal.Crash

/-- the test of the head truncation -/
def goneB (last newMin : Nat) (s : Seg) : Bool :=
  if s.sealed then decide (s.max < newMin) else decide (last < newMin)

theorem delHeadProg_eq (d : Disk) (newMin : Nat) :
    delHeadProg d newMin =
      match d.md.segs.dropWhile (goneB (lastIndex d) newMin) with
      | [] => newTailActs d.md [] (lastIndex d + 1) ++
          (d.md.segs.takeWhile (goneB (lastIndex d) newMin)).map (fun s => .delete s.id) ++ [.ack]
      | h :: rest => [.commit { d.md with segs := { h with min := newMin } :: rest }] ++
          (d.md.segs.takeWhile (goneB (lastIndex d) newMin)).map (fun s => .delete s.id) ++ [.ack] := rfl

theorem specApply_delHead (l : Log) (newMin : Nat) :
    specApply l (.delHead newMin) = l.filter (fun p => decide (newMin ≤ p.1)) := rfl

theorem goneB_sealed {d : Disk} {s : Seg} (h : SealedOK d s) (last newMin : Nat) :
    goneB last newMin s = decide (s.max < newMin) := by
  obtain ⟨f, _, hsf⟩ := h
  simp [goneB, hsf.sl]

theorem gone_max_lt {d : Disk} {D : List Seg} {newMin : Nat} (hs : ∀ s ∈ D, SealedOK d s)
    (hD : ∀ s ∈ D, goneB (lastIndex d) newMin s = true) : ∀ s ∈ D, s.max < newMin := fun s h => by
  have := hD s h
  rw [goneB_sealed (hs s h)] at this
  exact of_decide_eq_true this

theorem delHead_tail_bound {d : Disk} {P : List Seg} {t : Seg} {f : File} (h : QO d P t f) (hne : absLog d ≠ [])
    {p : Nat × Entry} (hp : p ∈ visU t.min f.base f.synced) : p.1 ≤ lastIndex d :=
  Nat.le_of_lt_succ (show p.1 < lastIndex d + 1 from (h.next hne).symm ▸ (mem_visU hp).2.2)

theorem delHead_all {d : Disk} {P : List Seg} {t : Seg} {f : File} (h : QS d P t f) {newMin : Nat}
    (hok : (Op.delHead newMin).ok d) (hk : d.md.segs.dropWhile (goneB (lastIndex d) newMin) = []) :
    CallRes d (.delHead newMin)
      ([] ++ newTailActs d.md [] (lastIndex d + 1) ++ (segIds (P ++ [t])).map .delete) [] := by
  have hb := h.base
  have hq := h.toQO
  have htw : d.md.segs.takeWhile (goneB (lastIndex d) newMin) = P ++ [t] := by
    have := List.takeWhile_append_dropWhile (p := goneB (lastIndex d) newMin) (l := d.md.segs)
    rw [hk, List.append_nil] at this
    rw [this, hb.segs]
  have hgone : ∀ s ∈ P ++ [t], goneB (lastIndex d) newMin s = true := fun s hs => mem_takeWhile_imp' (htw ▸ hs)
  have hlast : lastIndex d < newMin := by
    have := hgone t List.mem_concat_self
    rw [goneB, hb.tsl] at this
    exact of_decide_eq_true this
  have hafter : specApply (absLog d) (.delHead newMin) = [] := by
    rw [specApply_delHead, hq.log_eq, List.filter_append,
      logP_filter_ge_nil hb.sealed (gone_max_lt hb.sealed fun s hs => hgone s (List.mem_append_left _ hs))]
    exact List.filter_eq_nil_iff.2 fun p hp hc =>
      Nat.not_le.2 (Nat.lt_of_le_of_lt (delHead_tail_bound hq hok.1 hp) hlast) (of_decide_eq_true hc)
  refine callres_fresh h (.delHead newMin) [] (segIds (P ++ [t])) (P' := []) (lastIndex d + 1)
    (fun k => by rw [List.take_nil]; exact hq.toRec (Or.inl rfl)) (fun _ h => nomatch h) rfl rfl ?_
    (by rw [show segIds [] = [] from rfl, List.append_nil]) (fun _ h => nomatch h) rfl
    (Nat.succ_pos _) hafter
  show delHeadProg d newMin = _
  rw [delHeadProg_eq, hk, htw, map_delete_eq]
  rfl

theorem delHead_tail {d : Disk} {P : List Seg} {t : Seg} {f : File} (h : QS d P t f) {newMin : Nat}
    (hok : (Op.delHead newMin).ok d)
    (hk : d.md.segs.dropWhile (goneB (lastIndex d) newMin) = [t])
    (hD : d.md.segs.takeWhile (goneB (lastIndex d) newMin) = P) :
    CallRes d (.delHead newMin)
      ([.commit { d.md with segs := [{ t with min := newMin }] }] ++ (segIds P).map .delete) [] := by
  have hb := h.base
  have hq := h.toQO
  have hgt : newMin ≤ lastIndex d := by
    have := (dropWhile_cons hk).1
    rw [goneB, hb.tsl] at this
    exact Nat.not_lt.1 (of_decide_eq_false this)
  have hgone := gone_max_lt hb.sealed fun s hs => mem_takeWhile_imp' (hD ▸ hs)
  have hmin : t.min ≤ newMin := head_min_le hb (D := P) (rest := []) (h := t) rfl hgone hok.1 hok.2.1
  have hnext := hq.next hok.1
  have hlt : newMin < f.base + f.synced.length := hnext ▸ Nat.lt_succ_of_le hgt
  have hafter : specApply (absLog d) (.delHead newMin) = logP d [] ++ visU newMin f.base f.synced := by
    rw [specApply_delHead, hq.log_eq, List.filter_append, visU_filter_ge _ hmin, logP_filter_ge_nil hb.sealed hgone]
    rfl
  refine callres_keep h (.delHead newMin) { d.md with segs := [{ t with min := newMin }] } (segIds P) (P' := [])
    (t' := { t with min := newMin }) rfl rfl rfl (Nat.le_trans hb.tbm hmin) (Nat.le_of_lt hlt)
    (fun _ => hlt) ?_ (by rw [segIds_append]; exact List.Perm.refl _) (fun _ h => nomatch h) rfl hafter
  show delHeadProg d newMin = _
  rw [delHeadProg_eq, hk, hD, map_delete_eq]

theorem delHead_sealed {d : Disk} {D r0 : List Seg} {h t : Seg} {f : File} (hq' : QS d (D ++ h :: r0) t f)
    {newMin : Nat} (hok : (Op.delHead newMin).ok d)
    (hk : d.md.segs.dropWhile (goneB (lastIndex d) newMin) = h :: (r0 ++ [t]))
    (hD : d.md.segs.takeWhile (goneB (lastIndex d) newMin) = D) :
    CallRes d (.delHead newMin)
      ([.commit { d.md with segs := { h with min := newMin } :: (r0 ++ [t]) }] ++ (segIds D).map .delete) [] := by
  have hb := hq'.base
  have hq := hq'.toQO
  have hsD : ∀ s ∈ D, SealedOK d s := fun s hs => hb.sealed s (List.mem_append_left _ hs)
  have hsr : ∀ s ∈ r0, SealedOK d s := fun s hs => hb.sealed s (List.mem_append_right _ (List.mem_cons_of_mem _ hs))
  have hsh := hb.sealed h (List.mem_append_right _ List.mem_cons_self)
  have hgh : newMin ≤ h.max := by
    have := (dropWhile_cons hk).1
    rw [goneB_sealed hsh] at this
    exact Nat.not_lt.1 (of_decide_eq_false this)
  have hgone := gone_max_lt hsD fun s hs => mem_takeWhile_imp' (hD ▸ hs)
  have hsplit : (D ++ h :: r0) ++ [t] = D ++ h :: (r0 ++ [t]) := by rw [List.append_assoc]; rfl
  have hmin : h.min ≤ newMin := head_min_le hb hsplit hgone hok.1 hok.2.1
  obtain ⟨fh, hfh, hsf⟩ := hsh
  -- the segments after `h` lie above `h.max`, hence above the new first index
  have hpw := hb.pw
  rw [hsplit] at hpw
  have hlater : ∀ s ∈ r0 ++ [t], newMin ≤ s.base := fun s hs =>
    Nat.le_trans hgh (Nat.le_of_lt ((List.pairwise_cons.1 (List.pairwise_append.1 hpw).2.1).1 s hs).1)
  have hafter : specApply (absLog d) (.delHead newMin) =
      logP d ({ h with min := newMin } :: r0) ++ visU t.min f.base f.synced := by
    rw [specApply_delHead, hq.log_eq, List.filter_append, logP_append, logP_cons, logP_cons, List.filter_append,
      List.filter_append, logP_filter_ge_nil hsD hgone, List.nil_append,
      logP_filter_ge_all hsr fun s hs => Nat.le_trans (hlater s (List.mem_append_left _ hs)) (hsr s hs).bounds.1,
      segEntries_some hfh, segEntries_some (s := { h with min := newMin }) hfh, visF_setMin hmin]
    refine congrArg _ (List.filter_eq_self.2 fun p hp => decide_eq_true ?_)
    exact Nat.le_trans (hlater t List.mem_concat_self)
      (Nat.le_trans (hq.qt.base ▸ Nat.le_refl _) (mem_visU hp).2.1)
  have hch := hb.chain
  rw [hsplit, chainOK_append] at hch
  refine callres_keep hq' (.delHead newMin) { d.md with segs := { h with min := newMin } :: (r0 ++ [t]) } (segIds D)
    (P' := { h with min := newMin } :: r0) (t' := t) rfl rfl rfl hb.tbm hq.qt.mn hq.vis ?_
    (by rw [List.append_assoc, segIds_append]; exact List.Perm.refl _) ?_ (chainOK_setMin newMin hch.2.1) hafter
  · show delHeadProg d newMin = _
    rw [delHeadProg_eq, hk, hD, map_delete_eq]
  · intro s hs
    rcases List.mem_cons.1 hs with rfl | hs
    · exact ⟨fh, hfh, ⟨hsf.base, hsf.pend, hsf.sp, Nat.le_trans hsf.bm hmin, hsf.b1, hsf.sl, hsf.ss, hsf.lk, hgh,
        hsf.mx⟩⟩
    · exact hsr s hs

theorem delHead_res {d : Disk} {P : List Seg} {t : Seg} {f : File} (h : QS d P t f) {newMin : Nat}
    (hok : (Op.delHead newMin).ok d) : ∃ pre post, CallRes d (.delHead newMin) pre post := by
  cases hk : d.md.segs.dropWhile (goneB (lastIndex d) newMin) with
  | nil => exact ⟨_, _, delHead_all h hok hk⟩
  | cons hd rest =>
    have hsplit := (dropWhile_cons hk).2
    rw [h.base.segs] at hsplit
    rcases split_last hsplit.symm with ⟨hr, hD, hh⟩ | ⟨r0, hr, hP⟩
    · subst hr hh
      exact ⟨_, _, delHead_tail h hok hk (by rw [← h.base.segs] at hD; exact hD)⟩
    · subst hr
      rw [← h.base.segs] at hP
      generalize hDd : d.md.segs.takeWhile (goneB (lastIndex d) newMin) = D at hP
      subst hP
      exact ⟨_, _, delHead_sealed h hok hk hDd⟩

end RaftWal.Crash
