/-
  Proofs/CrashSpecLink.lean — the specification the crash theorems are stated against (`Crash.specApply`, `Crash.Op.ok`
  over lists of (index, entry) pairs) is the contiguous-log reference model of C05 (`Spec.SLog`, Spec/Log.lean) seen
  through the obvious abstraction: which calls are legal and what they do to the log coincide.
  A list numbered from `f` is `viewG tag f es`; filtering it by an index bound is `drop` / `take` on the list.
-/
import RaftWal.Proofs.CrashDefs
import RaftWal.Proofs.SpecLog
namespace RaftWal.Crash
open RaftWal

/-- `es` numbered from `f`, entries abstracted by `tag` -/
def viewG {α β : Type} (tag : α → β) (f : Nat) (es : List α) : List (Nat × β) :=
  ((List.range es.length).zip es).map (fun p => (f + p.1, tag p.2))

theorem viewG_nil {α β : Type} (tag : α → β) (f : Nat) : viewG tag f [] = [] := rfl

theorem viewG_cons {α β : Type} (tag : α → β) (f : Nat) (e : α) (es : List α) :
    viewG tag f (e :: es) = (f, tag e) :: viewG tag (f + 1) es := by
  unfold viewG
  rw [List.length_cons, List.range_succ_eq_map, List.zip_cons_cons, List.map_cons, List.zip_map_left, List.map_map]
  refine congrArg _ (List.map_congr_left fun p _ => ?_)
  simp [Nat.add_comm 1, Nat.add_assoc]

theorem viewG_append {α β : Type} (tag : α → β) (a b : List α) (f : Nat) :
    viewG tag f (a ++ b) = viewG tag f a ++ viewG tag (f + a.length) b := by
  induction a generalizing f with
  | nil => rfl
  | cons e a ih =>
    rw [List.cons_append, viewG_cons, viewG_cons, ih, List.length_cons, List.cons_append,
      Nat.add_assoc, Nat.add_comm 1]

theorem viewG_map {α β : Type} (tag : α → β) (es : List α) (f : Nat) :
    viewG tag f es = viewG (fun x => x) f (es.map tag) := by
  induction es generalizing f with
  | nil => rfl
  | cons e es ih => rw [List.map_cons, viewG_cons, viewG_cons, ih]

theorem viewG_bounds {α β : Type} (tag : α → β) (es : List α) (f : Nat) :
    ∀ p ∈ viewG tag f es, f ≤ p.1 ∧ p.1 < f + es.length := by
  induction es generalizing f with
  | nil => intro p hp; cases hp
  | cons e es ih =>
    intro p hp
    rw [viewG_cons] at hp
    rw [List.length_cons, ← Nat.add_assoc]
    rcases List.mem_cons.1 hp with rfl | h
    · exact ⟨Nat.le_refl _, Nat.lt_succ_of_le (Nat.le_add_right _ _)⟩
    · have := ih (f + 1) p h
      exact ⟨Nat.le_of_succ_le this.1, Nat.add_right_comm f 1 _ ▸ this.2⟩

theorem viewG_getLast? {α β : Type} (tag : α → β) (es : List α) (f : Nat) (hne : es ≠ []) :
    (viewG tag f es).getLast?.map (·.1) = some (f + es.length - 1) := by
  obtain ⟨l, e, rfl⟩ : ∃ l e, es = l ++ [e] := ⟨_, _, (List.dropLast_concat_getLast hne).symm⟩
  rw [viewG_append, viewG_cons, viewG_nil, List.getLast?_concat, List.length_append]
  rfl

/-- keeping the indexes ≥ f + k is dropping the first k entries -/
theorem viewG_filter_ge {α β : Type} (tag : α → β) (es : List α) (f k : Nat) :
    (viewG tag f es).filter (fun p => decide (f + k ≤ p.1)) = viewG tag (f + k) (es.drop k) := by
  induction es generalizing f k with
  | nil => rw [List.drop_nil]; rfl
  | cons e es ih =>
    cases k with
    | zero => exact List.filter_eq_self.2 fun p hp => decide_eq_true (viewG_bounds tag (e :: es) f p hp).1
    | succ k =>
      rw [viewG_cons, List.filter_cons_of_neg (by simp), List.drop_succ_cons,
        show f + (k + 1) = f + 1 + k from (Nat.add_right_comm f 1 k).symm]
      exact ih (f + 1) k

/-- keeping the indexes < f + k is taking the first k entries -/
theorem viewG_filter_lt {α β : Type} (tag : α → β) (es : List α) (f k : Nat) :
    (viewG tag f es).filter (fun p => decide (p.1 < f + k)) = viewG tag f (es.take k) := by
  induction es generalizing f k with
  | nil => rw [List.take_nil]; rfl
  | cons e es ih =>
    cases k with
    | zero =>
      exact List.filter_eq_nil_iff.2 fun p hp hc =>
        Nat.not_lt.2 (viewG_bounds tag (e :: es) f p hp).1 (of_decide_eq_true hc)
    | succ k =>
      rw [viewG_cons, List.filter_cons_of_pos (by simp), List.take_succ_cons, viewG_cons,
        show f + (k + 1) = f + 1 + k from (Nat.add_right_comm f 1 k).symm, ih (f + 1) k]

theorem viewG_filter_none {α β : Type} (tag : α → β) (es : List α) (f m : Nat) (h : f + es.length ≤ m) :
    (viewG tag f es).filter (fun p => decide (m ≤ p.1)) = [] :=
  List.filter_eq_nil_iff.2 fun p hp hc =>
    Nat.not_le.2 (Nat.lt_of_lt_of_le (viewG_bounds tag es f p hp).2 h) (of_decide_eq_true hc)

/-- the crash model's view of a reference log: entry number k of the reference log, at index first + k, abstracted by
    `tag` (the crash model does not look inside entries) -/
def view (tag : Log → Entry) (s : Spec.SLog) : List (Nat × Entry) :=
  ((List.range s.entries.length).zip s.entries).map (fun p => (s.first + p.1, tag p.2))

theorem view_eq (tag : Log → Entry) (s : Spec.SLog) : view tag s = viewG tag s.first s.entries := rfl

theorem specApply_store_view (v : List (Nat × Entry)) (tag : Log → Entry) (first : Nat) (es : List Log) (b : Bool) :
    specApply v (.store first (es.map tag) b) = v ++ viewG tag first es := by
  rw [viewG_map]; rfl

theorem view_first_last (tag : Log → Entry) (s : Spec.SLog) (hne : s.entries ≠ []) :
    ((view tag s).head?.map (·.1)) = some s.firstIndex ∧ ((view tag s).getLast?.map (·.1)) = some s.lastIndex := by
  rw [view_eq, Spec.SLog.firstIndex_of_ne hne, Spec.SLog.lastIndex_of_ne hne]
  refine ⟨?_, viewG_getLast? tag _ _ hne⟩
  cases hs : s.entries with
  | nil => exact absurd hs hne
  | cons e es => rw [viewG_cons]; rfl

/-- **appends**: a non-empty batch the reference model accepts on an open log is a legal `store` of the crash model's
    specification, and both produce the same log -/
theorem store_link (tag : Log → Entry) (s : Spec.SLog) (l : Log) (ls : List Log) (b : Bool)
    (hopen : s.closed = false) (hacc : s.accepts (l :: ls) = true) :
    view tag (s.store (l :: ls)).1 = specApply (view tag s) (.store l.index ((l :: ls).map tag) b) ∧
    (s.store (l :: ls)).2 = none := by
  rw [Spec.SLog.store_cons hopen, if_pos hacc]
  refine ⟨?_, rfl⟩
  rw [specApply_store_view, view_eq, view_eq]
  show viewG tag (if s.entries.isEmpty then l.index else s.first) (s.entries ++ (l :: ls)) = _
  by_cases hE : s.entries = []
  · rw [hE]; rfl
  · have hidx : l.index = s.lastIndex + 1 := (if_neg hE).mp (Spec.SLog.accepts_cons_iff.mp hacc).2.2
    rw [if_neg (by simpa using hE), viewG_append, hidx, Spec.SLog.lastIndex_succ hE]

/-- **head truncation**: DeleteRange(min, max) with min ≤ FirstIndex ≤ max on a non-empty open log is the crash model's
    `delHead (min max LastIndex + 1)` — wal.go clamps max to LastIndex -/
theorem delHead_link (tag : Log → Entry) (s : Spec.SLog) (mn mx : Nat) (hopen : s.closed = false)
    (hne : s.entries ≠ []) (_ : mn ≤ mx) (h2 : mn ≤ s.firstIndex) (h3 : s.firstIndex ≤ mx) :
    view tag (s.delete mn mx).1 = specApply (view tag s) (.delHead ((if mx > s.lastIndex then s.lastIndex else mx) + 1)) ∧
    (s.delete mn mx).2 = none := by
  have hF := Spec.SLog.firstIndex_of_ne hne
  obtain ⟨k, hk⟩ : ∃ k, mx + 1 = s.first + k := Nat.exists_eq_add_of_le (Nat.le_succ_of_le (hF ▸ h3))
  have hk0 : 0 < k := Nat.pos_of_ne_zero fun e => by
    subst e
    exact Nat.lt_irrefl _ (Nat.lt_of_le_of_lt (hF ▸ h3) (Nat.lt_of_lt_of_eq (Nat.lt_succ_self mx) hk))
  rw [Spec.SLog.delete_prefix hopen hne h2 hk hk0]
  refine ⟨?_, rfl⟩
  rw [view_eq, view_eq]
  show viewG tag (mx + 1) (s.entries.drop k) =
    (viewG tag s.first s.entries).filter (fun p => decide ((if mx > s.lastIndex then s.lastIndex else mx) + 1 ≤ p.1))
  by_cases hc : mx > s.lastIndex
  · -- everything goes
    have hlen : s.entries.length ≤ k := Nat.le_of_add_le_add_left (a := s.first) (by
      rw [← Spec.SLog.lastIndex_succ hne, ← hk]; exact Nat.succ_le_succ (Nat.le_of_lt hc))
    rw [if_pos hc, viewG_filter_none tag s.entries s.first _ (Nat.le_of_eq (Spec.SLog.lastIndex_succ hne).symm),
      List.drop_eq_nil_of_le hlen]
    rfl
  · rw [if_neg hc, hk, viewG_filter_ge]

/-- **tail truncation**: DeleteRange(min, max) with FirstIndex < min ≤ LastIndex ≤ max is `delTail (min - 1)` -/
theorem delTail_link (tag : Log → Entry) (s : Spec.SLog) (mn mx : Nat) (hopen : s.closed = false)
    (hne : s.entries ≠ []) (h2 : s.firstIndex < mn) (h3 : mn ≤ s.lastIndex) (h4 : s.lastIndex ≤ mx) :
    view tag (s.delete mn mx).1 = specApply (view tag s) (.delTail (mn - 1)) ∧ (s.delete mn mx).2 = none := by
  have hF := Spec.SLog.firstIndex_of_ne hne
  obtain ⟨k, hk⟩ := Nat.exists_eq_add_of_le (Nat.le_of_lt (hF ▸ h2))
  have hk0 : 0 < k := Nat.pos_of_ne_zero fun e => by
    subst e
    exact Nat.lt_irrefl _ (Nat.lt_of_lt_of_eq (hF ▸ h2) hk)
  rw [Spec.SLog.delete_suffix hopen hne hk hk0 h3 h4]
  refine ⟨?_, rfl⟩
  rw [view_eq, view_eq]
  show viewG tag s.first (s.entries.take k) = (viewG tag s.first s.entries).filter (fun p => decide (p.1 ≤ mn - 1))
  rw [← viewG_filter_lt, ← hk]
  exact List.filter_congr fun p _ => decide_eq_decide.2 (Nat.le_sub_one_iff_lt (Nat.lt_of_le_of_lt (Nat.zero_le _) h2)).symm

/-- everything else DeleteRange is asked to do is a no-op or a refusal in the reference model: the log is unchanged -/
theorem delete_other_link (s : Spec.SLog) (mn mx : Nat)
    (h : mn > mx ∨ s.entries = [] ∨ mx < s.firstIndex ∨ mn > s.lastIndex ∨ (s.firstIndex < mn ∧ mx < s.lastIndex)) :
    (s.delete mn mx).1 = s := by
  rcases Bool.eq_false_or_eq_true s.closed with c0 | c0
  · rw [Spec.SLog.delete_of_closed c0]
  rw [Spec.SLog.delete_open c0]
  by_cases c1 : mn > mx
  · rw [if_pos c1]
  rw [if_neg c1]
  by_cases c2 : s.entries.isEmpty = true ∨ mx < s.firstIndex ∨ mn > s.lastIndex
  · rw [if_pos c2]
  rw [if_neg c2]
  have hmid : s.firstIndex < mn ∧ mx < s.lastIndex := by
    rcases h with h | h | h | h | h
    · exact absurd h c1
    · exact absurd (Or.inl (by rw [h]; rfl)) c2
    · exact absurd (Or.inr (Or.inl h)) c2
    · exact absurd (Or.inr (Or.inr h)) c2
    · exact h
  rw [if_neg (Nat.not_le.2 hmid.1), if_neg (Nat.not_le.2 hmid.2)]

example : ∃ (s : Spec.SLog) (l : Log), s.closed = false ∧ s.accepts [l] = true ∧ s.entries ≠ [] := by
  refine ⟨{ first := 1, entries := [{ index := 1, term := 1, typ := 0, data := [], ext := [], time := some WTime.zero }] },
    { index := 2, term := 1, typ := 0, data := [], ext := [], time := some WTime.zero }, rfl, by decide,
    List.cons_ne_nil _ _⟩

end RaftWal.Crash
