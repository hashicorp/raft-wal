/-
  Theorems about Model/Pool.lean for every schedule: (1) pooled buffers are exclusive, (2) a read returns the requested
  frame, (3) a returned result never changes, (4) each guard is needed, (5) a run that exercises all paths.
-/
import RaftWal.Model.Pool
import RaftWal.Proofs.Schedules

namespace RaftWal.Pool

theorem run_append (cfg : PoolCfg) (s : State) (a b : List Step) :
    run cfg s (a ++ b) = run cfg (run cfg s a) b :=
  List.foldl_append

theorem step_cases {P : State → Prop} (cfg : PoolCfg) (s : State) (t : Nat) (act : Act) (h0 : P s)
    (h1 : ∀ pc pc' eff, s.threads[t]? = some pc → instr cfg s.heap s.pool pc act = some (pc', eff) →
      P { s.apply eff with threads := s.threads.set t pc' }) : P (step cfg s (t, act)) := by
  unfold step
  split
  · exact h0
  · next pc ht =>
    split
    · exact h0
    · next pc' eff hin => exact h1 pc pc' eff ht hin

theorem getElem?_set_cases {α} {l : List α} {t u : Nat} {a q : α} (h : (l.set t a)[u]? = some q) :
    (u = t ∧ q = a) ∨ (u ≠ t ∧ l[u]? = some q) := by
  by_cases hu : t = u
  · subst hu
    rw [List.getElem?_set_self'] at h
    cases hl : l[t]? with
    | none => rw [hl] at h; cases h
    | some x => rw [hl] at h; exact .inl ⟨rfl, (Option.some.inj h).symm⟩
  · rw [List.getElem?_set_ne hu] at h
    exact .inr ⟨fun e => hu e.symm, h⟩

theorem load_append (heap : List Content) (x : List Content) {b : BufId} (h : b < heap.length) :
    load (heap ++ x) b = load heap b := by
  simp only [load, List.getElem?_append_left h]

theorem load_set_ne (heap : List Content) (c : Content) {b x : BufId} (h : b ≠ x) :
    load (heap.set b c) x = load heap x := by
  simp only [load, List.getElem?_set_ne h]

theorem load_set_eq (heap : List Content) (c : Content) {b : BufId} (h : b < heap.length) :
    load (heap.set b c) b = c := by
  simp only [load, List.getElem?_set_self h, Option.getD_some]

/-! what one instruction does to the buffers its thread owns (`OwnEffect`) and to what its thread knows of its buffer's
    content (`good`) -/

def OwnEffect (heap : List Content) (pool : List BufId) (pc pc' : Pc) : Eff → Prop
  | .take b   => b ∈ pool ∧ owned pc' = b :: owned pc
  | .alloc    => owned pc' = heap.length :: owned pc
  | .put b    => owned pc = owned pc' ++ [b]
  | .fill b _ => b ∈ owned pc ∧ owned pc' = owned pc
  | .ret k res => owned pc' = [] ∧ ∃ bs pooled, pc = .closed k res bs pooled
  | .loc      => owned pc' = owned pc ∨ owned pc' = []

def good (heap : List Content) : Pc → Prop
  | .ready k bs _      => load heap bs = some k
  | .decoded k res _ _ => res = .copied (some k)
  | .preclosed _ _ _   => False
  | .closed k res _ _  => res = .copied (some k)
  | _ => True

theorem instr_effect {cfg : PoolCfg} {s : State} {pc act pc' eff}
    (h : instr cfg s.heap s.pool pc act = some (pc', eff)) :
    (cfg.closeOnce = true → OwnEffect s.heap s.pool pc pc' eff) ∧
    (cfg.decoderCopies = true → cfg.closeAfterDecode = true → good s.heap pc →
      (∀ b ∈ owned pc, b < s.heap.length) → good (s.apply eff).heap pc') := by
  unfold instr at h
  split at h
  all_goals try (repeat' split at h)
  all_goals cases h
  all_goals refine ⟨fun hc => ?_, fun h1 h2 hg hlt => ?_⟩
  -- `good` asks nothing of the new pc, or the goal unfolds to a fact about `owned` / `load`
  all_goals first
    | exact True.intro
    | simp_all [OwnEffect, good, owned, State.apply, decode, load_set_eq]

structure Excl (s : State) : Prop where
  poolNodup  : s.pool.Nodup
  poolLt     : ∀ b ∈ s.pool, b < s.heap.length
  ownLt      : ∀ (t : Nat) pc, s.threads[t]? = some pc → ∀ b ∈ owned pc, b < s.heap.length
  ownNotPool : ∀ (t : Nat) pc, s.threads[t]? = some pc → ∀ b ∈ owned pc, b ∉ s.pool
  ownDisj    : ∀ (t u : Nat) pc q, s.threads[t]? = some pc → s.threads[u]? = some q → t ≠ u →
                 ∀ b ∈ owned pc, b ∉ owned q
  ownNodup   : ∀ (t : Nat) pc, s.threads[t]? = some pc → (owned pc).Nodup

/-- The caller shows only local facts: what enters the pool was in it or owned by `t`; what `t` owns now it owned before,
    took from the pool, or is a new id.  That no other thread is affected follows here, once. -/
theorem Excl.update {s : State} (hi : Excl s) {t : Nat} {pc : Pc} (ht : s.threads[t]? = some pc) (pc' : Pc)
    (heap' : List Content) (pool' : List BufId) (ret' : List (Frame × Result))
    (hheap : s.heap.length ≤ heap'.length)
    (hpn : pool'.Nodup)
    (hpool : ∀ b ∈ pool', b ∈ s.pool ∨ b ∈ owned pc)
    (hown : ∀ b ∈ owned pc', b ∉ pool' ∧ (b ∈ owned pc ∨ b ∈ s.pool ∨ s.heap.length ≤ b ∧ b < heap'.length))
    (hnd : (owned pc').Nodup) :
    Excl { heap := heap', pool := pool', threads := s.threads.set t pc', returned := ret' } := by
  have hlt : ∀ b ∈ owned pc', b < heap'.length := by
    intro b hb
    rcases (hown b hb).2 with h | h | h
    · exact Nat.lt_of_lt_of_le (hi.ownLt t pc ht b h) hheap
    · exact Nat.lt_of_lt_of_le (hi.poolLt b h) hheap
    · exact h.2
  have hoth : ∀ u q, u ≠ t → s.threads[u]? = some q → ∀ b ∈ owned q, b ∉ pool' ∧ b ∉ owned pc' := by
    intro u q hne hu b hb
    have hd : b ∉ owned pc := fun h => hi.ownDisj u t q pc hu ht hne b hb h
    refine ⟨fun h => (hpool b h).elim (hi.ownNotPool u q hu b hb) hd, fun h => ?_⟩
    rcases (hown b h).2 with h | h | h
    · exact hd h
    · exact hi.ownNotPool u q hu b hb h
    · exact Nat.lt_irrefl _ (Nat.lt_of_lt_of_le (hi.ownLt u q hu b hb) h.1)
  refine ⟨hpn, ?_, ?_, ?_, ?_, ?_⟩
  · intro b hb
    rcases hpool b hb with h | h
    · exact Nat.lt_of_lt_of_le (hi.poolLt b h) hheap
    · exact Nat.lt_of_lt_of_le (hi.ownLt t pc ht b h) hheap
  · intro u q hu b hb
    rcases getElem?_set_cases hu with ⟨rfl, rfl⟩ | ⟨hne, hu'⟩
    · exact hlt b hb
    · exact Nat.lt_of_lt_of_le (hi.ownLt u q hu' b hb) hheap
  · intro u q hu b hb
    rcases getElem?_set_cases hu with ⟨rfl, rfl⟩ | ⟨hne, hu'⟩
    · exact (hown b hb).1
    · exact (hoth u q hne hu' b hb).1
  · intro u v q r hu hv huv b hb hb'
    rcases getElem?_set_cases hu with ⟨rfl, rfl⟩ | ⟨hne, hu'⟩
    · rcases getElem?_set_cases hv with ⟨rfl, rfl⟩ | ⟨hne', hv'⟩
      · exact huv rfl
      · exact (hoth v r hne' hv' b hb').2 hb
    · rcases getElem?_set_cases hv with ⟨rfl, rfl⟩ | ⟨hne', hv'⟩
      · exact (hoth u q hne hu' b hb).2 hb'
      · exact hi.ownDisj u v q r hu' hv' huv b hb hb'
  · intro u q hu
    rcases getElem?_set_cases hu with ⟨rfl, rfl⟩ | ⟨hne, hu'⟩
    · exact hnd
    · exact hi.ownNodup u q hu'

theorem Excl.update_sub {s : State} (hi : Excl s) {t : Nat} {pc : Pc} (ht : s.threads[t]? = some pc) (pc' : Pc)
    (heap' : List Content) (ret' : List (Frame × Result)) (hheap : s.heap.length = heap'.length)
    (hsub : (owned pc').Sublist (owned pc)) :
    Excl { heap := heap', pool := s.pool, threads := s.threads.set t pc', returned := ret' } :=
  hi.update ht pc' heap' s.pool ret' (Nat.le_of_eq hheap) hi.poolNodup (fun _ hb => .inl hb)
    (fun b hb => ⟨hi.ownNotPool t pc ht b (hsub.subset hb), .inl (hsub.subset hb)⟩) ((hi.ownNodup t pc ht).sublist hsub)

theorem Excl.step {cfg : PoolCfg} (hc : cfg.closeOnce = true) (s : State) (st : Step) (hi : Excl s) :
    Excl (step cfg s st) := by
  obtain ⟨t, act⟩ := st
  refine step_cases cfg s t act hi fun pc pc' eff ht hin => ?_
  have hs := (instr_effect hin).1 hc
  have hnp := hi.ownNotPool t pc ht
  have hnd := hi.ownNodup t pc ht
  cases eff with
  | take b =>
    obtain ⟨hb, ho⟩ := hs
    refine hi.update ht pc' s.heap (s.pool.erase b) s.returned (Nat.le_refl _) (hi.poolNodup.erase b)
      (fun x hx => .inl (List.mem_of_mem_erase hx)) ?_ ?_
    · intro x hx
      rw [ho] at hx
      rcases List.mem_cons.1 hx with rfl | hx
      · exact ⟨fun h => (hi.poolNodup.mem_erase_iff.1 h).1 rfl, .inr (.inl hb)⟩
      · exact ⟨fun h => hnp x hx (List.mem_of_mem_erase h), .inl hx⟩
    · rw [ho]; exact List.nodup_cons.2 ⟨fun h => hnp b h hb, hnd⟩
  | alloc =>
    have hs : owned pc' = s.heap.length :: owned pc := hs
    refine hi.update ht pc' (s.heap ++ [none]) s.pool s.returned (by simp) hi.poolNodup (fun _ hx => .inl hx) ?_ ?_
    · intro x hx
      rw [hs] at hx
      rcases List.mem_cons.1 hx with rfl | hx
      · exact ⟨fun h => Nat.lt_irrefl _ (hi.poolLt _ h), .inr (.inr ⟨Nat.le_refl _, by simp⟩)⟩
      · exact ⟨hnp x hx, .inl hx⟩
    · rw [hs]; exact List.nodup_cons.2 ⟨fun h => Nat.lt_irrefl _ (hi.ownLt t pc ht _ h), hnd⟩
  | put b =>
    have hs : owned pc = owned pc' ++ [b] := hs
    rw [hs] at hnd hnp
    have hbo : b ∈ owned pc' ++ [b] := List.mem_append_right _ (List.mem_singleton_self b)
    refine hi.update ht pc' s.heap (b :: s.pool) s.returned (Nat.le_refl _)
      (List.nodup_cons.2 ⟨hnp b hbo, hi.poolNodup⟩) ?_ ?_ (List.nodup_append.1 hnd).1
    · intro x hx
      rcases List.mem_cons.1 hx with rfl | hx
      · exact .inr (hs ▸ hbo)
      · exact .inl hx
    · intro x hx
      have hxo : x ∈ owned pc' ++ [b] := List.mem_append_left _ hx
      refine ⟨fun h => ?_, .inl (hs ▸ hxo)⟩
      rcases List.mem_cons.1 h with rfl | h
      · exact (List.nodup_append.1 hnd).2.2 x hx x (List.mem_singleton_self x) rfl
      · exact hnp x hxo h
  | fill b k => exact hi.update_sub ht pc' _ _ List.length_set.symm (hs.2 ▸ List.Sublist.refl _)
  | ret k res => exact hi.update_sub ht pc' _ _ rfl (hs.1 ▸ List.nil_sublist _)
  | loc =>
    refine hi.update_sub ht pc' _ _ rfl ?_
    rcases hs with h | h
    · exact h ▸ List.Sublist.refl _
    · exact h ▸ List.nil_sublist _

theorem init_thread {n t : Nat} {pc : Pc} (h : (init n).threads[t]? = some pc) : pc = .idle :=
  List.eq_of_mem_replicate (List.mem_of_getElem? h)

theorem Excl.ofInit (n : Nat) : Excl (init n) where
  poolNodup := List.nodup_nil
  poolLt := by intro b hb; cases hb
  ownLt := by intro t pc ht b hb; rw [init_thread ht] at hb; cases hb
  ownNotPool := by intro t pc ht b hb; rw [init_thread ht] at hb; cases hb
  ownDisj := by intro t u pc q ht _ _ b hb; rw [init_thread ht] at hb; cases hb
  ownNodup := by intro t pc ht; rw [init_thread ht]; exact List.nodup_nil

theorem Excl.reachable {cfg : PoolCfg} (hc : cfg.closeOnce = true) (n : Nat) (sched : List Step) :
    Excl (run cfg (init n) sched) :=
  foldl_induction (Pool.step cfg) (Excl.step hc) sched (Excl.ofInit n)

theorem mem_ownedBy {s : State} {t : Nat} {b : BufId} (h : b ∈ s.ownedBy t) :
    ∃ pc, s.threads[t]? = some pc ∧ b ∈ owned pc := by
  unfold State.ownedBy at h
  split at h
  · next pc ht => exact ⟨pc, ht, h⟩
  · cases h

/-- **1.** Under `closeOnce`, in every reachable state: the pool has no duplicates, a buffer owned by a thread is
    not in the pool, and no buffer is owned by two threads. -/
theorem pool_exclusive (cfg : PoolCfg) (hc : cfg.closeOnce = true) (n : Nat) (sched : List Step) :
    let s := run cfg (init n) sched
    s.pool.Nodup ∧
    (∀ t b, b ∈ s.ownedBy t → b ∉ s.pool) ∧
    (∀ t u b, b ∈ s.ownedBy t → b ∈ s.ownedBy u → t = u) := by
  intro s
  have hi : Excl s := Excl.reachable hc n sched
  refine ⟨hi.poolNodup, fun t b hb => ?_, fun t u b hb hb' => ?_⟩
  · obtain ⟨pc, ht, hb⟩ := mem_ownedBy hb
    exact hi.ownNotPool t pc ht b hb
  · obtain ⟨pc, ht, hb⟩ := mem_ownedBy hb
    obtain ⟨q, hu, hb'⟩ := mem_ownedBy hb'
    exact Decidable.byContradiction fun hne => hi.ownDisj t u pc q ht hu hne b hb hb'

structure Good (s : State) : Prop where
  excl : Excl s
  pcs  : ∀ (t : Nat) pc, s.threads[t]? = some pc → good s.heap pc
  rets : ∀ kr ∈ s.returned, kr.2 = .copied (some kr.1)

theorem good_frame {heap heap' : List Content} {q : Pc}
    (h : ∀ x ∈ owned q, load heap' x = load heap x) (hg : good heap q) : good heap' q := by
  cases q with
  | ready k bs p => exact (h bs (List.mem_singleton_self bs)).trans hg
  | _ => exact hg

theorem heap_frame {s : State} (hi : Excl s) {t : Nat} {pc : Pc} (ht : s.threads[t]? = some pc) {pc' : Pc} {eff : Eff}
    (hs : OwnEffect s.heap s.pool pc pc' eff) {u : Nat} {q : Pc} (hne : u ≠ t) (hu : s.threads[u]? = some q) :
    ∀ x ∈ owned q, load (s.apply eff).heap x = load s.heap x := by
  intro x hx
  cases eff with
  | alloc => exact load_append _ _ (hi.ownLt u q hu x hx)
  | fill b k =>
    exact load_set_ne _ _ (fun e => hi.ownDisj t u pc q ht hu (Ne.symm hne) b hs.1 (e ▸ hx))
  | _ => rfl

theorem Good.step {cfg : PoolCfg} (h1 : cfg.decoderCopies = true) (h2 : cfg.closeAfterDecode = true)
    (hc : cfg.closeOnce = true) (s : State) (st : Step) (hG : Good s) : Good (step cfg s st) := by
  have hex := hG.excl.step hc s st
  obtain ⟨t, act⟩ := st
  refine step_cases (P := fun s' => Excl s' → Good s') cfg s t act (fun _ => hG) (fun pc pc' eff ht hin hex => ?_) hex
  have hs := (instr_effect hin).1 hc
  have hg := (instr_effect hin).2 h1 h2 (hG.pcs t pc ht) (hG.excl.ownLt t pc ht)
  refine ⟨hex, ?_, ?_⟩
  · intro u q hu
    rcases getElem?_set_cases hu with ⟨rfl, rfl⟩ | ⟨hne, hu'⟩
    · exact hg
    · exact good_frame (heap_frame hG.excl ht hs hne hu') (hG.pcs u q hu')
  · intro kr hkr
    cases eff with
    | ret k res =>
      obtain ⟨_, bs, pooled, rfl⟩ := hs
      rcases List.mem_append.1 hkr with h | h
      · exact hG.rets kr h
      · rw [List.mem_singleton.1 h]; exact hG.pcs t _ ht
    | _ => exact hG.rets kr hkr


theorem Good.ofInit (n : Nat) : Good (init n) where
  excl := Excl.ofInit n
  pcs := by intro t pc ht; rw [init_thread ht]; trivial
  rets := by intro kr hkr; cases hkr

theorem Good.reachable {cfg : PoolCfg} (h1 : cfg.decoderCopies = true) (h2 : cfg.closeAfterDecode = true)
    (hc : cfg.closeOnce = true) (n : Nat) (sched : List Step) : Good (run cfg (init n) sched) :=
  foldl_induction (Pool.step cfg) (Good.step h1 h2 hc) sched (Good.ofInit n)

theorem returned_prefix_step (cfg : PoolCfg) (s : State) (st : Step) :
    s.returned <+: (step cfg s st).returned := by
  obtain ⟨t, act⟩ := st
  refine step_cases (P := fun s' => s.returned <+: s'.returned) cfg s t act List.prefix_rfl fun pc pc' eff _ _ => ?_
  cases eff with
  | ret k res => exact List.prefix_append _ _
  | _ => exact List.prefix_rfl

theorem returned_prefix (cfg : PoolCfg) (sched : List Step) (s : State) :
    s.returned <+: (run cfg s sched).returned :=
  foldl_induction (P := fun s' => s.returned <+: s'.returned) (step cfg)
    (fun s' st h => h.trans (returned_prefix_step cfg s' st)) sched List.prefix_rfl

theorem return_logs (cfg : PoolCfg) (s : State) (t : Nat) {k : Frame} {res : Result} {bs : BufId} {pooled : Bool}
    (h : s.threads[t]? = some (.closed k res bs pooled)) :
    (step cfg s (t, .next)).returned = s.returned ++ [(k, res)] := by
  simp only [step, h]
  rfl

/-- **2.** for any configuration with the three guards: a thread that has finished reading frame `k` holds, and every
    result ever handed to a caller is, the payload of the requested frame. -/
theorem read_returns_requested_frame_of_guards (cfg : PoolCfg) (h1 : cfg.decoderCopies = true)
    (h2 : cfg.closeAfterDecode = true) (h3 : cfg.closeOnce = true) (n : Nat) (sched : List Step) :
    let s := run cfg (init n) sched
    (∀ (t : Nat) k res bs pooled, s.threads[t]? = some (.closed k res bs pooled) → observe s res = some k) ∧
    (∀ kr ∈ s.returned, observe s kr.2 = some kr.1) := by
  intro s
  have hG : Good s := Good.reachable h1 h2 h3 n sched
  refine ⟨?_, ?_⟩
  · intro t k res bs pooled ht
    have : res = .copied (some k) := hG.pcs t _ ht
    rw [this]; rfl
  · intro kr hkr
    rw [hG.rets kr hkr]; rfl

/-- **3.** Under the same three guards a result, once returned, is still in the caller's hands and
    observes the same value after every continuation of the schedule. -/
theorem result_stable_of_guards (cfg : PoolCfg) (h1 : cfg.decoderCopies = true)
    (h2 : cfg.closeAfterDecode = true) (h3 : cfg.closeOnce = true) (n : Nat) (sched more : List Step) :
    ∀ kr ∈ (run cfg (init n) sched).returned,
      kr ∈ (run cfg (init n) (sched ++ more)).returned ∧
      observe (run cfg (init n) (sched ++ more)) kr.2 = observe (run cfg (init n) sched) kr.2 := by
  intro kr hkr
  have hmem : kr ∈ (run cfg (init n) (sched ++ more)).returned := by
    rw [run_append]; exact (returned_prefix cfg more _).subset hkr
  refine ⟨hmem, ?_⟩
  rw [(read_returns_requested_frame_of_guards cfg h1 h2 h3 n (sched ++ more)).2 kr hmem,
      (read_returns_requested_frame_of_guards cfg h1 h2 h3 n sched).2 kr hkr]

theorem read_returns_requested_frame (n : Nat) (sched : List Step) :
    let s := run PoolCfg.code (init n) sched
    (∀ (t : Nat) k res bs pooled, s.threads[t]? = some (.closed k res bs pooled) → observe s res = some k) ∧
    (∀ kr ∈ s.returned, observe s kr.2 = some kr.1) :=
  read_returns_requested_frame_of_guards PoolCfg.code rfl rfl rfl n sched

theorem result_stable (n : Nat) (sched more : List Step) :
    ∀ kr ∈ (run PoolCfg.code (init n) sched).returned,
      kr ∈ (run PoolCfg.code (init n) (sched ++ more)).returned ∧
      observe (run PoolCfg.code (init n) (sched ++ more)) kr.2 = observe (run PoolCfg.code (init n) sched) kr.2 :=
  result_stable_of_guards PoolCfg.code rfl rfl rfl n sched more

/-- every result in callers' hands observes as the frame that was requested, in every reachable state -/
def Correct (cfg : PoolCfg) : Prop :=
  ∀ (n : Nat) (sched : List Step), ∀ kr ∈ (run cfg (init n) sched).returned,
    observe (run cfg (init n) sched) kr.2 = some kr.1

theorem correct_of_guards (cfg : PoolCfg) (h1 : cfg.decoderCopies = true) (h2 : cfg.closeAfterDecode = true)
    (h3 : cfg.closeOnce = true) : Correct cfg :=
  fun n sched => (read_returns_requested_frame_of_guards cfg h1 h2 h3 n sched).2

/-- 2 and 3 do not depend on `largePathPrivate` / `largePathClosesFirst` -/
theorem correct_any_largePath (priv first : Bool) :
    Correct { PoolCfg.code with largePathPrivate := priv, largePathClosesFirst := first } :=
  correct_of_guards _ rfl rfl rfl

/-- thread 0 reads frame 1 into new buffer 0, decodes (aliasing), closes, returns; thread 1 gets buffer 0 from the
    pool and reads frame 2 into it -/
def wDecoderCopies : List Step :=
  [(0, .get 1 false none), (0, .next), (0, .next), (0, .next), (0, .next),
   (1, .get 2 false (some 0)), (1, .next)]

theorem witness_decoderCopies :
    let cfg := { PoolCfg.code with decoderCopies := false }
    let s₁ := run cfg (init 2) (wDecoderCopies.take 5)
    let s₂ := run cfg (init 2) wDecoderCopies
    s₁.returned = [(1, .alias 0)] ∧ observe s₁ (.alias 0) = some 1 ∧
    s₂.returned = [(1, .alias 0)] ∧ observe s₂ (.alias 0) = some 2 := by decide +kernel

theorem needs_decoderCopies : ¬ Correct { PoolCfg.code with decoderCopies := false } := fun h =>
  have w := witness_decoderCopies
  absurd ((h 2 wDecoderCopies (1, .alias 0) (w.2.2.1 ▸ List.mem_singleton_self _)).symm.trans w.2.2.2) (by decide)

/-- thread 0 reads frame 1 into new buffer 0 and Puts it back before decoding; thread 1 gets buffer 0 and reads
    frame 2 into it; thread 0 decodes (copying) what is now frame 2 -/
def wCloseAfterDecode : List Step :=
  [(0, .get 1 false none), (0, .next), (0, .next),
   (1, .get 2 false (some 0)), (1, .next),
   (0, .next), (0, .next)]

theorem witness_closeAfterDecode :
    (run { PoolCfg.code with closeAfterDecode := false } (init 2) wCloseAfterDecode).returned
      = [(1, .copied (some 2))] := by decide +kernel

theorem needs_closeAfterDecode : ¬ Correct { PoolCfg.code with closeAfterDecode := false } := fun h =>
  absurd (h 2 wCloseAfterDecode (1, .copied (some 2)) (witness_closeAfterDecode ▸ List.mem_singleton_self _))
    (by decide)

/-- thread 0 reads frame 1 and Puts buffer 0 twice; threads 1 and 2 both get buffer 0; thread 1 reads frame 2 into
    it, thread 2 reads frame 3 into it, thread 1 decodes frame 3's bytes -/
def wCloseOnce : List Step :=
  [(0, .get 1 false none), (0, .next), (0, .next), (0, .next), (0, .again), (0, .next),
   (1, .get 2 false (some 0)), (2, .get 3 false (some 0)),
   (1, .next), (2, .next), (1, .next), (1, .next), (1, .next)]

theorem witness_closeOnce :
    let cfg := { PoolCfg.code with closeOnce := false }
    (run cfg (init 3) (wCloseOnce.take 8)).pool = [] ∧
    (run cfg (init 3) (wCloseOnce.take 8)).ownedBy 1 = [0] ∧
    (run cfg (init 3) (wCloseOnce.take 8)).ownedBy 2 = [0] ∧
    (run cfg (init 3) wCloseOnce).returned = [(1, .copied (some 1)), (2, .copied (some 3))] := by decide +kernel

theorem needs_closeOnce : ¬ Correct { PoolCfg.code with closeOnce := false } := fun h =>
  absurd (h 3 wCloseOnce (2, .copied (some 3))
    (witness_closeOnce.2.2.2 ▸ List.mem_cons_of_mem _ (List.mem_singleton_self _))) (by decide)

/-- `closeOnce` is also what 1 needs: after a double Put the pool holds buffer 0 twice -/
theorem pool_exclusive_needs_closeOnce :
    ¬ (run { PoolCfg.code with closeOnce := false } (init 3) (wCloseOnce.take 6)).pool.Nodup := by decide +kernel

/-! What `largePathPrivate` buys is not visible in values: without
    it the exact-size buffer (`make([]byte, fh.len)`, not 64 KiB) enters the pool and is handed to later reads, so the
    pool no longer holds only `minBufSize` buffers and arbitrarily large buffers are retained. -/

def wLarge : List Step :=
  [(0, .get 7 true none), (0, .next), (0, .next), (0, .next), (0, .next), (0, .next), (0, .next), (0, .next)]

/-- as coded: buffer 1 (the exact-size one) never enters the pool -/
example : (run PoolCfg.code (init 1) wLarge).pool = [0] ∧
    (run PoolCfg.code (init 1) wLarge).returned = [(7, .copied (some 7))] := by decide +kernel
/-- with a CloseFn on the exact-size buffer it does -/
example : (run { PoolCfg.code with largePathPrivate := false } (init 1) wLarge).pool = [1, 0] ∧
    (run { PoolCfg.code with largePathPrivate := false } (init 1) wLarge).returned = [(7, .copied (some 7))] := by
  decide +kernel

/-! ## 5. non-vacuity: 3 threads, buffer 0 serves frame 1 (thread 0) and then frame 2 (thread 1), thread 2 reads
    frame 3 on the large path -/

def demo : List Step :=
  [(0, .get 1 false none), (0, .next), (0, .next), (0, .next), (0, .next),       -- thread 0: frame 1 via new buffer 0
   (1, .get 2 false (some 0)), (2, .get 3 true none),                            -- thread 1 reuses 0; thread 2 gets new 1
   (1, .next), (2, .next),                                                       -- both ReadAt
   (2, .next), (2, .next), (2, .next),                                           -- thread 2: Put 1, make 2, ReadAt
   (1, .next), (2, .next), (1, .next), (2, .next), (2, .next), (1, .next)]       -- decode, close, return

example : (run PoolCfg.code (init 3) (demo.take 2)).threads[0]? = some (.ready 1 0 true) := by decide +kernel
example : (run PoolCfg.code (init 3) (demo.take 5)).pool = [0] := by decide +kernel
example : (run PoolCfg.code (init 3) (demo.take 8)).threads[1]? = some (.ready 2 0 true) := by decide +kernel
example : (run PoolCfg.code (init 3) (demo.take 9)).threads[2]? = some (.hdr 3 1) := by decide +kernel
example : (run PoolCfg.code (init 3) (demo.take 12)).threads[2]? = some (.ready 3 2 false) := by decide +kernel
example : run PoolCfg.code (init 3) demo =
    { heap := [some 2, some 3, some 3], pool := [0, 1], threads := [.idle, .idle, .idle],
      returned := [(1, .copied (some 1)), (3, .copied (some 3)), (2, .copied (some 2))] } := by decide +kernel
example : ∀ kr ∈ (run PoolCfg.code (init 3) demo).returned,
    observe (run PoolCfg.code (init 3) demo) kr.2 = some kr.1 := by decide +kernel

end RaftWal.Pool
