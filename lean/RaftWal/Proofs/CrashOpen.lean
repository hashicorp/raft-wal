/-
  Proofs/CrashOpen.lean — Open from a `Rec` state: every prefix of its program preserves `Rec`, its result is `QS`
  with an admissible log; hence any sequence of recoveries cut by crashes stays inside `Rec`.
-/
import RaftWal.Proofs.CrashRec
namespace RaftWal.Crash

def orphanIds (d : Disk) : List Nat :=
  (d.files.filter (fun f => !d.md.segs.any (·.id = f.id))).map (·.id)

theorem orphanDeletes_eq (d : Disk) : orphanDeletes d d.md = (orphanIds d).map .delete := by
  simp [orphanDeletes, orphanIds, List.map_map, Function.comp_def]

theorem mem_orphanIds {d : Disk} {j : Nat} : j ∈ orphanIds d ↔ j ∈ fids d ∧ j ∉ segIds d.md.segs := by
  simp only [orphanIds, List.mem_map, List.mem_filter, Bool.not_eq_eq_eq_not, Bool.not_true, List.any_eq_false,
    decide_eq_true_eq, fids, segIds, not_exists, not_and]
  constructor
  · rintro ⟨f, ⟨hf, hn⟩, rfl⟩
    exact ⟨⟨f, hf, rfl⟩, fun s hs e => hn s hs e⟩
  · rintro ⟨⟨f, hf, rfl⟩, hn⟩
    exact ⟨f, ⟨hf, fun s hs e => hn s hs e⟩, rfl⟩

/-- what Open does before it removes the orphans -/
def openPre (d : Disk) (t : Seg) : List Act :=
  match d.file? t.id with
  | none => [.create t.id t.base]
  | some f =>
    (if f.content.isEmpty && !f.isSealed then [] else [.fsync f.id]) ++
    (if f.isSealed then
      newTailActs d.md (setSeg d.md.segs { t with sealed := true, max := f.lastIdx }) (f.lastIdx + 1) else [])

theorem openProg_eq {d : Disk} {P : List Seg} {t : Seg} (hsegs : d.md.segs = P ++ [t])
    (hsealed : ∀ s ∈ P, SealedOK d s) (htsl : t.sealed = false) :
    openProg d = some (openPre d t ++ orphanDeletes d d.md) := by
  have h1 : (d.md.segs.any fun s => s.sealed && (d.file? s.id).isNone) = false := by
    rw [List.any_eq_false, hsegs]
    intro s hs
    rcases List.mem_append.1 hs with hs | hs
    · obtain ⟨f, hf, _⟩ := hsealed s hs
      simp [hf]
    · cases List.mem_singleton.1 hs; simp [htsl]
  have h2 : (d.md.segs.dropLast.any fun s => !s.sealed) = false := by
    rw [List.any_eq_false, hsegs, List.dropLast_concat]
    intro s hs
    obtain ⟨f, _, hsf⟩ := hsealed s hs
    simp [hsf.sl]
  have h3 : d.md.segs.getLast? = some t := by rw [hsegs, List.getLast?_concat]
  unfold openProg openPre
  simp only [h1, h2, h3, Bool.false_eq_true, ↓reduceIte, htsl]
  cases hf : d.file? t.id with
  | none => rfl
  | some f =>
    simp only
    cases hs : f.isSealed with
    | true => simp
    | false => simp

theorem open_shape {A : Log → Prop} {d : Disk} {P : List Seg} {t : Seg} (h : Rec A d P t) :
    openProg d = some (openPre d t ++ orphanDeletes d d.md) :=
  openProg_eq h.base.segs h.base.sealed h.base.tsl

theorem openPre_none {d : Disk} {t : Seg} (hf : d.file? t.id = none) : openPre d t = [.create t.id t.base] := by
  rw [openPre, hf]

theorem openPre_unsealed {d : Disk} {t : Seg} {f : File} (hf : d.file? t.id = some f) (hs : f.isSealed = false) :
    openPre d t = if f.content.isEmpty then [] else [.fsync t.id] := by
  rw [openPre, hf]
  simp only [hs, Bool.not_false, Bool.and_true, Bool.false_eq_true, ↓reduceIte, List.append_nil,
    (file?_some_mem hf).2]

theorem openPre_sealed {d : Disk} {P : List Seg} {t : Seg} {f : File} (hb : Base d P t) (hf : d.file? t.id = some f)
    (hs : f.isSealed = true) :
    openPre d t = [.fsync t.id, rotCommit d P t f.lastIdx, .create d.md.nextID (f.lastIdx + 1)] := by
  rw [openPre, hf]
  simp only [hs, Bool.not_true, Bool.and_false, Bool.false_eq_true, ↓reduceIte, (file?_some_mem hf).2, hb.segs,
    newTailActs]
  rw [setSeg_tail (t' := { t with sealed := true, max := f.lastIdx }) hb.tid_ne rfl]
  rfl

/-- `d'` with segments `P' ++ [t']`, reached from `d0` with `P ++ [t]` by a prefix of Open: still `Rec`, a new segment
    has the fresh identifier, a new file is a segment's -/
structure PreRes (A : Log → Prop) (d0 : Disk) (P : List Seg) (t : Seg) (d' : Disk) (P' : List Seg) (t' : Seg) : Prop where
  rc : Rec A d' P' t'
  orph : ∀ s ∈ P' ++ [t'], s.id ∈ segIds (P ++ [t]) ∨ s.id = d0.md.nextID
  ids : ∀ j ∈ segIds (P ++ [t]), j ∈ segIds (P' ++ [t'])
  fsub : ∀ j ∈ fids d', j ∈ fids d0 ∨ j ∈ segIds (P' ++ [t'])
  stable : d'.md.stable = d0.md.stable

theorem PreRes.refl {A : Log → Prop} {d : Disk} {P : List Seg} {t : Seg} (h : Rec A d P t) : PreRes A d P t d P t :=
  ⟨h, fun _ hs => Or.inl (mem_segIds hs), fun _ hj => hj, fun _ hj => Or.inl hj, rfl⟩

theorem PreRes.keep {A : Log → Prop} {d d' : Disk} {P : List Seg} {t : Seg} (h : Rec A d' P t)
    (hf : ∀ j ∈ fids d', j ∈ fids d ∨ j = t.id) (hmd : d'.md = d.md) : PreRes A d P t d' P t :=
  ⟨h, fun _ hs => Or.inl (mem_segIds hs), fun _ hj => hj,
    fun j hj => (hf j hj).imp id fun (e : j = t.id) => e ▸ mem_segIds List.mem_concat_self,
    by rw [hmd]⟩

theorem PreRes.rotated {A : Log → Prop} {d d' : Disk} {P : List Seg} {t : Seg} {mx b : Nat}
    (h : Rec A d' (P ++ [sealSeg t mx]) (newSeg d.md.nextID b))
    (hf : ∀ j ∈ fids d', j ∈ fids d ∨ j = d.md.nextID) (hst : d'.md.stable = d.md.stable) :
    PreRes A d P t d' (P ++ [sealSeg t mx]) (newSeg d.md.nextID b) := by
  have hids : segIds (P ++ [sealSeg t mx] ++ [newSeg d.md.nextID b]) = segIds (P ++ [t]) ++ [d.md.nextID] := by
    rw [segIds_append, segIds_append, segIds_append]; rfl
  refine ⟨h, fun s hs => ?_, fun j hj => ?_, fun j hj => (hf j hj).imp id fun e => ?_, hst⟩
  · have := mem_segIds hs
    rw [hids] at this
    exact (List.mem_append.1 this).imp id List.mem_singleton.1
  · rw [hids]; exact List.mem_append_left _ hj
  · rw [hids, e]; exact List.mem_append_right _ (List.mem_singleton.2 rfl)

theorem take_one {α : Type} (a : α) (k : Nat) : [a].take (k + 1) = [a] := by simp

theorem open_pre_steps {A : Log → Prop} {d : Disk} {P : List Seg} {t : Seg} (h : Rec A d P t) (k : Nat) :
    ∃ P' t', PreRes A d P t (d.applyAll ((openPre d t).take k)) P' t' ∧
      ((openPre d t).length ≤ k → CleanTail (d.applyAll ((openPre d t).take k)) t') := by
  have hb := h.base
  have h0 : PreRes A d P t (d.applyAll []) P t := PreRes.refl h
  cases hf : d.file? t.id with
  | none =>
    -- the ErrNotExist path: the tail's file is created
    rw [openPre_none hf]
    obtain ⟨h1, hc, hfid⟩ := h.create_clean hf
    cases k with
    | zero => exact ⟨P, t, h0, fun hk => absurd hk (Nat.not_succ_le_zero 0)⟩
    | succ k =>
      rw [take_one]
      refine ⟨P, t, .keep h1 (fun j hj => ?_) (apply_create_md d _ _), fun _ => hc⟩
      exact (List.mem_append.1 (hfid ▸ hj)).imp id List.mem_singleton.1
  | some f =>
    have hr := h.tsome f hf
    obtain ⟨f1, hf1, g1, g2, g3, g4, g5, g6, _⟩ := fsync_file hb.hl hf
    have hr1 : Rec A (d.apply (.fsync t.id)) P t := h.fsync hf hr.a2
    have hp1 : PreRes A d P t (d.applyAll [.fsync t.id]) P t :=
      .keep hr1 (fun j hj => Or.inl (fids_fsync d t.id ▸ hj)) rfl
    cases hsl : f.isSealed with
    | false =>
      -- recovery accepts what it reads and fsyncs it
      have hss : f.sealedS = false ∧ f.sealedP = false := by simpa [File.isSealed] using hsl
      rw [openPre_unsealed hf hsl]
      cases hce : f.content.isEmpty with
      | true =>
        rw [if_pos rfl, List.take_nil]
        have hp : f.pending = [] := (List.append_eq_nil_iff.1 (List.isEmpty_iff.1 hce)).2
        exact ⟨P, t, h0, fun _ => ⟨f, hf, hp, hss.1, hss.2⟩⟩
      | false =>
        simp only [Bool.false_eq_true, ↓reduceIte]
        cases k with
        | zero => exact ⟨P, t, h0, fun hk => absurd hk (Nat.not_succ_le_zero 0)⟩
        | succ k =>
          rw [take_one]
          exact ⟨P, t, hp1, fun _ => ⟨f1, hf1, g3, by rw [g4, hss.1, hss.2]; rfl, g5⟩⟩
    | true =>
      -- the sealing append was durable but the rotation was not committed: fsync, then complete the rotation
      rw [openPre_sealed hb hf hsl]
      have hss1 : f1.sealedS = true := by rw [g4]; simpa [File.isSealed] using hsl
      have hli : f1.lastIdx = f.lastIdx := by rw [File.lastIdx, File.lastIdx, File.content, File.content, g1, g2, g3, List.append_nil]
      obtain ⟨h3, h4, hc4, hfid4, hfid3⟩ := rotate_create hr1 hf1 hss1
      rw [hli] at h3 h4 hc4 hfid4 hfid3
      rcases k with _ | _ | _ | k
      · exact ⟨P, t, h0, fun hk => absurd hk (Nat.not_succ_le_zero 2)⟩
      · exact ⟨P, t, hp1, fun hk => absurd hk (by simp)⟩
      · refine ⟨P ++ [sealSeg t f.lastIdx], newSeg d.md.nextID (f.lastIdx + 1),
          .rotated (d := d) (d' := (d.apply (.fsync t.id)).apply (rotCommit d P t f.lastIdx)) h3 (fun j hj => ?_) rfl,
          fun hk => absurd hk (by simp)⟩
        exact Or.inl (fids_fsync d t.id ▸ hfid3 ▸ hj)
      · rw [List.take_of_length_le (Nat.le_add_left 3 k)]
        refine ⟨P ++ [sealSeg t f.lastIdx], newSeg d.md.nextID (f.lastIdx + 1),
          .rotated (d := d) (d' := ((d.apply (.fsync t.id)).apply (rotCommit d P t f.lastIdx)).apply
            (.create d.md.nextID (f.lastIdx + 1))) h4 (fun j hj => ?_) (by rw [apply_create_md]; rfl), fun _ => hc4⟩
        exact (List.mem_append.1 (fids_fsync d t.id ▸ hfid4 ▸ hj)).imp id List.mem_singleton.1

theorem open_isSome {A : Log → Prop} {d : Disk} (h : RecE A d) : (openProg d).isSome = true := by
  obtain ⟨P, t, h⟩ := h
  rw [open_shape h]; rfl

theorem orphan_ne {A : Log → Prop} {d d' : Disk} {P P' : List Seg} {t t' : Seg} (h : Rec A d P t)
    (hp : PreRes A d P t d' P' t') {j : Nat} (hj : j ∈ orphanIds d) : ∀ s ∈ P' ++ [t'], s.id ≠ j := by
  intro s hs e
  have hj' := mem_orphanIds.1 hj
  rcases hp.orph s hs with h1 | h1
  · exact hj'.2 (by rw [h.base.segs, ← e]; exact h1)
  · exact Nat.lt_irrefl _ (h1 ▸ e ▸ h.base.fidlt j hj'.1)

theorem open_steps {A : Log → Prop} {d : Disk} (h : RecE A d) {as : List Act} (ho : openProg d = some as)
    (k : Nat) (c : CrashKind) : RecE A (crashAfter d as k c) := by
  obtain ⟨P, t, h⟩ := h
  rw [open_shape h, orphanDeletes_eq] at ho
  cases ho
  obtain ⟨P', t', hp, _⟩ := open_pre_steps h k
  unfold crashAfter
  rw [List.take_append, applyAll_append, ← List.map_take]
  exact ⟨P', t', (hp.rc.deleteIds _ fun j hj => orphan_ne h hp (List.mem_of_mem_take hj)).crash c⟩

theorem open_final {A : Log → Prop} {d d' : Disk} (h : RecE A d) (ho : openResult d = some d') :
    (∃ P t f, QS d' P t f) ∧ A (absLog d') ∧ d'.md.stable = d.md.stable := by
  obtain ⟨P, t, h⟩ := h
  unfold openResult at ho
  rw [open_shape h, orphanDeletes_eq] at ho
  cases ho
  obtain ⟨P', t', hp, hc⟩ := open_pre_steps h (openPre d t).length
  rw [List.take_length] at hp hc
  rw [applyAll_append]
  obtain ⟨f, hq, ha⟩ := hp.rc.deleteIds_toQS (hc (Nat.le_refl _)) (orphanIds d) (fun j hj => orphan_ne h hp hj)
    fun j hj => by
      -- a file that is not the file of a segment is an orphan of the state Open started from
      rcases hp.fsub j hj with h1 | h1
      · by_cases hn : j ∈ segIds d.md.segs
        · exact Or.inr (hp.ids j (h.base.segs ▸ hn))
        · exact Or.inl (mem_orphanIds.2 ⟨h1, hn⟩)
      · exact Or.inr h1
  exact ⟨⟨P', t', f, hq⟩, ha, by rw [deletes_md]; exact hp.stable⟩

theorem reach_rec {A : Log → Prop} {d0 d1 : Disk} (h : RecE A d0) (hr : ReachRec d0 d1) : RecE A d1 := by
  induction hr with
  | refl d => exact h
  | step d as k c d2 ho _ ih => exact ih (open_steps h ho k c)

end RaftWal.Crash
