/-
  Proofs/FaultDefs.lean — what the fault theorems about Model/Fault.lean talk about: which calls are legal for a process
  (relative to the log its readers see), histories of calls with their results, what a history means on the abstract log
  when every failed call is applied in full or not at all, and an executable invariant of the states a faulted process
  reaches (evaluated by the correspondence harness on every state the model reaches while shadowing the real code).
-/
import RaftWal.Model.Fault
import RaftWal.Proofs.CrashDefs
namespace RaftWal.Fault
open RaftWal.Crash

def lfirst (l : List (Nat × Entry)) : Nat := match l.head? with | some p => p.1 | none => 0
def llast (l : List (Nat × Entry)) : Nat := match l.getLast? with | some p => p.1 | none => 0

/-- the calls the WAL accepts when its readers see the log `l` (everything else is refused before any I/O) -/
def OkV (l : List (Nat × Entry)) : Op → Prop
  | .store first es _ => es ≠ [] ∧ 1 ≤ first ∧ (l = [] ∨ first = llast l + 1)
  | .delHead newMin => l ≠ [] ∧ lfirst l < newMin ∧ newMin ≤ llast l + 1
  | .delTail newMax => l ≠ [] ∧ lfirst l ≤ newMax ∧ newMax < llast l
  | .set _ _ => True

/-- a history: the calls issued, each with whether it is to be counted as applied -/
abbrev Hist := List (Op × Bool)

/-- the log after the calls counted as applied -/
def replay (l : List (Nat × Entry)) : Hist → List (Nat × Entry)
  | [] => l
  | (op, true) :: h => replay (specApply l op) h
  | (_, false) :: h => replay l h

/-- `c` resolves `h`: same calls, every call that returned nil counted as applied, each failed one either way -/
def Resolves : Hist → Hist → Prop
  | [], [] => True
  | (op, ok) :: h, (op', b) :: c => op' = op ∧ (ok = true → b = true) ∧ Resolves h c
  | _, _ => False

/-- one epoch of a process: from the state `p0` an Open left, calls — each under any fault plan — issued one after the
    other; `h` records each call and whether it returned nil -/
inductive Epoch (p0 : Proc) : Hist → Proc → Prop
  | start : Epoch p0 [] p0
  | call (h : Hist) (p : Proc) (op : Op) (pl : Plan) :
      Epoch p0 h p → OkV (view p) op → Epoch p0 (h ++ [(op, (runOp p op pl).2)]) (runOp p op pl).1

/-! ### executable invariant of a faulted process between calls -/

/-- the files the meta store names -/
def strip (d : Disk) : Disk := { d with files := d.files.filter (fun f => d.md.segs.any (fun s => s.id == f.id)) }

/-- the tail file without what failed calls left on it: nothing beyond the writer's offset, no seal -/
def cleanTail (d : Disk) : Disk :=
  match d.md.segs.getLast? with
  | none => d
  | some t => { d with files := updFile d.files t.id (fun f => { f with pending := [], sealedP := false, sealedS := false }) }

/-- between two calls of a process that still accepts writes: apart from (i) files the meta store does not name (a
    Delete failed), (ii) a batch beyond the tail writer's offset (an append or ForceSeal failed) and (iii) a durably
    sealed tail whose rotation / truncation was not committed, the disk is `QuiescentS` -/
def finvRunB (d : Disk) : Bool :=
  quiescentSB (cleanTail (strip d)) &&
  nodupB (d.files.map (·.id)) && d.files.all (fun f => decide (f.id < d.md.nextID)) &&
  d.files.all (fun f => !f.hsynced || f.linked) &&
  d.files.all (fun f => d.md.segs.getLast?.any (fun t => t.id == f.id) || !d.md.segs.any (fun s => s.id == f.id) ||
                        (f.pending.isEmpty && !f.sealedP)) &&
  (match d.md.segs.getLast? with
   | none => false
   | some t => match d.file? t.id with
     | none => false
     | some f => !f.sealedS || (f.pending.isEmpty && !f.sealedP))

/-- a stopped process: the committed state differs from the published one by exactly the call that could not be
    completed; undoing that commit gives a state of the running kind -/
def finvStopB (d : Disk) (segs0 : List Seg) : Bool :=
  decide (1 ≤ d.md.nextID) &&
  finvRunB { d with md := { d.md with segs := segs0, nextID := d.md.nextID - 1 } } &&
  (match d.md.segs.getLast? with
   | none => false
   | some n => n.id == d.md.nextID - 1 && !n.sealed && (d.file? n.id).isNone)

def finvB (p : Proc) : Bool :=
  match p.frozen with
  | none => finvRunB p.disk
  | some segs0 => finvStopB p.disk segs0

def FInv (p : Proc) : Prop := finvB p = true

/-! ### the two further conjuncts the restart theorems need (found by the prover: `FInv` alone allows an empty tail file
    that is durably sealed, and says too little about the committed segment list of a stopped process — with either,
    Open fails or leaves a state that is not quiescent; both refuted by concrete witnesses in FaultRestart) -/

/-- running process: a tail file that carries a seal (durable or left behind by a failed call) is not empty -/
def fextraRunB (d : Disk) : Bool :=
  match d.md.segs.getLast? with
  | none => true
  | some t =>
    match d.file? t.id with
    | none => true
    | some f => !(f.sealedS || f.sealedP) || !(f.synced ++ f.pending).isEmpty

/-- stopped process: the committed segment list is well-formed — every segment but the last is sealed and agrees
    with its file, the chain is contiguous, identifiers are distinct and below NextSegmentID, the new tail (whose file
    could not be created) starts at its base — i.e. `quiescentB` of the committed state minus what it says about the
    tail's file and about files no segment names -/
def fextraStopB (d : Disk) : Bool :=
  match d.md.segs.getLast? with
  | none => false
  | some n =>
    d.md.segs.dropLast.all (fun s => fileOK d s false) && chainOK d.md.segs && nodupB (d.md.segs.map (·.id)) &&
    d.md.segs.all (fun s => decide (s.id < d.md.nextID)) && decide (n.min = n.base) && decide (1 ≤ n.base)

def fextraB (p : Proc) : Bool :=
  match p.frozen with
  | none => fextraRunB p.disk
  | some _ => fextraStopB p.disk

/-- the invariant of a (possibly faulted) process between calls -/
def FInvS (p : Proc) : Prop := FInv p ∧ fextraB p = true

/-- executable form (what the correspondence harness evaluates) -/
def finvSB (p : Proc) : Bool := finvB p && fextraB p

end RaftWal.Fault
