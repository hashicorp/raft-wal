/-
  Proofs/Segment/Recover.lean — `recoverTail` through its scan result (`scanFold`); recovery of a README layout
  followed by zeros.
-/
import RaftWal.Proofs.Segment.Read
namespace RaftWal
open Spec (Acc Batch addEntry addBatch)

theorem Fr.entry_fh (p : Bytes) : (Fr.entry p).fh = { typ := 1, len := p.length, crc := 0 } := rfl
theorem Fr.index_fh (os : List Nat) : (Fr.index os).fh = { typ := 2, len := ((os.map (Spec.le 4)).flatten).length, crc := 0 } := rfl
theorem Fr.commit_fh (c : Nat) : (Fr.commit c).fh = { typ := 3, len := 0, crc := c } := rfl

theorem foldl_recStep_entries (ps : List Bytes) (off : Nat) (ra : RecAcc) :
    (scanOf off (ps.map Fr.entry)).foldl recStep ra
      = { ra with offsets := ((offs off ps).map u32).reverse ++ ra.offsets } := by
  induction ps generalizing off ra with
  | nil => simp [scanOf, offs]
  | cons p ps ih =>
    rw [List.map_cons, scanOf, List.foldl_cons, Fr.entry_enc, specEntryFrame_length, ih]
    simp [recStep, Fr.entry_fh, frameEntry, offs]

theorem recStep_index (ra : RecAcc) (os : List Nat) (off : Nat) :
    recStep ra ((Fr.index os).fh, off) = { ra with pendingIndex := off + 8 } := by
  simp [recStep, Fr.index_fh, frameEntry, frameIndex, frameHeaderLen]

theorem recStep_commit (ra : RecAcc) (c : Nat) (off : Nat) :
    recStep ra ((Fr.commit c).fh, off)
      = { ra with commits := { crc := c, offset := off, crcStart := ra.crcStart, offsetsLen := ra.offsets.length,
                               indexStart := ra.pendingIndex } :: ra.commits
                , crcStart := off + 8
                , pendingIndex := 0 } := by
  simp [recStep, Fr.commit_fh, frameEntry, frameIndex, frameCommit, frameHeaderLen]

theorem foldl_recStep_batch (a : Acc) (b : Batch) (ra : RecAcc) :
    (scanOf a.bytes.length (batchFrames a b)).foldl recStep ra
      = { offsets := ((offs a.bytes.length b.payloads).map u32).reverse ++ ra.offsets
        , pendingIndex := 0
        , crcStart := (batchBody a b).length + 8
        , commits := { crc := (batchCrc a b).toNat, offset := (batchBody a b).length,
                       crcStart := ra.crcStart,
                       offsetsLen := b.payloads.length + ra.offsets.length,
                       indexStart := if b.sealing then a.bytes.length + (encEntries b.payloads).length + 8
                                     else ra.pendingIndex } :: ra.commits } := by
  rw [batchFrames, scanOf_append, List.foldl_append, foldl_recStep_entries, ← encEntries_eq_encAll,
    scanOf_append, List.foldl_append]
  cases hs : b.sealing
  · simp [scanOf, encAll, recStep_commit, batchBody, idxPart, hs]
  · simp [scanOf, encAll, recStep_commit, recStep_index, batchBody, idxPart, hs, Fr.index_enc]
    exact Nat.add_assoc _ _ _

/-- the layout fold and the recovery fold agree at batch boundaries (inside a sealing batch `pendingIndex` is set),
    which is why the lemmas below step by whole batches -/
structure RecRel (a : Acc) (ra : RecAcc) : Prop where
  offsEq : ra.offsets = a.offsets.reverse
  cs : ra.crcStart = a.commitStart
  pend : ra.pendingIndex = 0
  csle : a.commitStart ≤ a.bytes.length

theorem map_u32_eq (l : List Nat) (h : ∀ o ∈ l, o < 2^32) : l.map u32 = l := by
  induction l with
  | nil => rfl
  | cons o l ih =>
    rw [List.map_cons, ih (fun x hx => h x (List.mem_cons_of_mem _ hx))]
    congr 1
    exact Nat.mod_eq_of_lt (h o List.mem_cons_self)

theorem map_u32_offs (a : Acc) (b : Batch) (h : (addBatch a b).bytes.length < 2^32) :
    (offs a.bytes.length b.payloads).map u32 = offs a.bytes.length b.payloads := by
  apply map_u32_eq
  intro o ho
  rw [addBatch_length] at h
  exact Nat.lt_of_le_of_lt (Nat.le_trans (Nat.le_add_right o 8) (Nat.le_trans (offs_bound _ _ o ho)
    (Nat.le_trans (batchBody_length_ge a b) (Nat.le_add_right _ 8)))) h

theorem RecRel.step {a ra} (h : RecRel a ra) (b : Batch) (hlt : (addBatch a b).bytes.length < 2^32) :
    RecRel (addBatch a b) ((scanOf a.bytes.length (batchFrames a b)).foldl recStep ra) := by
  rw [foldl_recStep_batch, map_u32_offs a b hlt]
  refine ⟨?_, ?_, rfl, ?_⟩
  · rw [addBatch_eq]; simp [h.offsEq]
  · rw [addBatch_eq]
  · rw [addBatch_eq]; simp

theorem RecRel.foldl {a ra} (h : RecRel a ra) (bs : List Batch) (hlt : (bs.foldl addBatch a).bytes.length < 2^32) :
    RecRel (bs.foldl addBatch a) ((scanOf a.bytes.length (allFrames a bs)).foldl recStep ra) := by
  induction bs generalizing a ra with
  | nil => simpa [allFrames, scanOf] using h
  | cons b bs ih =>
    rw [List.foldl_cons] at hlt ⊢
    have hb : (addBatch a b).bytes.length < 2^32 := Nat.lt_of_le_of_lt (foldl_addBatch_length_ge _ bs) hlt
    rw [allFrames, scanOf_append, List.foldl_append]
    have := ih (h.step b hb) hlt
    rwa [addBatch_bytes, List.length_append] at this

/-- what `recoverTail` knows of the file after its scan -/
def scanFold (file : Bytes) : RecAcc := (scanFrames file (scanFuel file) fileHeaderLen).foldl recStep {}

/-- the writer recovery builds from the offsets seen and the commit it settles on -/
def recW (info : SegInfo) (offsets : List Nat) (c : CommitInfo) : Writer :=
  { Writer.fresh info with
      writeOffset := u32 (c.offset + frameHeaderLen), indexStart := c.indexStart,
      offsets := offsets.take c.offsetsLen,
      commitIdx := commitIdxOf info.base (offsets.take c.offsetsLen) }

theorem recoverTail_some (info : SegInfo) (file : Bytes) (ra : RecAcc) (c : CommitInfo)
    (h1 : scanFold file = ra)
    (hc : ra.commits.find? (commitValid file) = some c) :
    recoverTail info file =
      if validateFileHeader (scanHeader file) info.hdr
      then .ok (recW info ra.offsets.reverse c, clearStale file (u32 (c.offset + frameHeaderLen)))
      else .error .corrupt := by
  simp only [scanFold] at h1
  simp only [recoverTail, readThroughSegment, h1, hc, recW]

theorem recoverTail_none (info : SegInfo) (file : Bytes) (ra : RecAcc)
    (h1 : scanFold file = ra)
    (hc : ra.commits.find? (commitValid file) = none) :
    recoverTail info file = .ok ((Writer.fresh info).initEmpty, clearStale file 0) := by
  simp only [scanFold] at h1
  simp only [recoverTail, readThroughSegment, h1, hc]

theorem recW_offsets_ext (info : SegInfo) (extra offs : List Nat) (c : CommitInfo) (h : c.offsetsLen ≤ offs.length) :
    recW info (extra ++ offs).reverse c = recW info offs.reverse c := by
  have : (extra ++ offs).reverse.take c.offsetsLen = offs.reverse.take c.offsetsLen := by
    rw [List.reverse_append, List.take_append_of_le_length (by simpa using h)]
  simp only [recW, this]

theorem recoverTail_zeros (info : SegInfo) (n : Nat) :
    recoverTail info (zeros n) = .ok ((Writer.fresh info).initEmpty, zeros n) := by
  have hstop : StopTail ((zeros n).drop fileHeaderLen) := by
    rw [zeros, List.drop_replicate]; exact stopTail_zeros _
  rw [recoverTail_none info (zeros n) {} (by rw [scanFold, scanFrames_stop_at _ _ _ hstop]; rfl) rfl]
  simp [clearStale, zeros]

theorem scanFold_frames (hd : Bytes) (hlen : hd.length = 32) (F0 gs : List Fr) (hwf0 : ∀ f ∈ F0, f.WF)
    (hwfg : ∀ f ∈ gs, f.WF) (tail : Bytes) (h : StopTail tail) :
    scanFold (hd ++ (encAll F0 ++ (encAll gs ++ tail)))
      = (scanOf (32 + (encAll F0).length) gs).foldl recStep ((scanOf 32 F0).foldl recStep {}) := by
  have hwf : ∀ f ∈ F0 ++ gs, f.WF := fun f hf => (List.mem_append.mp hf).elim (hwf0 f) (hwfg f)
  have := scan_stop hd hlen (F0 ++ gs) hwf tail h
  rw [encAll_append, List.append_assoc] at this
  rw [scanFold, this, scanOf_append, List.foldl_append]

theorem commitValid_layout {x y : Nat} (a : Acc) (b : Batch) (hcs : a.commitStart ≤ a.bytes.length) (rest : Bytes) :
    commitValid ((addBatch a b).bytes ++ rest)
      { crc := (batchCrc a b).toNat, offset := (batchBody a b).length, crcStart := a.commitStart,
        offsetsLen := x, indexStart := y } = true := by
  have hle : a.commitStart ≤ (batchBody a b).length :=
    Nat.le_trans hcs (Nat.le_trans (Nat.le_add_right _ _) (batchBody_length_ge a b))
  have hr : readAt ((addBatch a b).bytes ++ rest) a.commitStart ((batchBody a b).length - a.commitStart)
      = (batchBody a b).drop a.commitStart := by
    rw [addBatch_eq]
    simp only [readAt, List.append_assoc]
    rw [List.drop_append_of_le_length hle]
    exact take_app_len _ _ _ (by simp)
  simp only [commitValid, hr, batchCrc, List.length_drop, decide_eq_true_eq, and_self]

theorem fold_batch_commit (A : Acc) (B : Batch) (ra1 : RecAcc) (h : RecRel A ra1) :
    ∃ c' extra,
      ((scanOf A.bytes.length (batchFrames A B)).foldl recStep ra1).commits = c' :: ra1.commits
      ∧ ((scanOf A.bytes.length (batchFrames A B)).foldl recStep ra1).offsets = extra ++ ra1.offsets
      ∧ c'.crcStart = A.commitStart
      ∧ c'.offset + 8 = (addBatch A B).bytes.length
      ∧ c'.offsetsLen ≤ ((scanOf A.bytes.length (batchFrames A B)).foldl recStep ra1).offsets.length
      ∧ ∀ tail, commitValid ((addBatch A B).bytes ++ tail) c' = true := by
  rw [foldl_recStep_batch]
  refine ⟨_, _, rfl, rfl, h.cs, (addBatch_length A B).symm, ?_, ?_⟩
  · simp
  · intro tail
    rw [h.cs]
    exact commitValid_layout A B h.csle tail

theorem fold_layout_last (a0 : Acc) (h0 : RecRel a0 {}) (xs : List Batch) (lb : Batch)
    (hlt : ((xs ++ [lb]).foldl addBatch a0).bytes.length < 2^32) :
    ∃ c1 rest,
      ((scanOf a0.bytes.length (allFrames a0 (xs ++ [lb]))).foldl recStep {}).commits = c1 :: rest
      ∧ c1.offset + 8 = ((xs ++ [lb]).foldl addBatch a0).bytes.length
      ∧ c1.offsetsLen ≤ ((scanOf a0.bytes.length (allFrames a0 (xs ++ [lb]))).foldl recStep {}).offsets.length
      ∧ ∀ tail, commitValid (((xs ++ [lb]).foldl addBatch a0).bytes ++ tail) c1 = true := by
  have hlt1 : (xs.foldl addBatch a0).bytes.length < 2^32 := by
    rw [List.foldl_append] at hlt
    exact Nat.lt_of_le_of_lt (foldl_addBatch_length_ge _ [lb]) hlt
  have hrel1 := h0.foldl xs hlt1
  obtain ⟨c', extra, h1, _, _, h4, h5, h6⟩ := fold_batch_commit (xs.foldl addBatch a0) lb _ hrel1
  have e : (scanOf a0.bytes.length (allFrames a0 (xs ++ [lb]))).foldl recStep {}
      = (scanOf (xs.foldl addBatch a0).bytes.length (batchFrames (xs.foldl addBatch a0) lb)).foldl recStep
          ((scanOf a0.bytes.length (allFrames a0 xs)).foldl recStep {}) := by
    rw [allFrames_append, scanOf_append, List.foldl_append, foldl_addBatch_bytes a0 xs, List.length_append]
    simp [allFrames]
  rw [e, List.foldl_append]
  exact ⟨c', _, h1, h4, h5, h6⟩

theorem header_valid (info : SegInfo) (hb : info.base < 2^64) (hi : info.id < 2^64) (hc : info.codec < 2^64)
    (rest : Bytes) :
    validateFileHeader (scanHeader ((acc0 info).bytes ++ rest)) info.hdr = true := by
  rw [acc0, scanHeader_specHeader _ _ _ hb hi hc]
  simp [validateFileHeader, SegInfo.hdr]

theorem clearStale_append_zeros (Y : Bytes) (k n : Nat) (h : Y.length = n) : clearStale (Y ++ zeros k) n = Y ++ zeros k := by
  subst h; simp [clearStale, zeros]

theorem recover_layout_from (info : SegInfo) (a0 : Acc) (h32 : a0.bytes.length = 32) (h0 : RecRel a0 {})
    (hhdr : ∀ rest, validateFileHeader (scanHeader (a0.bytes ++ rest)) info.hdr = true)
    (xs : List Batch) (lb : Batch) (k : Nat) (A1 A : Acc) (hA1 : A1 = xs.foldl addBatch a0) (hA : A = addBatch A1 lb)
    (hlt : A.bytes.length < 2^32) :
    recoverTail info (A.bytes ++ zeros k) = .ok
      ({ Writer.fresh info with
          writeOffset := A.bytes.length,
          indexStart := if lb.sealing then A1.bytes.length + (encEntries lb.payloads).length + 8 else 0,
          offsets := A.offsets,
          commitIdx := commitIdxOf info.base A.offsets },
       A.bytes ++ zeros k) := by
  have hAlen : A.bytes.length = (batchBody A1 lb).length + 8 := by rw [hA, addBatch_length]
  have hAoff : A.offsets = A1.offsets ++ offs A1.bytes.length lb.payloads := by rw [hA, addBatch_eq]
  have hlt1 : A1.bytes.length < 2^32 := Nat.lt_of_le_of_lt (hA ▸ foldl_addBatch_length_ge A1 [lb]) hlt
  have hrel1 : RecRel A1 ((scanOf 32 (allFrames a0 xs)).foldl recStep {}) := by
    have := h0.foldl xs (hA1 ▸ hlt1)
    rwa [h32, ← hA1] at this
  -- the file is header, frames of `xs`, frames of `lb`, zeros; the scan folds over exactly these frames
  have hfile : A.bytes ++ zeros k
      = a0.bytes ++ (encAll (allFrames a0 xs) ++ (encAll (batchFrames A1 lb) ++ zeros k)) := by
    rw [hA, addBatch_bytes, hA1, foldl_addBatch_bytes]; simp only [List.append_assoc]
  have hwf : ∀ f ∈ allFrames a0 xs ++ batchFrames A1 lb, f.WF := by
    have := allFrames_wf a0 (xs ++ [lb]) (by rw [List.foldl_append, ← hA1]; exact (hA ▸ hlt : (addBatch A1 lb).bytes.length < 2^32))
    rwa [allFrames_append, allFrames_singleton, ← hA1] at this
  have hsf := scanFold_frames a0.bytes h32 (allFrames a0 xs) (batchFrames A1 lb)
    (fun f hf => hwf f (List.mem_append_left _ hf)) (fun f hf => hwf f (List.mem_append_right _ hf)) (zeros k)
    (stopTail_zeros k)
  have hpos : 32 + (encAll (allFrames a0 xs)).length = A1.bytes.length := by
    rw [hA1, foldl_addBatch_bytes, List.length_append, h32]
  rw [← hfile, hpos, foldl_recStep_batch, map_u32_offs A1 lb (hA ▸ hlt)] at hsf
  generalize (scanOf 32 (allFrames a0 xs)).foldl recStep {} = ra1 at hrel1 hsf
  have hcv := commitValid_layout (x := lb.payloads.length + ra1.offsets.length)
    (y := if lb.sealing then A1.bytes.length + (encEntries lb.payloads).length + 8 else ra1.pendingIndex)
    A1 lb hrel1.csle (zeros k)
  rw [← hA, ← hrel1.cs] at hcv
  have hu : u32 ((batchBody A1 lb).length + frameHeaderLen) = A.bytes.length :=
    hAlen ▸ Nat.mod_eq_of_lt (hAlen ▸ hlt)
  have htake : A.offsets.take (lb.payloads.length + A1.offsets.reverse.length) = A.offsets := by
    apply List.take_of_length_le
    rw [hAoff, List.length_append, offs_length, List.length_reverse, Nat.add_comm]
    exact Nat.le_refl _
  rw [recoverTail_some info _ _ _ hsf (List.find?_cons_of_pos hcv), if_pos (hfile ▸ hhdr _)]
  simp only [recW, hu, hrel1.pend, hrel1.offsEq, List.reverse_append, List.reverse_reverse, ← hAoff, htake]
  rw [clearStale_append_zeros _ _ _ rfl]

theorem recover_layout (info : SegInfo) (hb : info.base < 2^64) (hi : info.id < 2^64) (hc : info.codec < 2^64)
    (xs : List Batch) (lb : Batch) (k : Nat)
    (hlt : (Spec.layoutAcc info.base info.id info.codec (xs ++ [lb])).bytes.length < 2^32) :
    let A := Spec.layoutAcc info.base info.id info.codec (xs ++ [lb])
    let A1 := Spec.layoutAcc info.base info.id info.codec xs
    recoverTail info (A.bytes ++ zeros k) = .ok
      ({ Writer.fresh info with
          writeOffset := A.bytes.length,
          indexStart := if lb.sealing then A1.bytes.length + (encEntries lb.payloads).length + 8 else 0,
          offsets := A.offsets,
          commitIdx := commitIdxOf info.base A.offsets },
       A.bytes ++ zeros k) :=
  recover_layout_from info (acc0 info) (specHeader_length _ _ _) ⟨rfl, rfl, rfl, Nat.zero_le _⟩
    (header_valid info hb hi hc) xs lb k _ _ rfl (List.foldl_append ..) hlt

end RaftWal
