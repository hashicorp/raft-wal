/-
  Proofs/Segment/Torn.lean — an append torn by power loss: the image of the in-flight write chunk by chunk
  (`tornFrom`), the frames the scan still sees in it, the two ways recovery can settle (`torn_cases`).
-/
import RaftWal.Proofs.Segment.Run
import RaftWal.Proofs.Segment.Recover
namespace RaftWal
open Spec (Acc Batch addEntry addBatch)
/-- `O` sits at position `k` relative to the start of the write; byte `i` of it survives iff chunk
    `(k+i)/8` landed, otherwise the zero byte that was there before remains -/
def tornFrom (m : Nat → Bool) (k : Nat) (O : Bytes) : Bytes :=
  (O.zipIdx k).map fun x => if m (x.2 / 8) then x.1 else 0

@[simp] theorem tornFrom_length (m : Nat → Bool) (k : Nat) (O : Bytes) : (tornFrom m k O).length = O.length := by
  simp [tornFrom]

@[simp] theorem tornFrom_nil (m : Nat → Bool) (k : Nat) : tornFrom m k [] = [] := rfl

theorem tornFrom_cons (m : Nat → Bool) (k : Nat) (x : UInt8) (O : Bytes) :
    tornFrom m k (x :: O) = (if m (k / 8) then x else 0) :: tornFrom m (k + 1) O := by
  simp [tornFrom, List.zipIdx_cons]

theorem tornFrom_append (m : Nat → Bool) (k : Nat) (X Y : Bytes) :
    tornFrom m k (X ++ Y) = tornFrom m k X ++ tornFrom m (k + X.length) Y := by
  induction X generalizing k with
  | nil => simp
  | cons x X ih =>
    rw [List.cons_append, tornFrom_cons, tornFrom_cons, ih, List.cons_append, List.length_cons,
      Nat.add_right_comm k 1 X.length]
    rfl

theorem tornFrom_true (k : Nat) (O : Bytes) : tornFrom (fun _ => true) k O = O := by
  induction O generalizing k with
  | nil => rfl
  | cons x O ih => rw [tornFrom_cons, ih]; rfl

theorem tornFrom_false (k : Nat) (O : Bytes) : tornFrom (fun _ => false) k O = zeros O.length := by
  induction O generalizing k with
  | nil => rfl
  | cons x O ih => rw [tornFrom_cons, ih]; rfl

/-! reading with default 0: bounds play no role behind the end of a list or inside zeros -/
theorem getD_app_lt {α} (a b : List α) (d : α) {i : Nat} (h : i < a.length) : (a ++ b).getD i d = a.getD i d := by
  rw [List.getD_eq_getElem?_getD, List.getD_eq_getElem?_getD, List.getElem?_append_left h]

theorem getD_app_ge {α} (a b : List α) (d : α) {i : Nat} (h : a.length ≤ i) :
    (a ++ b).getD i d = b.getD (i - a.length) d := by
  rw [List.getD_eq_getElem?_getD, List.getD_eq_getElem?_getD, List.getElem?_append_right h]

theorem getD_zeros (k i : Nat) : (zeros k).getD i 0 = 0 := by
  rw [List.getD_eq_getElem?_getD, zeros, List.getElem?_replicate]; split <;> rfl

theorem tornFrom_getD (m : Nat → Bool) (k : Nat) (O : Bytes) (i : Nat) :
    (tornFrom m k O).getD i 0 = if m ((k + i) / 8) then O.getD i 0 else 0 := by
  induction O generalizing k i with
  | nil => simp
  | cons x O ih =>
    rw [tornFrom_cons]
    cases i with
    | zero => rfl
    | succ i => rw [List.getD_cons_succ, List.getD_cons_succ, ih, Nat.add_right_comm, Nat.add_assoc]

theorem tearImage_length (before after : Bytes) (off len : Nat) (mask : Nat → Bool) :
    (tearImage before after off len mask).length = after.length := by
  simp [tearImage]

theorem tearImage_getElem (before after : Bytes) (off len : Nat) (mask : Nat → Bool) (i : Nat)
    (hi : i < (tearImage before after off len mask).length) :
    (tearImage before after off len mask)[i]
      = if off ≤ i ∧ i < off + len ∧ mask ((i - off) / 8) then after.getD i 0 else before.getD i 0 := by
  simp [tearImage]

theorem getD_of_lt (l : Bytes) (i : Nat) (h : i < l.length) : l.getD i 0 = l[i] := by
  simp [List.getD_eq_getElem?_getD, h]

theorem getD_of_ge (l : Bytes) (i : Nat) (h : l.length ≤ i) : l.getD i 0 = 0 := by
  simp [List.getD_eq_getElem?_getD, h]

theorem tearImage_getD (before after : Bytes) (off len : Nat) (mask : Nat → Bool) (i : Nat) (hi : i < after.length) :
    (tearImage before after off len mask).getD i 0
      = if off ≤ i ∧ i < off + len ∧ mask ((i - off) / 8) then after.getD i 0 else before.getD i 0 := by
  have hl : i < (tearImage before after off len mask).length := by rw [tearImage_length]; exact hi
  rw [getD_of_lt _ _ hl, tearImage_getElem]

theorem getD_append_zeros (f : Bytes) (k i : Nat) : (f ++ zeros k).getD i 0 = f.getD i 0 := by
  by_cases h : i < f.length
  · simp [List.getD_eq_getElem?_getD, List.getElem?_append_left h]
  · rw [getD_of_ge f i (by omega)]
    simp only [List.getD_eq_getElem?_getD, List.getElem?_append_right (Nat.le_of_not_lt h), zeros]
    by_cases h2 : i - f.length < k
    · simp [h2]
    · simp [h2]

theorem tearImage_eq (before after P O : Bytes) (kb ka off len : Nat) (mask : Nat → Bool)
    (hb : before = P ++ zeros kb) (ha : after = P ++ (O ++ zeros ka)) (ho : off = P.length) (hl : len = O.length) :
    tearImage before after off len mask = P ++ (tornFrom mask 0 O ++ zeros ka) := by
  subst hb ha ho hl
  apply List.ext_getElem
  · simp [tearImage]
  · intro i h1 h2
    have e : (P ++ (tornFrom mask 0 O ++ zeros ka))[i] = (P ++ (tornFrom mask 0 O ++ zeros ka)).getD i 0 := by
      rw [List.getD_eq_getElem?_getD, List.getElem?_eq_getElem h2]; rfl
    rw [e, tearImage_getElem]
    by_cases hP : i < P.length
    · rw [if_neg (fun h => Nat.not_lt.mpr h.1 hP), getD_app_lt _ _ _ hP, getD_app_lt _ _ _ hP]
    · have hP := Nat.le_of_not_lt hP
      rw [getD_app_ge _ _ _ hP, getD_app_ge _ _ _ hP, getD_app_ge _ _ _ hP, getD_zeros]
      by_cases hO : i - P.length < O.length
      · rw [getD_app_lt _ _ _ hO, getD_app_lt _ _ _ (by rw [tornFrom_length]; exact hO), tornFrom_getD, Nat.zero_add]
        by_cases hm : mask ((i - P.length) / 8) = true
        · rw [if_pos ⟨hP, (Nat.sub_lt_iff_lt_add' hP).mp hO, hm⟩, if_pos hm]
        · rw [if_neg (fun h => hm h.2.2), if_neg hm]
      · have hO := Nat.le_of_not_lt hO
        rw [if_neg (fun h => Nat.not_lt.mpr hO ((Nat.sub_lt_iff_lt_add' hP).mpr h.2.1)), getD_app_ge _ _ _ (by rw [tornFrom_length]; exact hO), getD_zeros]

theorem tornFrom_same_chunk (m : Nat → Bool) (q k : Nat) (c : Bytes) (h : ∀ i, i < c.length → (k + i) / 8 = q) :
    tornFrom m k c = if m q then c else zeros c.length := by
  induction c generalizing k with
  | nil => rw [tornFrom_nil]; split <;> rfl
  | cons x c ih =>
    have h0 : k / 8 = q := h 0 (Nat.zero_lt_succ _)
    rw [tornFrom_cons, h0, ih (k + 1) (fun i hi => by rw [Nat.add_assoc, Nat.add_comm 1 i]; exact h (i + 1) (Nat.succ_lt_succ hi))]
    split <;> rfl

theorem tornFrom_chunk (m : Nat → Bool) (k : Nat) (c : Bytes) (hc : c.length = 8) (hk : 8 ∣ k) :
    tornFrom m k c = if m (k / 8) then c else zeros 8 := by
  obtain ⟨q, rfl⟩ := hk
  rw [tornFrom_same_chunk m q (8 * q) c (fun i hi => by
    rw [Nat.mul_add_div (by decide), Nat.div_eq_of_lt (hc ▸ hi), Nat.add_zero]), hc,
    Nat.mul_div_cancel_left q (by decide)]

/-- the frame as it is on disk when its header chunk landed: same header, body chunkwise torn -/
def Fr.torn (m : Nat → Bool) (k : Nat) (f : Fr) : Fr := ⟨f.typ, f.val, tornFrom m (k + 8) f.body⟩

/-- the frames of a write as they are on disk if every header chunk landed; `k` is the offset of the first frame
    from the start of the write -/
def tornFrs (m : Nat → Bool) : Nat → List Fr → List Fr
  | _, [] => []
  | k, f :: fs => f.torn m k :: tornFrs m (k + f.enc.length) fs

theorem Fr.torn_fh (m : Nat → Bool) (k : Nat) (f : Fr) : (f.torn m k).fh = f.fh := rfl

theorem Fr.torn_enc_length (m : Nat → Bool) (k : Nat) (f : Fr) : (f.torn m k).enc.length = f.enc.length := by
  simp [Fr.enc, Fr.torn]

theorem Fr.torn_wf (m : Nat → Bool) (k : Nat) (f : Fr) (hf : f.WF) : (f.torn m k).WF :=
  ⟨hf.typ, hf.val, by
    have := hf.body
    simp only [Fr.torn, Fr.len, tornFrom_length] at this ⊢
    exact this⟩

theorem Fr.torn_nobody (m : Nat → Bool) (k : Nat) (f : Fr) (h : f.body = []) : f.torn m k = f := by
  obtain ⟨t, v, b⟩ := f
  simp only at h
  subst h; rfl

theorem scanOf_tornFrs (m : Nat → Bool) (k off : Nat) (fs : List Fr) :
    scanOf off (tornFrs m k fs) = scanOf off fs := by
  induction fs generalizing k off with
  | nil => rfl
  | cons f fs ih => simp only [tornFrs, scanOf, Fr.torn_fh, Fr.torn_enc_length, ih]

theorem tornFrs_wf (m : Nat → Bool) (k : Nat) (fs : List Fr) (h : ∀ f ∈ fs, f.WF) : ∀ f ∈ tornFrs m k fs, f.WF := by
  induction fs generalizing k with
  | nil => intro f hf; cases hf
  | cons g fs ih =>
    intro f hf
    simp only [tornFrs, List.mem_cons] at hf
    rcases hf with rfl | hf
    · exact Fr.torn_wf m k g (h g List.mem_cons_self)
    · exact ih _ (fun x hx => h x (List.mem_cons_of_mem _ hx)) f hf

theorem encAll_tornFrs_length (m : Nat → Bool) (k : Nat) (fs : List Fr) :
    (encAll (tornFrs m k fs)).length = (encAll fs).length := by
  induction fs generalizing k with
  | nil => rfl
  | cons f fs ih => simp only [tornFrs, encAll, List.length_append, Fr.torn_enc_length, ih]

theorem tornFrs_append (m : Nat → Bool) (k : Nat) (a b : List Fr) :
    tornFrs m k (a ++ b) = tornFrs m k a ++ tornFrs m (k + (encAll a).length) b := by
  induction a generalizing k with
  | nil => simp [tornFrs, encAll]
  | cons f fs ih => simp only [List.cons_append, tornFrs, encAll, ih, List.length_append, Nat.add_assoc]

theorem Fr.enc_dvd (f : Fr) (hf : f.WF) : 8 ∣ f.enc.length := by
  rw [Fr.enc_length f hf]; exact encodedFrameSize_dvd _

theorem tornFrom_enc (m : Nat → Bool) (k : Nat) (f : Fr) (hk : 8 ∣ k) :
    tornFrom m k f.enc = if m (k / 8) then (f.torn m k).enc else zeros 8 ++ tornFrom m (k + 8) f.body := by
  rw [Fr.enc, tornFrom_append, tornFrom_chunk m k _ (specFrameHeader_length _ _) hk, specFrameHeader_length]
  split <;> rfl

/-- a chunkwise torn frame sequence: either all header chunks landed (then it is a sequence of frames with the
    same headers), or the scan meets a zero header in front of frame `j` -/
theorem torn_frames (m : Nat → Bool) (fs : List Fr) (hwf : ∀ f ∈ fs, f.WF) (k : Nat) (hk : 8 ∣ k) :
    tornFrom m k (encAll fs) = encAll (tornFrs m k fs)
    ∨ ∃ j junk, j < fs.length ∧ tornFrom m k (encAll fs) = encAll (tornFrs m k (fs.take j)) ++ (zeros 8 ++ junk) := by
  induction fs generalizing k with
  | nil => left; rfl
  | cons f fs ih =>
    have hf := hwf f List.mem_cons_self
    have hfs : ∀ g ∈ fs, g.WF := fun g hg => hwf g (List.mem_cons_of_mem _ hg)
    have hk' : 8 ∣ k + f.enc.length := Nat.dvd_add hk (f.enc_dvd hf)
    rw [encAll, tornFrom_append, tornFrom_enc m k f hk]
    by_cases hm : m (k / 8) = true
    · rw [if_pos hm]
      rcases ih hfs _ hk' with h | ⟨j, junk, hj, h⟩
      · left; rw [h]; rfl
      · right
        refine ⟨j + 1, junk, Nat.succ_lt_succ hj, ?_⟩
        rw [h, List.take_succ_cons, tornFrs, encAll, List.append_assoc]
    · rw [if_neg hm]
      right
      exact ⟨0, tornFrom m (k + 8) f.body ++ tornFrom m (k + f.enc.length) (encAll fs), by simp,
        by simp [tornFrs, encAll]⟩


theorem recStep_noCommit (ra : RecAcc) (x : FrameHeader × Nat) (h : x.1.typ ≠ frameCommit) :
    (recStep ra x).commits = ra.commits ∧ ∃ extra, (recStep ra x).offsets = extra ++ ra.offsets := by
  obtain ⟨fh, off⟩ := x
  rw [recStep, if_neg h]
  by_cases h1 : fh.typ = frameEntry
  · rw [if_pos h1]; exact ⟨rfl, [u32 off], rfl⟩
  · rw [if_neg h1]; split <;> exact ⟨rfl, [], rfl⟩

theorem foldl_recStep_noCommit (fs : List Fr) (h : ∀ f ∈ fs, f.typ ≠ 3) (off : Nat) (ra : RecAcc) :
    ((scanOf off fs).foldl recStep ra).commits = ra.commits
    ∧ ∃ extra, ((scanOf off fs).foldl recStep ra).offsets = extra ++ ra.offsets := by
  induction fs generalizing off ra with
  | nil => exact ⟨rfl, [], rfl⟩
  | cons f fs ih =>
    obtain ⟨h1, e1, h2⟩ := recStep_noCommit ra (f.fh, off) (by rw [Fr.fh_typ]; exact h f List.mem_cons_self)
    obtain ⟨h3, e2, h4⟩ := ih (fun g hg => h g (List.mem_cons_of_mem _ hg)) (off + f.enc.length) (recStep ra (f.fh, off))
    exact ⟨h3.trans h1, e2 ++ e1, by rw [List.append_assoc, ← h2]; exact h4⟩

theorem batchFrames_split (a : Acc) (b : Batch) :
    ∃ pre, batchFrames a b = pre ++ [Fr.commit (batchCrc a b).toNat] ∧ ∀ f ∈ pre, f.typ ≠ 3 := by
  refine ⟨b.payloads.map Fr.entry ++ (if b.sealing then [Fr.index (a.offsets ++ offs a.bytes.length b.payloads)] else []),
    by simp only [batchFrames, List.append_assoc], ?_⟩
  intro f hf
  rcases List.mem_append.mp hf with hf | hf
  · obtain ⟨p, _, rfl⟩ := List.mem_map.mp hf
    show (1 : Nat) ≠ 3; decide
  · split at hf
    · rw [List.mem_singleton.mp hf]; show (2 : Nat) ≠ 3; decide
    · cases hf

theorem foldl_recStep_partial (a : Acc) (b : Batch) (j : Nat) (hj : j < (batchFrames a b).length) (off : Nat) (ra : RecAcc) :
    ((scanOf off ((batchFrames a b).take j)).foldl recStep ra).commits = ra.commits
    ∧ ∃ extra, ((scanOf off ((batchFrames a b).take j)).foldl recStep ra).offsets = extra ++ ra.offsets := by
  obtain ⟨pre, hpre, hty⟩ := batchFrames_split a b
  rw [hpre, List.length_append, List.length_singleton] at hj
  rw [hpre, List.take_append_of_le_length (Nat.le_of_lt_succ hj)]
  exact foldl_recStep_noCommit _ (fun f hf => hty f (List.mem_of_mem_take hf)) off ra

theorem commitValid_crc (f g : Bytes) (c : CommitInfo) (hf : commitValid f c = true) (hg : commitValid g c = true) :
    crc32c (readAt f c.crcStart (c.offset - c.crcStart)) = crc32c (readAt g c.crcStart (c.offset - c.crcStart)) := by
  simp only [commitValid, decide_eq_true_eq] at hf hg
  exact UInt32.toNat_inj.mp (hf.2.trans hg.2.symm)

/-- recovery settles on a commit of the acknowledged run (the in-flight commit frame was not reached or does not
    validate), or on the in-flight commit, which then validates for the image and for the complete file alike.
    `hd`: the 32 bytes where the file header is (torn too when the first batch is in flight); `k`: where the batch
    starts inside the write (length of the pending buffer). -/
theorem torn_cases (a0 : Acc) (h0 : a0.bytes.length = 32) (xs : List Batch) (B : Batch)
    (hlt : ((xs ++ [B]).foldl addBatch a0).bytes.length < 2^32)
    (hd : Bytes) (hdlen : hd.length = 32) (m : Nat → Bool) (k : Nat) (hk : 8 ∣ k) (k' : Nat)
    (ra1 : RecAcc) (hra1 : (scanOf 32 (allFrames a0 xs)).foldl recStep {} = ra1)
    (hrel : RecRel (xs.foldl addBatch a0) ra1)
    (img file' : Bytes)
    (himg : img = hd ++ (encAll (allFrames a0 xs) ++ (tornFrom m k (encAll (batchFrames (xs.foldl addBatch a0) B)) ++ zeros k')))
    (hfile' : file' = (addBatch (xs.foldl addBatch a0) B).bytes ++ zeros k') :
    (∃ extra, (scanFold img).offsets = extra ++ ra1.offsets
      ∧ (scanFold img).commits.find? (commitValid img) = ra1.commits.find? (commitValid img))
    ∨ (∃ c', scanFold file' = scanFold img
      ∧ (scanFold img).commits.find? (commitValid img) = some c'
      ∧ (scanFold img).commits.find? (commitValid file') = some c'
      ∧ c'.offset + 8 = (addBatch (xs.foldl addBatch a0) B).bytes.length
      ∧ crc32c (readAt img (xs.foldl addBatch a0).commitStart
            ((addBatch (xs.foldl addBatch a0) B).bytes.length - 8 - (xs.foldl addBatch a0).commitStart))
          = crc32c (readAt file' (xs.foldl addBatch a0).commitStart
            ((addBatch (xs.foldl addBatch a0) B).bytes.length - 8 - (xs.foldl addBatch a0).commitStart))
      ∧ ∃ X, X.length + 8 = (encAll (batchFrames (xs.foldl addBatch a0) B)).length
          ∧ tornFrom m k (encAll (batchFrames (xs.foldl addBatch a0) B))
              = X ++ (encAll (batchFrames (xs.foldl addBatch a0) B)).drop X.length) := by
  subst himg hfile'
  generalize hA : xs.foldl addBatch a0 = A at *
  have hwf : ∀ f ∈ allFrames a0 (xs ++ [B]), f.WF := allFrames_wf a0 _ hlt
  rw [allFrames_append, allFrames_singleton, hA] at hwf
  have hwf0 : ∀ f ∈ allFrames a0 xs, f.WF := fun f hf => hwf f (List.mem_append_left _ hf)
  have hwfs : ∀ f ∈ batchFrames A B, f.WF := fun f hf => hwf f (List.mem_append_right _ hf)
  have hAlen : 32 + (encAll (allFrames a0 xs)).length = A.bytes.length := by
    rw [← hA, foldl_addBatch_bytes, List.length_append, h0]
  -- the scan over any header, the frames of `xs`, and frames `gs` in place of the last batch
  have hscan : ∀ (h' : Bytes) (gs : List Fr) (tail : Bytes), h'.length = 32 → (∀ f ∈ gs, f.WF) → StopTail tail →
      scanFold (h' ++ (encAll (allFrames a0 xs) ++ (encAll gs ++ tail)))
        = (scanOf A.bytes.length gs).foldl recStep ra1 := by
    intro h' gs tail hl hg ht
    rw [scanFold_frames h' hl _ _ hwf0 hg _ ht, hra1, hAlen]
  rcases torn_frames m (batchFrames A B) hwfs k hk with h | ⟨j, junk, hj, h⟩
  · -- all header chunks landed: the scan sees the frames of the batch, the commit frame among them
    obtain ⟨c', extra, h1, h2, h3, h4, _, h6⟩ := fold_batch_commit A B ra1 hrel
    obtain ⟨pre, hpre, _⟩ := batchFrames_split A B
    have e := hscan hd _ (zeros k') hdlen (tornFrs_wf m k _ hwfs) (stopTail_zeros k')
    rw [scanOf_tornFrs, ← h] at e
    have e' := hscan a0.bytes _ _ h0 hwfs (stopTail_zeros k')
    rw [← List.append_assoc, ← List.append_assoc, ← foldl_addBatch_bytes, hA, ← addBatch_bytes] at e'
    rw [e, e', h1, h2]
    by_cases hv : commitValid (hd ++ (encAll (allFrames a0 xs) ++ (tornFrom m k (encAll (batchFrames A B)) ++ zeros k'))) c' = true
    · refine Or.inr ⟨c', rfl, List.find?_cons_of_pos hv, List.find?_cons_of_pos (h6 _), h4, ?_, encAll (tornFrs m k pre), ?_, ?_⟩
      · have := commitValid_crc _ _ c' hv (h6 (zeros k'))
        rwa [h3, Nat.eq_sub_of_add_eq h4] at this
      · rw [hpre, encAll_append, List.length_append, encAll_tornFrs_length]
        simp [encAll, Fr.enc, Fr.commit]
      · rw [h, hpre, tornFrs_append, encAll_append, encAll_append, encAll_tornFrs_length, drop_app_len _ _ _ rfl]
        congr 1
    · exact Or.inl ⟨extra, rfl, List.find?_cons_of_neg hv⟩
  · -- a header chunk is missing: the scan stops in front of it, before the commit frame
    obtain ⟨h1, extra, h2⟩ := foldl_recStep_partial A B j hj A.bytes.length ra1
    have e := hscan hd _ _ hdlen
      (tornFrs_wf m k ((batchFrames A B).take j) (fun f hf => hwfs f (List.mem_of_mem_take hf)))
      (stopTail_zeros8 (junk ++ zeros k'))
    rw [scanOf_tornFrs] at e
    rw [h, List.append_assoc, List.append_assoc, e, h1, h2]
    exact Or.inl ⟨extra, rfl, rfl⟩

theorem writeAt_length_ge (file : Bytes) (off : Nat) (p : Bytes) : file.length ≤ (writeAt file off p).length := by
  have key : ∀ f : Bytes, f.length ≤ (f.take off ++ p ++ f.drop (off + p.length)).length := fun f => by
    simp only [List.length_append, List.length_take, List.length_drop]; omega
  rw [writeAt]
  split
  · exact Nat.le_trans (by rw [List.length_append]; exact Nat.le_add_right _ _) (key _)
  · exact key _

theorem append_none_length_le (w : Writer) (file : Bytes) (entries : List (Nat × Bytes)) (w' : Writer) (file' : Bytes)
    (h : w.append file entries .none = (none, w', file')) : file.length ≤ file'.length := by
  cases he : entries.isEmpty with
  | true => rw [Writer.append, if_pos he] at h; cases h; exact Nat.le_refl _
  | false =>
    rw [append_eq_prep w file entries .none he] at h
    cases hp : w.prep entries with
    | error e => rw [hp] at h; cases h
    | ok w2 => rw [hp] at h; cases h; exact writeAt_length_ge _ _ _

theorem appendAll_append (w : Writer) (file : Bytes) (next : Nat) (bs : List (List Bytes)) (w1 : Writer) (f1 : Bytes)
    (b : List Bytes) (w' : Writer) (file' : Bytes)
    (h1 : w.appendAll file next bs = some (w1, f1))
    (h2 : w1.append f1 (indexBatch (next + bs.flatten.length) b) .none = (none, w', file')) :
    w.appendAll file next (bs ++ [b]) = some (w', file') := by
  induction bs generalizing w file next with
  | nil =>
    simp only [Writer.appendAll, Option.some.injEq, Prod.mk.injEq] at h1
    obtain ⟨rfl, rfl⟩ := h1
    simp only [List.flatten_nil, List.length_nil, Nat.add_zero] at h2
    simp only [List.nil_append, Writer.appendAll, h2]
  | cons c bs ih =>
    obtain ⟨w2, f2, h3, h4⟩ := appendAll_cons_some w file next c bs _ h1
    rw [List.cons_append, Writer.appendAll, h3]
    simp only
    apply ih w2 f2 _ h4
    rw [List.flatten_cons, List.length_append, ← Nat.add_assoc] at h2
    exact h2

theorem append_none_unsealed (w : Writer) (file : Bytes) (next : Nat) (ps : List Bytes) (hps : ps ≠ []) (w' : Writer) (file' : Bytes)
    (h : w.append file (indexBatch next ps) .none = (none, w', file')) : w.indexStart = 0 := by
  by_cases h0 : w.indexStart > 0
  · rw [append_sealed w file ps next h0 hps] at h; cases h
  · exact Nat.eq_zero_of_not_pos h0


theorem torn_image {info : SegInfo} {w w' : Writer} {file file' : Bytes} {A A' : Acc} (E : Bytes)
    (h : Inv info w file A) (h' : Inv info w' file' A') (hcb : w'.commitBuf = []) (hA' : A'.bytes = A.bytes ++ E)
    (mask : Nat → Bool) :
    ∃ k' kb, file' = A'.bytes ++ zeros k'
      ∧ file = file.take w.writeOffset ++ zeros kb
      ∧ tearImage file file' w.writeOffset (w'.writeOffset - w.writeOffset) mask
          = file.take w.writeOffset ++ (tornFrom mask 0 (w.commitBuf ++ E) ++ zeros k') := by
  obtain ⟨k', hk'⟩ := file_eq_of_inv h' hcb
  have hlen' := h'.bytes_length
  rw [hcb, List.length_nil, Nat.add_zero, hA', List.length_append, h.bytes_length] at hlen'
  refine ⟨k', _, hk', h.file_split, ?_⟩
  apply tearImage_eq _ _ _ _ (file.length - w.writeOffset) k' _ _ mask h.file_split
  · rw [hk', hA', h.bytes]; simp only [List.append_assoc]
  · exact h.take_length.symm
  · rw [List.length_append, ← hlen', Nat.add_assoc, Nat.add_sub_cancel_left]


theorem eq_of_take_drop {α} (a b : List α) (n : Nat) (h1 : a.take n = b.take n) (h2 : a.drop n = b.drop n) : a = b := by
  rw [← List.take_append_drop n a, h1, h2, List.take_append_drop]

/-- if all header chunks and the commit chunk landed and the batch region is the intended one, the image is complete -/
theorem torn_region_eq (P cb E X : Bytes) (mask : Nat → Bool) (k' : Nat) (hX1 : X.length + 8 = E.length)
    (hX2 : tornFrom mask cb.length E = X ++ E.drop X.length)
    (img file' : Bytes) (himg : img = P ++ (tornFrom mask 0 (cb ++ E) ++ zeros k'))
    (hf' : file' = P ++ ((cb ++ E) ++ zeros k'))
    (hreg : readAt img P.length ((P.length + (cb ++ E).length) - 8 - P.length) = readAt file' P.length ((P.length + (cb ++ E).length) - 8 - P.length)) :
    img = file' := by
  rw [himg, hf']
  congr 2
  have hn : P.length + (cb ++ E).length - 8 - P.length = cb.length + X.length := by
    rw [List.length_append, ← hX1, ← Nat.add_assoc, ← Nat.add_assoc, Nat.add_sub_cancel, Nat.add_assoc,
      Nat.add_sub_cancel_left]
  have hle : cb.length + X.length ≤ (cb ++ E).length := by
    rw [List.length_append, ← hX1, ← Nat.add_assoc]; exact Nat.le_add_right _ _
  rw [hn, himg, hf', readAt_app _ _ _ _ rfl, readAt_app _ _ _ _ rfl,
    List.take_append_of_le_length (by rw [tornFrom_length]; exact hle), List.take_append_of_le_length hle] at hreg
  apply eq_of_take_drop _ _ (cb.length + X.length) hreg
  rw [tornFrom_append, Nat.zero_add, hX2, ← List.append_assoc, drop_app_len _ _ _ (by simp),
    ← List.drop_drop, drop_app_len _ _ _ rfl]

theorem clearStale_eq_old_append_zeros (P Z file : Bytes) (n kb : Nat) (hP : P.length = n) (hfile : file = P ++ zeros kb)
    (hlen : file.length ≤ (P ++ Z).length) :
    clearStale (P ++ Z) n = file ++ zeros ((P ++ Z).length - file.length) := by
  subst hP hfile
  simp only [List.length_append, zeros_length] at hlen
  simp only [clearStale, List.take_left', List.length_append, zeros_length, List.append_assoc]
  congr 1
  rw [zeros, zeros, zeros, List.replicate_append_replicate, Nat.add_sub_cancel_left, Nat.add_sub_add_left,
    Nat.add_sub_of_le (Nat.le_of_add_le_add_left hlen)]


end RaftWal
