/-
  Proofs/Segment/Read.lean — reading a README layout back: the README decoder yields the payloads, every entry
  frame sits at its recorded offset.
-/
import RaftWal.Proofs.Segment.Layout
namespace RaftWal
open Spec (Acc Batch addEntry addBatch)

theorem batchFrames_wf (a : Acc) (b : Batch) (h : (addBatch a b).bytes.length < 2^32) : ∀ f ∈ batchFrames a b, f.WF := by
  intro f hf
  rw [addBatch_eq] at h
  simp only [batchBody, List.length_append, specCommitFrame_length] at h
  simp only [batchFrames, List.mem_append, List.mem_map, List.mem_singleton] at hf
  rcases hf with ⟨p, hp, rfl⟩ | hf | rfl
  · have := mem_length_le_encEntries _ p hp
    exact Fr.entry_wf p (by omega)
  · cases hs : b.sealing
    · simp [hs] at hf
    · simp only [hs, if_true, List.mem_singleton] at hf
      subst hf
      simp only [hs, idxPart, if_true, specIndexFrame_length, encodedFrameSize_eq] at h
      have := roundUp8_ge (4 * (a.offsets ++ offs a.bytes.length b.payloads).length)
      exact Fr.index_wf _ (by omega)
  · exact Fr.commit_wf _

theorem allFrames_wf (a : Acc) (bs : List Batch) (h : (bs.foldl addBatch a).bytes.length < 2^32) :
    ∀ f ∈ allFrames a bs, f.WF := by
  induction bs generalizing a with
  | nil => intro f hf; cases hf
  | cons b bs ih =>
    intro f hf
    simp only [allFrames, List.mem_append] at hf
    simp only [List.foldl_cons] at h
    rcases hf with hf | hf
    · exact batchFrames_wf a b (Nat.lt_of_le_of_lt (foldl_addBatch_length_ge _ bs) h) f hf
    · exact ih _ h f hf

theorem foldl_decStep_entries (ps : List Bytes) (c p : List Bytes) :
    (ps.map Fr.entry).foldl decStep (c, p) = (c, p ++ ps) := by
  induction ps generalizing p with
  | nil => simp
  | cons q ps ih =>
    rw [List.map_cons, List.foldl_cons]
    have : decStep (c, p) (Fr.entry q) = (c, p ++ [q]) := by
      have ht : (Fr.entry q).typ = 1 := rfl
      simp [decStep, ht, Fr.entry_payload]
    rw [this, ih]; simp

theorem foldl_decStep_batch (a : Acc) (b : Batch) (c : List Bytes) :
    (batchFrames a b).foldl decStep (c, []) = (c ++ b.payloads, []) := by
  rw [batchFrames, List.foldl_append, foldl_decStep_entries, List.foldl_append]
  have h2 : ∀ s os, decStep s (Fr.index os) = s := fun s os => by
    simp [decStep, Fr.index]
  have h3 : ∀ s cr, decStep s (Fr.commit cr) = (s.1 ++ s.2, []) := fun s cr => by
    simp [decStep, Fr.commit]
  cases b.sealing <;> simp [h2, h3]

theorem foldl_decStep_all (a : Acc) (bs : List Batch) (c : List Bytes) :
    (allFrames a bs).foldl decStep (c, []) = (c ++ (bs.map (·.payloads)).flatten, []) := by
  induction bs generalizing a c with
  | nil => simp [allFrames]
  | cons b bs ih =>
    rw [allFrames, List.foldl_append, foldl_decStep_batch, ih]
    simp

theorem decode_layout (a0 : Acc) (hlen : a0.bytes.length = 32) (batches : List Batch)
    (hlt : (batches.foldl addBatch a0).bytes.length < 2^32) (k : Nat) :
    Spec.decode ((batches.foldl addBatch a0).bytes ++ zeros k) = (batches.map (·.payloads)).flatten := by
  have hwf := allFrames_wf a0 batches hlt
  have hfuel : (allFrames a0 batches).length ≤ (a0.bytes ++ (encAll (allFrames a0 batches) ++ zeros k)).length / 8 + 1 :=
    length_le_scanFuel _ _ _
  rw [foldl_addBatch_bytes, List.append_assoc, Spec.decode, drop_app_len _ _ _ hlen, ← Nat.sub_add_cancel hfuel,
    decodeBody_all _ hwf, decodeBody_zeros, foldl_decStep_all]
  rfl

def EntriesAt (bytes : Bytes) (os : List Nat) (ps : List Bytes) : Prop :=
  os.length = ps.length ∧
  ∀ x ∈ os.zip ps, ∃ pre post, bytes = pre ++ (Spec.entryFrame x.2 ++ post) ∧ pre.length = x.1

theorem EntriesAt.mono {bytes os ps} (h : EntriesAt bytes os ps) (x : Bytes) : EntriesAt (bytes ++ x) os ps := by
  refine ⟨h.1, fun y hy => ?_⟩
  obtain ⟨pre, post, h1, h2⟩ := h.2 y hy
  exact ⟨pre, post ++ x, by rw [h1]; simp only [List.append_assoc], h2⟩

theorem EntriesAt.append {bytes os ps os' ps'} (h : EntriesAt bytes os ps) (h' : EntriesAt bytes os' ps') :
    EntriesAt bytes (os ++ os') (ps ++ ps') := by
  refine ⟨by simp [h.1, h'.1], fun y hy => ?_⟩
  rw [List.zip_append h.1, List.mem_append] at hy
  rcases hy with hy | hy
  · exact h.2 y hy
  · exact h'.2 y hy

theorem entriesAt_entries (pre : Bytes) (qs : List Bytes) : EntriesAt (pre ++ encEntries qs) (offs pre.length qs) qs := by
  induction qs generalizing pre with
  | nil => exact ⟨rfl, fun y hy => by simp [offs] at hy⟩
  | cons q qs ih =>
    refine ⟨by simp, fun y hy => ?_⟩
    simp only [offs, List.zip_cons_cons, List.mem_cons] at hy
    rcases hy with rfl | hy
    · exact ⟨pre, encEntries qs, by simp only [encEntries], rfl⟩
    · have := ih (pre ++ Spec.entryFrame q)
      rw [List.length_append, specEntryFrame_length] at this
      obtain ⟨pre', post', h1, h2⟩ := this.2 y hy
      exact ⟨pre', post', by rw [← h1]; simp only [encEntries, List.append_assoc], h2⟩

theorem entriesAt_addBatch (a : Acc) (b : Batch) (ps : List Bytes) (h : EntriesAt a.bytes a.offsets ps) :
    EntriesAt (addBatch a b).bytes (addBatch a b).offsets (ps ++ b.payloads) := by
  rw [addBatch_eq]
  simp only [batchBody, List.append_assoc]
  apply EntriesAt.append
  · exact h.mono _
  · have := (entriesAt_entries a.bytes b.payloads).mono
      (idxPart b.sealing (a.offsets ++ offs a.bytes.length b.payloads) ++ Spec.commitFrame (batchCrc a b).toNat)
    simpa only [List.append_assoc] using this

theorem entriesAt_foldl (a : Acc) (bs : List Batch) (ps : List Bytes) (h : EntriesAt a.bytes a.offsets ps) :
    EntriesAt (bs.foldl addBatch a).bytes (bs.foldl addBatch a).offsets (ps ++ (bs.map (·.payloads)).flatten) := by
  induction bs generalizing a ps with
  | nil => simpa using h
  | cons b bs ih =>
    have := ih _ _ (entriesAt_addBatch a b ps h)
    simpa only [List.foldl_cons, List.map_cons, List.flatten_cons, List.append_assoc] using this

theorem EntriesAt.get {bytes os ps} (h : EntriesAt bytes os ps) (k : Nat) (hk : k < ps.length) :
    ∃ o pre post, os[k]? = some o ∧ bytes = pre ++ (Spec.entryFrame ps[k] ++ post) ∧ pre.length = o := by
  have hk' : k < os.length := by rw [h.1]; exact hk
  have hz : k < (os.zip ps).length := by rw [List.length_zip, h.1, Nat.min_self]; exact hk
  have hm : (os[k], ps[k]) ∈ os.zip ps := by
    have := List.getElem_mem hz
    rwa [List.getElem_zip] at this
  obtain ⟨pre, post, h1, h2⟩ := h.2 _ hm
  exact ⟨os[k], pre, post, List.getElem?_eq_getElem hk', h1, h2⟩

end RaftWal
