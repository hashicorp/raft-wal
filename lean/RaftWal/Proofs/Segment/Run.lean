/-
  Proofs/Segment/Run.lean — a fault-free run of the writer follows the README layout fold (invariant `Inv`).
-/
import RaftWal.Proofs.Segment.Layout
namespace RaftWal
open Spec (Acc Batch addEntry addBatch)

def ib (next k : Nat) (ps : List Bytes) : List (Nat × Bytes) := (ps.zipIdx k).map (fun (p, i) => (next + i, p))

theorem indexBatch_eq (next : Nat) (ps : List Bytes) : indexBatch next ps = ib next 0 ps := rfl

theorem ib_nil (next k : Nat) : ib next k [] = [] := rfl

theorem ib_cons (next k : Nat) (p : Bytes) (ps : List Bytes) : ib next k (p :: ps) = (next + k, p) :: ib next (k+1) ps := by
  simp [ib, List.zipIdx_cons]

theorem ib_getLast (next k : Nat) (p : Bytes) (ps : List Bytes) :
    ((ib next k (p :: ps)).getLast?.map (·.1)).getD 0 = next + k + ps.length := by
  induction ps generalizing k p with
  | nil => simp [ib_cons, ib_nil]
  | cons q ps ih =>
    rw [ib_cons, ib_cons, List.getLast?_cons_cons, ← ib_cons, ih]
    simp only [List.length_cons, Nat.add_assoc, Nat.add_comm 1]

/-- the writer's `uint32` offset arithmetic does not wrap below 4 GiB -/
theorem u32_add_u32 (a b : Nat) (h : a + b < 2^32) : u32 (a + u32 b) = a + b := by
  rw [u32, u32, Nat.mod_eq_of_lt (a := b) (Nat.lt_of_le_of_lt (Nat.le_add_left b a) h), Nat.mod_eq_of_lt h]

theorem appendEntry_ok (w : Writer) (p : Bytes) (hp : p.length ≤ maxEntrySize)
    (hb : w.writeOffset + w.commitBuf.length < 2^32) :
    w.appendEntry (w.info.base + w.offsets.length) p
      = .ok { w with offsets := w.offsets ++ [w.writeOffset + w.commitBuf.length]
                   , commitBuf := w.commitBuf ++ Spec.entryFrame p
                   , crc := crcUpdate w.crc (Spec.entryFrame p) } := by
  have hp32 : p.length < 2^32 := Nat.lt_of_le_of_lt hp (by decide)
  rw [Writer.appendEntry, if_neg (Nat.not_lt.mpr hp), if_neg (fun h => h rfl), u32_add_u32 _ _ hb, entryFrame_eq p hp32]

theorem appendEntries_ib (w : Writer) (next k : Nat) (ps : List Bytes)
    (hnext : next + k = w.info.base + w.offsets.length)
    (hb : w.writeOffset + w.commitBuf.length + (encEntries ps).length < 2^32)
    (hmax : ∀ p ∈ ps, p.length ≤ maxEntrySize) :
    w.appendEntries (ib next k ps)
      = .ok { w with offsets := w.offsets ++ offs (w.writeOffset + w.commitBuf.length) ps
                   , commitBuf := w.commitBuf ++ encEntries ps
                   , crc := crcUpdate w.crc (encEntries ps) } := by
  induction ps generalizing w k with
  | nil => simp [ib_nil, Writer.appendEntries, offs, encEntries, crcUpdate_nil]
  | cons p ps ih =>
    rw [encEntries, List.length_append, specEntryFrame_length, ← Nat.add_assoc] at hb
    rw [ib_cons, Writer.appendEntries, hnext,
      appendEntry_ok w p (hmax p List.mem_cons_self) (Nat.lt_of_le_of_lt (Nat.le_add_right _ _) (Nat.lt_of_le_of_lt (Nat.le_add_right _ _) hb))]
    simp only
    rw [ih _ (k+1) (by rw [List.length_append, List.length_singleton, ← Nat.add_assoc, ← Nat.add_assoc, hnext])
      (by rw [List.length_append, specEntryFrame_length, ← Nat.add_assoc]; exact hb)
      (fun q hq => hmax q (List.mem_cons_of_mem _ hq))]
    simp only [List.length_append, specEntryFrame_length, offs, encEntries, List.append_assoc,
      crcUpdate_append, List.cons_append, List.nil_append, Nat.add_assoc]


def Writer.offsetsAfter (w : Writer) (ps : List Bytes) : List Nat := w.offsets ++ offs (w.writeOffset + w.commitBuf.length) ps

def Writer.added (w : Writer) (ps : List Bytes) (s : Bool) : Bytes := encEntries ps ++ idxPart s (w.offsetsAfter ps)

def Writer.outBuf (w : Writer) (ps : List Bytes) (s : Bool) : Bytes :=
  w.commitBuf ++ w.added ps s ++ Spec.commitFrame (crcUpdate w.crc (w.added ps s)).toNat

/-- the writer after a fault-free append of `ps`, sealing iff `s` (`next` only feeds `commitIdx`) -/
def Writer.afterAppend (w : Writer) (ps : List Bytes) (s : Bool) (next : Nat) : Writer :=
  { info := w.info, commitBuf := [], crc := 0, writeOffset := w.writeOffset + (w.outBuf ps s).length,
    indexStart := if s then w.writeOffset + (w.commitBuf.length + (encEntries ps).length + 8) else 0,
    offsets := w.offsetsAfter ps, commitIdx := next + ps.length - 1 }

/-- `Append` on a non-empty batch before any I/O: the writer ready for its commit step, or the error -/
def Writer.prep (w : Writer) (es : List (Nat × Bytes)) : Except SegErr Writer :=
  if w.indexStart > 0 then .error .sealed
  else match w.appendEntries es with
    | .error e => .error e
    | .ok w1 => if w1.needSeal then w1.appendIndex else .ok w1

theorem append_eq_prep (w : Writer) (file : Bytes) (es : List (Nat × Bytes)) (f : IoFault) (hne : es.isEmpty = false) :
    w.append file es f = match w.prep es with
      | .error e => (some e, w, file)
      | .ok w2 => match w2.appendCommit file f with
        | (.error e, file) => (some e, w, file)
        | (.ok w3, file) => (none, { w3 with commitIdx := (es.getLast?.map (·.1)).getD 0 }, file) := by
  rw [Writer.append, Writer.prep, hne, if_neg Bool.false_ne_true]
  by_cases hidx : w.indexStart > 0
  · rw [if_pos hidx, if_pos hidx]
  · rw [if_neg hidx, if_neg hidx]
    cases w.appendEntries es with
    | error e => rfl
    | ok w1 =>
      simp only
      generalize (if w1.needSeal = true then w1.appendIndex else Except.ok w1) = r
      cases r <;> rfl

/-- writer and error of a fault-free `Append` do not depend on the file -/
theorem append_writer_indep (w : Writer) (f1 f2 : Bytes) (es : List (Nat × Bytes)) :
    (w.append f1 es .none).1 = (w.append f2 es .none).1
    ∧ (w.append f1 es .none).2.1 = (w.append f2 es .none).2.1 := by
  cases hne : es.isEmpty with
  | true => rw [Writer.append, Writer.append, if_pos hne, if_pos hne]; exact ⟨rfl, rfl⟩
  | false =>
    rw [append_eq_prep w f1 es .none hne, append_eq_prep w f2 es .none hne]
    cases w.prep es <;> exact ⟨rfl, rfl⟩

theorem append_none_indep (w : Writer) (f1 f2 : Bytes) (es : List (Nat × Bytes)) (w' : Writer) (f1' : Bytes)
    (h : w.append f1 es .none = (none, w', f1')) : ∃ f2', w.append f2 es .none = (none, w', f2') := by
  obtain ⟨i1, i2⟩ := append_writer_indep w f1 f2 es
  rw [h] at i1 i2
  exact ⟨(w.append f2 es .none).2.2, Prod.ext i1.symm (Prod.ext i2.symm rfl)⟩

/-- where a fault-free `Append` succeeds, one whose fsync fails writes the same bytes and rolls the writer back -/
theorem append_sync_file (w : Writer) (file : Bytes) (es : List (Nat × Bytes)) (w' : Writer) (file' : Bytes)
    (h : w.append file es .none = (none, w', file')) (hne : es.isEmpty = false) :
    w.append file es .sync = (some .io, w, file') := by
  rw [append_eq_prep w file es _ hne] at h ⊢
  cases hp : w.prep es with
  | error e => rw [hp] at h; cases h
  | ok w2 => rw [hp] at h; cases h; rfl

theorem indexBatch_isEmpty (n : Nat) (b : List Bytes) (hb : b ≠ []) : (indexBatch n b).isEmpty = false := by
  obtain ⟨p, ps, rfl⟩ := List.exists_cons_of_ne_nil hb
  rfl

theorem appendIndex_ok (w : Writer) (h : w.offsets ≠ []) :
    w.appendIndex = .ok { w with indexStart := w.writeOffset + (w.commitBuf.length + frameHeaderLen)
                               , commitBuf := w.commitBuf ++ Spec.indexFrame w.offsets
                               , crc := crcUpdate w.crc (Spec.indexFrame w.offsets) } := by
  rw [Writer.appendIndex, if_neg (by intro h0; exact h (List.eq_nil_of_length_eq_zero h0)), indexFrame_eq _ h]

theorem appendCommit_ok (w : Writer) (file : Bytes) (hb : w.writeOffset + (w.commitBuf.length + 8) < 2^32) :
    w.appendCommit file .none
      = (.ok { w with writeOffset := w.writeOffset + (w.commitBuf.length + 8), commitBuf := [], crc := 0,
                      commitIdx := commitIdxOf w.info.base w.offsets },
         writeAt file w.writeOffset (w.commitBuf ++ Spec.commitFrame w.crc.toNat)) := by
  simp only [Writer.appendCommit, commitFrame_eq, List.length_append, specCommitFrame_length, u32_add_u32 _ _ hb]

theorem sealStep_ok (w : Writer) (h : w.offsets ≠ []) :
    ∃ s : Bool, (w.needSeal = false → s = false) ∧ (if w.needSeal then w.appendIndex else .ok w)
      = .ok { w with indexStart := if s then w.writeOffset + (w.commitBuf.length + 8) else w.indexStart
                   , commitBuf := w.commitBuf ++ idxPart s w.offsets
                   , crc := crcUpdate w.crc (idxPart s w.offsets) } := by
  cases w.needSeal
  · exact ⟨false, fun _ => rfl, by simp only [Bool.false_eq_true, if_false, idxPart, List.append_nil, crcUpdate_nil]⟩
  · exact ⟨true, fun h => Bool.noConfusion h, by simp only [if_true, idxPart, appendIndex_ok w h, frameHeaderLen]⟩

/-- a fault-free `Append` below 4 GiB: the writer and file after it, sealing iff `s`; if even the index frame would
    fit below `sizeLimit` it does not seal -/
theorem append_ok (w : Writer) (file : Bytes) (ps : List Bytes) (next : Nat)
    (hidx : w.indexStart = 0) (hps : ps ≠ [])
    (hnext : next = w.info.base + w.offsets.length)
    (hb : w.writeOffset + w.commitBuf.length + (encEntries ps).length + (Spec.indexFrame (w.offsetsAfter ps)).length + 8 < 2^32)
    (hmax : ∀ p ∈ ps, p.length ≤ maxEntrySize) :
    ∃ s : Bool, w.append file (indexBatch next ps) .none
        = (none, w.afterAppend ps s next, writeAt file w.writeOffset (w.outBuf ps s))
      ∧ (w.writeOffset + w.commitBuf.length + (encEntries ps).length + (Spec.indexFrame (w.offsetsAfter ps)).length
          ≤ w.info.sizeLimit → s = false) := by
  obtain ⟨p, ps', rfl⟩ := List.exists_cons_of_ne_nil hps
  have hne : (indexBatch next (p :: ps')).isEmpty = false := rfl
  have hci : next + 0 + ps'.length = next + (p :: ps').length - 1 := by simp
  have hos : w.offsetsAfter (p :: ps') ≠ [] := by simp [Writer.offsetsAfter, offs]
  obtain ⟨w1, h1, hw1⟩ : ∃ w1, w.appendEntries (indexBatch next (p :: ps')) = .ok w1 ∧ w1 = _ :=
    ⟨_, appendEntries_ib w next 0 (p :: ps') hnext
      (Nat.lt_of_le_of_lt (Nat.le_trans (Nat.le_add_right _ _) (Nat.le_add_right _ _)) hb) hmax, rfl⟩
  obtain ⟨s, hsf, hs⟩ := sealStep_ok w1 (by rw [hw1]; exact hos)
  have hlen : (idxPart s (w.offsetsAfter (p :: ps'))).length ≤ (Spec.indexFrame (w.offsetsAfter (p :: ps'))).length := by
    cases s
    · exact Nat.zero_le _
    · exact Nat.le_refl _
  refine ⟨s, ?_, fun hfit => hsf ?_⟩
  · rw [append_eq_prep w file _ .none hne, Writer.prep, if_neg (by rw [hidx]; exact Nat.lt_irrefl 0), h1]
    simp only
    rw [hs]
    simp only
    rw [appendCommit_ok _ _ (by
      rw [hw1]; simp only [Writer.offsetsAfter] at hb hlen
      simp only [List.length_append]; omega), indexBatch_eq, ib_getLast, hci, hw1]
    simp only [hidx, crcUpdate_append, List.append_assoc, List.length_append, specCommitFrame_length,
      Writer.afterAppend, Writer.outBuf, Writer.added, Writer.offsetsAfter, Nat.add_assoc]
  · -- `needSeal` compares the end of the index frame with `sizeLimit`
    have hsz := indexFrameSize_eq (w.offsetsAfter (p :: ps')) hos
    simp only [Writer.offsetsAfter] at hsz hfit hb
    rw [List.length_append] at hsz
    rw [hw1]
    simp only [Writer.needSeal, List.length_append, hsz, decide_eq_false_iff_not, Nat.not_lt]
    rw [u32_add_u32 _ _ (by omega)]; omega

/-- if even the index frame would fit below `sizeLimit`, the append does not seal -/
theorem append_noseal (w : Writer) (file : Bytes) (ps : List Bytes) (next : Nat)
    (hidx : w.indexStart = 0) (hps : ps ≠ [])
    (hnext : next = w.info.base + w.offsets.length)
    (hb : w.writeOffset + w.commitBuf.length + (encEntries ps).length + (Spec.indexFrame (w.offsetsAfter ps)).length + 8 < 2^32)
    (hmax : ∀ p ∈ ps, p.length ≤ maxEntrySize)
    (hfit : w.writeOffset + w.commitBuf.length + (encEntries ps).length + (Spec.indexFrame (w.offsetsAfter ps)).length
        ≤ w.info.sizeLimit)
    (w' : Writer) (file' : Bytes)
    (happ : w.append file (indexBatch next ps) .none = (none, w', file')) : w'.indexStart = 0 := by
  obtain ⟨s, hs, hsf⟩ := append_ok w file ps next hidx hps hnext hb hmax
  rw [hs, hsf hfit] at happ
  cases happ
  rfl

theorem append_sealed (w : Writer) (file : Bytes) (ps : List Bytes) (next : Nat)
    (hidx : w.indexStart > 0) (hps : ps ≠ []) :
    w.append file (indexBatch next ps) .none = (some .sealed, w, file) := by
  obtain ⟨p, ps', rfl⟩ := List.exists_cons_of_ne_nil hps
  have hne : (indexBatch next (p :: ps')).isEmpty = false := by
    rw [indexBatch_eq, ib_cons]; rfl
  rw [Writer.append, hne]
  simp only [Bool.false_eq_true, if_false]
  rw [if_pos hidx]

theorem appendEntries_ok_le (w w1 : Writer) (es : List (Nat × Bytes)) (h : w.appendEntries es = .ok w1) :
    ∀ e ∈ es, e.2.length ≤ maxEntrySize := by
  induction es generalizing w with
  | nil => intro e he; cases he
  | cons x es ih =>
    obtain ⟨i, d⟩ := x
    rw [Writer.appendEntries] at h
    cases hw : w.appendEntry i d with
    | error e => rw [hw] at h; cases h
    | ok w2 =>
      rw [hw] at h
      intro e he
      rcases List.mem_cons.mp he with rfl | he
      · rw [Writer.appendEntry] at hw
        by_cases hd : d.length > maxEntrySize
        · rw [if_pos hd] at hw; cases hw
        · exact Nat.le_of_not_lt hd
      · exact ih w2 h e he

theorem append_none_le (w : Writer) (file : Bytes) (entries : List (Nat × Bytes)) (w' : Writer) (file' : Bytes)
    (h : w.append file entries .none = (none, w', file')) : ∀ e ∈ entries, e.2.length ≤ maxEntrySize := by
  by_cases he : entries.isEmpty = true
  · intro e hm; rw [List.isEmpty_iff.mp he] at hm; cases hm
  · cases h1 : w.appendEntries entries with
    | ok w1 => exact appendEntries_ok_le w w1 entries h1
    | error e =>
      rw [Writer.append, if_neg he, h1] at h
      split at h <;> cases h

theorem ib_map_snd (next k : Nat) (ps : List Bytes) : (ib next k ps).map (·.2) = ps := by
  induction ps generalizing k with
  | nil => rfl
  | cons p ps ih => rw [ib_cons, List.map_cons, ih]

theorem append_indexBatch_le (w : Writer) (file : Bytes) (next : Nat) (ps : List Bytes) (w' : Writer) (file' : Bytes)
    (h : w.append file (indexBatch next ps) .none = (none, w', file')) : ∀ p ∈ ps, p.length ≤ maxEntrySize := by
  intro p hp
  rw [← ib_map_snd next 0 ps, ← indexBatch_eq] at hp
  obtain ⟨e, he, rfl⟩ := List.mem_map.mp hp
  exact append_none_le w file _ w' file' h e he

theorem appendAll_cons_some (w : Writer) (file : Bytes) (next : Nat) (b : List Bytes) (bs : List (List Bytes))
    (r : Writer × Bytes) (h : w.appendAll file next (b :: bs) = some r) :
    ∃ w1 f1, w.append file (indexBatch next b) .none = (none, w1, f1) ∧ w1.appendAll f1 (next + b.length) bs = some r := by
  rw [Writer.appendAll] at h
  split at h
  · cases h
  · rename_i w1 f1 heq
    exact ⟨w1, f1, heq, h⟩

/-- a successful run only carries payloads of at most `maxEntrySize` bytes (the writer refuses larger ones) -/
theorem appendAll_payload_le (w : Writer) (file : Bytes) (next : Nat) (bs : List (List Bytes)) (w' : Writer) (file' : Bytes)
    (h : w.appendAll file next bs = some (w', file')) : ∀ b ∈ bs, ∀ p ∈ b, p.length ≤ maxEntrySize := by
  induction bs generalizing w file next with
  | nil => intro b hb; cases hb
  | cons b bs ih =>
    obtain ⟨w1, f1, h1, h2⟩ := appendAll_cons_some w file next b bs _ h
    intro x hx
    rcases List.mem_cons.mp hx with rfl | hx
    · exact append_indexBatch_le w file next _ w1 f1 h1
    · exact ih w1 f1 _ h2 x hx


/-- writer and file against the README layout fold `a`: the layout's bytes are the flushed part of the file
    followed by the writer's pending buffer (which is how the header an empty segment still holds back is covered),
    and the file is zero behind the write offset -/
structure Inv (info : SegInfo) (w : Writer) (file : Bytes) (a : Acc) : Prop where
  info : w.info = info
  bytes : a.bytes = file.take w.writeOffset ++ w.commitBuf
  wo : w.writeOffset ≤ file.length
  cs : a.commitStart = w.writeOffset
  crc : w.crc = crc32c w.commitBuf
  offsEq : w.offsets = a.offsets
  zeros : ∀ x ∈ file.drop w.writeOffset, x = 0

theorem Inv.take_length {info w file a} (h : Inv info w file a) : (file.take w.writeOffset).length = w.writeOffset := by
  rw [List.length_take, Nat.min_eq_left h.wo]

theorem Inv.bytes_length {info w file a} (h : Inv info w file a) : a.bytes.length = w.writeOffset + w.commitBuf.length := by
  rw [h.bytes, List.length_append, h.take_length]

theorem Inv.offsetsAfter {info w file a} (h : Inv info w file a) (ps : List Bytes) :
    w.offsetsAfter ps = a.offsets ++ offs a.bytes.length ps := by
  rw [Writer.offsetsAfter, h.offsEq, h.bytes_length]

theorem Inv.step {info w file a} (h : Inv info w file a) (ps : List Bytes) (s : Bool) (next : Nat) :
    Inv info (w.afterAppend ps s next) (writeAt file w.writeOffset (w.outBuf ps s)) (addBatch a ⟨ps, s⟩) := by
  have htl := h.take_length
  have hbody : batchBody a ⟨ps, s⟩ = file.take w.writeOffset ++ (w.commitBuf ++ w.added ps s) := by
    simp only [batchBody, Writer.added, h.offsetsAfter ps, List.append_assoc]
    rw [h.bytes, List.append_assoc]
  have hcrc : batchCrc a ⟨ps, s⟩ = crcUpdate w.crc (w.added ps s) := by
    rw [batchCrc, hbody, h.cs, drop_app_len _ _ _ htl, h.crc, crc32c, crc32c, crcUpdate_append]
  have hfile : writeAt file w.writeOffset (w.outBuf ps s)
      = (file.take w.writeOffset ++ w.outBuf ps s) ++ file.drop (w.writeOffset + (w.outBuf ps s).length) := by
    rw [writeAt]; simp only [if_neg (Nat.not_lt.mpr h.wo)]
  have hlen : (file.take w.writeOffset ++ w.outBuf ps s).length = w.writeOffset + (w.outBuf ps s).length := by
    rw [List.length_append, htl]
  refine ⟨h.info, ?_, ?_, ?_, ?_, ?_, ?_⟩
  · rw [addBatch_eq, hfile]
    simp only [Writer.afterAppend, List.append_nil]
    rw [take_app_len _ _ _ hlen, hbody, hcrc, Writer.outBuf]
    simp only [List.append_assoc]
  · rw [hfile]; simp only [Writer.afterAppend, List.length_append, htl]; exact Nat.le_add_right _ _
  · rw [addBatch_eq]
    simp only [Writer.afterAppend, hbody, Writer.outBuf, List.length_append, htl, specCommitFrame_length]
    exact Nat.add_assoc _ _ _
  · simp only [Writer.afterAppend]; rw [crc32c, crcUpdate_nil]
  · rw [addBatch_eq]; simp only [Writer.afterAppend, h.offsetsAfter ps]
  · intro x hx
    rw [hfile] at hx
    simp only [Writer.afterAppend] at hx
    rw [drop_app_len _ _ _ hlen] at hx
    apply h.zeros x
    rw [← List.drop_drop] at hx
    exact List.mem_of_mem_drop hx

theorem Inv.file_split {info w file a} (h : Inv info w file a) :
    file = file.take w.writeOffset ++ RaftWal.zeros (file.length - w.writeOffset) := by
  have hz : file.drop w.writeOffset = RaftWal.zeros (file.length - w.writeOffset) :=
    List.eq_replicate_iff.mpr ⟨List.length_drop, h.zeros⟩
  rw [← hz, List.take_append_drop]

theorem file_eq_of_inv {info w file a} (h : Inv info w file a) (hcb : w.commitBuf = []) :
    ∃ k, file = a.bytes ++ zeros k :=
  ⟨_, by rw [h.bytes, hcb, List.append_nil]; exact h.file_split⟩

theorem init_inv (info : SegInfo) : Inv info (freshSegment info).1 (freshSegment info).2 (acc0 info) := by
  constructor
  · rfl
  · show Spec.header info.base info.id info.codec = List.take 0 (zeros info.sizeLimit) ++ fileHeader info.hdr
    rw [List.take_zero, List.nil_append, fileHeader_eq]
    rfl
  · exact Nat.zero_le _
  · rfl
  · rfl
  · rfl
  · intro x hx
    exact List.eq_of_mem_replicate (List.mem_of_mem_drop hx)

/-- spec batches of a run: only the last batch may seal -/
def runBatches (s : Bool) : List (List Bytes) → List Batch
  | [] => []
  | [b] => [⟨b, s⟩]
  | b :: b' :: r => ⟨b, false⟩ :: runBatches s (b' :: r)

/-- position of the index array if the last batch seals -/
def idxPos (a : Acc) : List (List Bytes) → Nat
  | [] => 0
  | [b] => (a.bytes ++ encEntries b).length + 8
  | b :: b' :: r => idxPos (addBatch a ⟨b, false⟩) (b' :: r)

/-- bytes the batches take at most, commit frames included, index frame not -/
def need (bs : List (List Bytes)) : Nat := (bs.map (fun b => (b.map (fun p => 16 + p.length)).sum + 8)).sum

def cnt (bs : List (List Bytes)) : Nat := (bs.map List.length).sum

theorem need_cons (b : List Bytes) (bs : List (List Bytes)) :
    need (b :: bs) = (b.map (fun p => 16 + p.length)).sum + 8 + need bs := by simp [need]

theorem cnt_cons (b : List Bytes) (bs : List (List Bytes)) : cnt (b :: bs) = b.length + cnt bs := by simp [cnt]

theorem need_nil : need [] = 0 := rfl
theorem cnt_nil : cnt [] = 0 := rfl

theorem need_append (a b : List (List Bytes)) : need (a ++ b) = need a + need b := by simp [need]
theorem cnt_append (a b : List (List Bytes)) : cnt (a ++ b) = cnt a + cnt b := by simp [cnt]
theorem need_single (b : List Bytes) : need [b] = (b.map (fun p => 16 + p.length)).sum + 8 := by simp [need]
theorem cnt_single (b : List Bytes) : cnt [b] = b.length := by simp [cnt]

theorem cnt_eq_flatten_length (bs : List (List Bytes)) : cnt bs = bs.flatten.length := by
  rw [cnt, List.length_flatten]

theorem runBatches_cons_ne (s : Bool) (b : List Bytes) (x : List (List Bytes)) (hx : x ≠ []) :
    runBatches s (b :: x) = ⟨b, false⟩ :: runBatches s x := by
  cases x with
  | nil => exact absurd rfl hx
  | cons b' r => rfl

theorem runBatches_payloads (s : Bool) (bs : List (List Bytes)) : (runBatches s bs).map (·.payloads) = bs := by
  induction bs with
  | nil => rfl
  | cons b x ih =>
    cases x with
    | nil => rfl
    | cons b' r => simp only [runBatches, List.map_cons] at ih ⊢; rw [ih]

def ackBatches (bs : List (List Bytes)) : List Batch := bs.map (fun b => (⟨b, false⟩ : Batch))

theorem runBatches_false (bs : List (List Bytes)) : runBatches false bs = ackBatches bs := by
  induction bs with
  | nil => rfl
  | cons b x ih =>
    cases x with
    | nil => rfl
    | cons b' r => rw [runBatches, ih]; rfl

theorem runBatches_concat (s : Bool) (init : List (List Bytes)) (last : List Bytes) :
    runBatches s (init ++ [last]) = ackBatches init ++ [⟨last, s⟩] := by
  induction init with
  | nil => rfl
  | cons b x ih => rw [List.cons_append, runBatches_cons_ne s b _ (by simp), ih]; rfl

theorem idxPos_concat (a : Acc) (init : List (List Bytes)) (last : List Bytes) :
    idxPos a (init ++ [last]) = (((ackBatches init).foldl addBatch a).bytes ++ encEntries last).length + 8 := by
  induction init generalizing a with
  | nil => rfl
  | cons b x ih =>
    have : ∃ b' r, x ++ [last] = b' :: r := by
      cases x with
      | nil => exact ⟨last, [], rfl⟩
      | cons b' r => exact ⟨b', r ++ [last], rfl⟩
    obtain ⟨b', r, hx⟩ := this
    rw [List.cons_append, hx, idxPos, ← hx, ih]; rfl

/-- the room a run is given covers the first batch unsealed and the room of the rest -/
theorem room_tail (a : Acc) (b : List Bytes) (rest : List (List Bytes)) :
    (addBatch a ⟨b, false⟩).bytes.length + need rest + 16 + 4 * ((addBatch a ⟨b, false⟩).offsets.length + cnt rest)
      ≤ a.bytes.length + need (b :: rest) + 16 + 4 * (a.offsets.length + cnt (b :: rest)) := by
  have := addBatch_length_le a b false
  rw [need_cons, cnt_cons, addBatch_offsets_length]
  simp only [Bool.false_eq_true, if_false] at this ⊢
  omega

theorem runBatches_length_le (s : Bool) (bs : List (List Bytes)) (a : Acc) :
    ((runBatches s bs).foldl addBatch a).bytes.length ≤ a.bytes.length + need bs + 16 + 4 * (a.offsets.length + cnt bs) := by
  induction bs generalizing a with
  | nil => exact Nat.le_trans (Nat.le_add_right _ _) (Nat.le_add_right _ _)
  | cons b rest ih =>
    cases rest with
    | nil =>
      have hs : (if s = true then 16 + 4 * (a.offsets.length + b.length) else 0)
          ≤ 16 + 4 * (a.offsets.length + b.length) := by
        split
        · exact Nat.le_refl _
        · exact Nat.zero_le _
      show (addBatch a ⟨b, s⟩).bytes.length
        ≤ a.bytes.length + ((b.map (fun p => 16 + p.length)).sum + 8) + 16 + 4 * (a.offsets.length + b.length)
      rw [Nat.add_assoc _ 16]
      exact Nat.le_trans (addBatch_length_le a b s) (Nat.add_le_add_left hs _)
    | cons b' r => exact Nat.le_trans (ih (addBatch a ⟨b, false⟩)) (room_tail a b _)

theorem Inv.append_bound {info w file a} (h : Inv info w file a) (b : List Bytes) (rest : List (List Bytes))
    (hb : a.bytes.length + need (b :: rest) + 16 + 4 * (a.offsets.length + cnt (b :: rest)) < 2^32) :
    w.writeOffset + w.commitBuf.length + (encEntries b).length + (Spec.indexFrame (w.offsetsAfter b)).length + 8 < 2^32 := by
  have hel := encEntries_length_le b
  have hil := indexFrame_length_le (w.offsetsAfter b)
  rw [h.offsetsAfter, List.length_append, offs_length] at hil
  rw [need_cons, cnt_cons] at hb
  rw [← h.bytes_length, h.offsetsAfter]; omega

theorem Writer.afterAppend_true_indexStart (w : Writer) (ps : List Bytes) (next : Nat) :
    (w.afterAppend ps true next).indexStart > 0 :=
  Nat.add_pos_right _ (Nat.add_pos_right _ (by decide))

theorem Writer.afterAppend_indexStart_pos (w : Writer) (ps : List Bytes) (s : Bool) (next : Nat) :
    decide ((w.afterAppend ps s next).indexStart > 0) = s := by
  cases s
  · rfl
  · exact decide_eq_true (w.afterAppend_true_indexStart ps next)

theorem run_inv (info : SegInfo) (bs : List (List Bytes)) (hne : ∀ b ∈ bs, b ≠ []) :
    ∀ (w : Writer) (file : Bytes) (a : Acc) (next : Nat) (w' : Writer) (file' : Bytes),
      Inv info w file a → w.indexStart = 0 → next = info.base + a.offsets.length →
      a.bytes.length + need bs + 16 + 4 * (a.offsets.length + cnt bs) < 2^32 →
      w.appendAll file next bs = some (w', file') →
      Inv info w' file' ((runBatches (decide (w'.indexStart > 0)) bs).foldl addBatch a)
      ∧ (bs ≠ [] → w'.commitBuf = [] ∧ w'.commitIdx = next + cnt bs - 1 ∧ 0 < cnt bs)
      ∧ (w'.indexStart = 0 ∨ w'.indexStart = idxPos a bs) := by
  induction bs with
  | nil =>
    intro w file a next w' file' hinv hidx hnext hb hrun
    cases hrun
    exact ⟨hinv, fun h => absurd rfl h, Or.inl hidx⟩
  | cons b rest ih =>
    intro w file a next w' file' hinv hidx hnext hb hrun
    have hbne : b ≠ [] := hne b List.mem_cons_self
    obtain ⟨w1, f1, hap1, hrun1⟩ := appendAll_cons_some w file next b rest _ hrun
    obtain ⟨s, hap, _⟩ := append_ok w file b next hidx hbne (by rw [hinv.info, hinv.offsEq]; exact hnext)
      (hinv.append_bound b rest hb) (append_indexBatch_le w file next b w1 f1 hap1)
    rw [hap] at hap1
    cases hap1
    have hstep := hinv.step b s next
    cases rest with
    | nil =>
      cases hrun1
      refine ⟨?_, fun _ => ⟨rfl, ?_, ?_⟩, ?_⟩
      · rw [Writer.afterAppend_indexStart_pos]; exact hstep
      · rw [cnt_cons]; rfl
      · rw [cnt_cons]; exact Nat.lt_of_lt_of_le (List.length_pos_iff.mpr hbne) (Nat.le_add_right _ _)
      · cases s
        · exact Or.inl rfl
        · exact Or.inr (by simp only [Writer.afterAppend, idxPos, if_true, List.length_append, hinv.bytes_length, Nat.add_assoc])
    | cons b' r =>
      -- the next append was accepted, so this one did not seal
      have hs : s = false := by
        cases s
        · rfl
        · obtain ⟨w2, f2, hap2, _⟩ := appendAll_cons_some _ _ _ b' r _ hrun1
          rw [append_sealed _ _ _ _ (Writer.afterAppend_true_indexStart _ _ _)
            (hne b' (List.mem_cons_of_mem _ List.mem_cons_self))] at hap2
          cases hap2
      subst hs
      obtain ⟨h1, h2, h3⟩ := ih (fun x hx => hne x (List.mem_cons_of_mem _ hx)) (w.afterAppend b false next) _
        (addBatch a ⟨b, false⟩) (next + b.length) w' file' hstep rfl
        (by rw [addBatch_offsets_length, hnext, Nat.add_assoc]) (Nat.lt_of_le_of_lt (room_tail a b _) hb) hrun1
      obtain ⟨h21, h22, h23⟩ := h2 (List.cons_ne_nil _ _)
      refine ⟨h1, fun _ => ⟨h21, ?_, ?_⟩, h3⟩
      · rw [h22, cnt_cons b, Nat.add_assoc]
      · rw [cnt_cons b]; exact Nat.lt_of_lt_of_le h23 (Nat.le_add_left _ _)

end RaftWal
