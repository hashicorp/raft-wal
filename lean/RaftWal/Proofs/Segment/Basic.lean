/-
  Proofs/Segment/Basic.lean — arithmetic of the frame layout (padding, frame sizes); model frames = README frames.
-/
import RaftWal.Model.SegmentRun
import RaftWal.Spec.Format
import RaftWal.Proofs.Bytes
namespace RaftWal

theorem take_app_len {α} (a b : List α) (n : Nat) (h : a.length = n) : (a ++ b).take n = a :=
  List.take_left' h

theorem drop_app_len {α} (a b : List α) (n : Nat) (h : a.length = n) : (a ++ b).drop n = b :=
  List.drop_left' h

theorem readAt_app (pre x : Bytes) (off n : Nat) (h : pre.length = off) : readAt (pre ++ x) off n = x.take n := by
  unfold readAt; rw [drop_app_len _ _ _ h]

theorem take_app_ge {α} (a b : List α) (n : Nat) (h : a.length ≤ n) : (a ++ b).take n = a ++ b.take (n - a.length) := by
  rw [List.take_append, List.take_of_length_le h]

/-- both sides depend on `n % 8` only, where the eight cases are checked -/
theorem padLen_eq (n : Nat) : padLen n = Spec.roundUp8 n - n := by
  have key : ∀ r, r < 8 → (8 - r) % 8 = (r + 7) / 8 * 8 - r := by decide
  rw [padLen, frameHeaderLen, Spec.roundUp8, key _ (Nat.mod_lt n (by decide))]
  conv => rhs; rw [← Nat.div_add_mod n 8]
  rw [Nat.add_assoc, Nat.mul_add_div (by decide), Nat.add_mul, Nat.mul_comm (n / 8) 8, Nat.add_sub_add_left]

theorem roundUp8_ge (n : Nat) : n ≤ Spec.roundUp8 n :=
  Nat.le_of_lt_succ (Nat.lt_of_add_lt_add_right (Nat.lt_div_mul_add (by decide) : n + 7 < (n + 7) / 8 * 8 + 8))

theorem roundUp8_lt (n : Nat) : Spec.roundUp8 n < n + 8 := Nat.lt_succ_of_le (Nat.div_mul_le_self (n + 7) 8)

theorem add_sub_roundUp8 (n : Nat) : n + (Spec.roundUp8 n - n) = Spec.roundUp8 n := Nat.add_sub_of_le (roundUp8_ge n)

theorem padLen_lt (n : Nat) : padLen n < 8 := Nat.mod_lt _ (by decide)

theorem encodedFrameSize_eq (n : Nat) : encodedFrameSize n = 8 + Spec.roundUp8 n := by
  rw [encodedFrameSize, padLen_eq, frameHeaderLen, Nat.add_assoc, add_sub_roundUp8]

theorem encodedFrameSize_dvd (n : Nat) : 8 ∣ encodedFrameSize n := by
  rw [encodedFrameSize_eq]; exact Nat.dvd_add (Nat.dvd_refl 8) (Nat.dvd_mul_left 8 _)

theorem encodedFrameSize_zero : encodedFrameSize 0 = 8 := by decide

theorem putLE_eq_specLe (n v : Nat) : putLE n v = Spec.le n v := by
  induction n generalizing v with
  | zero => rfl
  | succ n ih => simp only [putLE, Spec.le, ih]

theorem putLE_eq_specLe_fun (n : Nat) : putLE n = Spec.le n := funext (putLE_eq_specLe n)

@[simp] theorem specLe_length (n v : Nat) : (Spec.le n v).length = n := by
  rw [← putLE_eq_specLe]; simp

@[simp] theorem specFrameHeader_length (t v : Nat) : (Spec.frameHeader t v).length = 8 := by
  simp [Spec.frameHeader]

theorem fileHeader_eq (h : HdrInfo) : fileHeader h = Spec.header h.base h.id h.codec := by
  simp only [fileHeader, Spec.header, putLE_eq_specLe, magic, formatVersion]
  rfl

@[simp] theorem specHeader_length (b i c : Nat) : (Spec.header b i c).length = 32 := by
  simp [Spec.header]

theorem frameHeaderBytes_eq (h : FrameHeader) :
    frameHeaderBytes h = Spec.frameHeader h.typ (if h.typ = frameCommit then h.crc else h.len) := by
  rw [frameHeaderBytes, putLE_eq_specLe]; rfl

theorem entryFrame_eq (p : Bytes) (h : p.length < 2^32) : entryFrame p = Spec.entryFrame p := by
  rw [entryFrame, frameHeaderBytes_eq, Nat.mod_eq_of_lt h, padLen_eq]; rfl

theorem commitFrame_eq (c : Nat) : commitFrame c = Spec.commitFrame c := frameHeaderBytes_eq _

theorem flatten_le4_length (os : List Nat) : ((os.map (Spec.le 4)).flatten).length = 4 * os.length := by
  induction os with
  | nil => rfl
  | cons o os ih =>
    rw [List.map_cons, List.flatten_cons, List.length_append, specLe_length, ih, List.length_cons, Nat.mul_succ, Nat.add_comm]

/-- an index array of `k` offsets (4 bytes each) is padded with 4 bytes iff `k` is odd -/
theorem padLen_four_mul (k : Nat) : padLen (4 * k) = if k % 2 = 1 then 4 else 0 := by
  rw [padLen, frameHeaderLen, show (8 : Nat) = 4 * 2 from rfl, Nat.mul_mod_mul_left]
  rcases Nat.mod_two_eq_zero_or_one k with h | h <;> rw [h] <;> rfl

theorem indexFrame_eq (os : List Nat) (h : os ≠ []) : indexFrame os = Spec.indexFrame os := by
  have hpad : (if os.length % 2 = 1 then zeros 4 else [])
      = List.replicate (Spec.roundUp8 (4 * os.length) - 4 * os.length) 0 := by
    rw [← padLen_eq, padLen_four_mul]; split <;> rfl
  rw [indexFrame, if_neg (mt List.eq_nil_of_length_eq_zero h), frameHeaderBytes_eq, indexPayload, putLE_eq_specLe_fun,
    hpad, Spec.indexFrame]
  simp only [flatten_le4_length, Nat.mul_comm os.length 4, List.append_assoc]
  rfl

theorem specEntryFrame_length (p : Bytes) : (Spec.entryFrame p).length = encodedFrameSize p.length := by
  rw [Spec.entryFrame, List.length_append, List.length_append, specFrameHeader_length, List.length_replicate,
    encodedFrameSize_eq, Nat.add_assoc, add_sub_roundUp8]

theorem specIndexFrame_length (os : List Nat) : (Spec.indexFrame os).length = encodedFrameSize (4 * os.length) := by
  simp only [Spec.indexFrame, List.length_append, specFrameHeader_length, List.length_replicate, encodedFrameSize_eq,
    flatten_le4_length, Nat.add_assoc, add_sub_roundUp8]

@[simp] theorem specCommitFrame_length (c : Nat) : (Spec.commitFrame c).length = 8 := by
  simp [Spec.commitFrame]

theorem indexFrameSize_eq (os : List Nat) (h : os ≠ []) : indexFrameSize os.length = (Spec.indexFrame os).length := by
  have hl : os.length ≠ 0 := by
    intro h0; exact h (List.eq_nil_of_length_eq_zero h0)
  simp only [indexFrameSize, hl, if_false, specIndexFrame_length, Nat.mul_comm]

end RaftWal
