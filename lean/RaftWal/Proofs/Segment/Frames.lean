/-
  Proofs/Segment/Frames.lean — header round trips; generic frames `Fr`; the scan, the README parser and `readFrame`
  over encoded frames.
-/
import RaftWal.Proofs.Segment.Basic
namespace RaftWal

theorem getLE_specLe (n v : Nat) (h : v < 256 ^ n) : getLE (Spec.le n v) = v := by
  rw [← putLE_eq_specLe]; exact getLE_putLE n v h

/-- the README header is 32 explicit bytes, so its slices are read off by evaluation -/
theorem readFileHeader_specHeader (b i c : Nat) (hb : b < 2^64) (hi : i < 2^64) (hc : c < 2^64) :
    readFileHeader (Spec.header b i c) = some { base := b, id := i, codec := c } := by
  have t8 : (Spec.header b i c).take 8 = Spec.le 4 0x58eb6b0d ++ [0, 0, 0, 0] := rfl
  have d7 : ((Spec.header b i c).drop 7).headD 0 = 0 := rfl
  have s1 : ((Spec.header b i c).drop 8).take 8 = Spec.le 8 b := rfl
  have s2 : ((Spec.header b i c).drop 16).take 8 = Spec.le 8 i := rfl
  have s3 : ((Spec.header b i c).drop 24).take 8 = Spec.le 8 c := rfl
  rw [readFileHeader, if_neg (by rw [specHeader_length]; decide), t8, d7, s1, s2, s3, if_neg (fun h => h (by decide)),
    if_neg (fun h => h rfl), getLE_specLe 8 b hb, getLE_specLe 8 i hi, getLE_specLe 8 c hc]

theorem chunk8 (l : Bytes) (i : Nat) (h : i + 8 ≤ l.length) :
    (l.drop i).take 8 = putLE 8 (getLE ((l.drop i).take 8)) := by
  have := putLE_getLE ((l.drop i).take 8)
  rw [List.length_take, List.length_drop, Nat.min_eq_left (Nat.le_sub_of_add_le (Nat.add_comm i 8 ▸ h))] at this
  exact this.symm

theorem drop_chunk {α} (l : List α) (i n : Nat) : l.drop i = (l.drop i).take n ++ l.drop (i + n) := by
  rw [← List.drop_drop, List.take_append_drop]

theorem readFileHeader_exact (buf : Bytes) (h : HdrInfo) (hlen : buf.length = fileHeaderLen)
    (hr : readFileHeader buf = some h) : buf = fileHeader h := by
  have h32 : buf.length = 32 := hlen
  unfold readFileHeader at hr
  rw [if_neg (Nat.lt_irrefl _ ∘ (hlen ▸ ·))] at hr
  split at hr
  · cases hr
  · next hm =>
    split at hr
    · cases hr
    · cases hr
      -- four chunks of 8 bytes, each the bytes of the number it spells; the first spells `magic`
      have split : buf = (buf.drop 0).take 8 ++ ((buf.drop 8).take 8 ++ ((buf.drop 16).take 8 ++
          ((buf.drop 24).take 8 ++ buf.drop 32))) := by
        rw [← drop_chunk buf 24 8, ← drop_chunk buf 16 8, ← drop_chunk buf 8 8, ← drop_chunk buf 0 8, List.drop_zero]
      have e0 := chunk8 buf 0 (h32 ▸ by decide)
      rw [List.drop_zero, Decidable.not_not.1 hm] at e0
      have hmag : putLE 8 magic = putLE 4 magic ++ [0, 0, 0, formatVersion.toUInt8] := by decide
      rw [show buf.drop 32 = [] from List.drop_of_length_le (Nat.le_of_eq h32), List.append_nil, List.drop_zero, e0, hmag,
        chunk8 buf 8 (h32 ▸ by decide), chunk8 buf 16 (h32 ▸ by decide), chunk8 buf 24 (h32 ▸ by decide),
        List.append_assoc] at split
      simp only [fileHeader, List.append_assoc]
      exact split

theorem readFileHeader_fileHeader (h : HdrInfo) (hb : h.base < 2^64) (hi : h.id < 2^64) (hc : h.codec < 2^64)
    (rest : Bytes) : readFileHeader ((fileHeader h ++ rest).take fileHeaderLen) = some h := by
  rw [take_app_len _ _ fileHeaderLen (by rw [fileHeader_eq]; simp [fileHeaderLen]), fileHeader_eq,
    readFileHeader_specHeader _ _ _ hb hi hc]

theorem scanHeader_specHeader (b i c : Nat) (hb : b < 2^64) (hi : i < 2^64) (hc : c < 2^64) (rest : Bytes) :
    scanHeader (Spec.header b i c ++ rest) = { base := b, id := i, codec := c } := by
  unfold scanHeader
  simp only [readAt, List.drop_zero]
  rw [take_app_len _ _ fileHeaderLen (by simp [fileHeaderLen])]
  simp only [specHeader_length, fileHeaderLen, Nat.sub_self, zeros, List.replicate_zero, List.append_nil]
  rw [readFileHeader_specHeader b i c hb hi hc]; rfl


/-- a frame as the README describes it: `val` is the header's length-or-CRC field, `body` the payload with its
    padding (empty for a commit frame) -/
structure Fr where
  typ : Nat
  val : Nat
  body : Bytes

def fhOf (t v : Nat) : FrameHeader :=
  if t = 3 then { typ := 3, len := 0, crc := v } else { typ := t, len := v, crc := 0 }

def Fr.len (f : Fr) : Nat := if f.typ = 3 then 0 else f.val

def Fr.enc (f : Fr) : Bytes := Spec.frameHeader f.typ f.val ++ f.body

def Fr.fh (f : Fr) : FrameHeader := fhOf f.typ f.val

def Fr.payload (f : Fr) : Bytes := f.body.take f.val

structure Fr.WF (f : Fr) : Prop where
  typ : f.typ = 1 ∨ f.typ = 2 ∨ f.typ = 3
  val : f.val < 2^32
  body : f.body.length = Spec.roundUp8 f.len

theorem Fr.fh_typ (f : Fr) : f.fh.typ = f.typ := by
  unfold Fr.fh fhOf; split <;> simp_all

theorem Fr.fh_len (f : Fr) : f.fh.len = f.len := by
  unfold Fr.fh fhOf Fr.len; split <;> rfl

theorem Fr.enc_length (f : Fr) (hf : f.WF) : f.enc.length = encodedFrameSize f.len := by
  simp only [Fr.enc, List.length_append, specFrameHeader_length, hf.body, encodedFrameSize_eq]

theorem readFrameHeader_frameHeader (t v : Nat) (ht : t = 1 ∨ t = 2 ∨ t = 3) (hv : v < 2^32) (rest : Bytes) :
    readFrameHeader (Spec.frameHeader t v ++ rest) = some (fhOf t v) := by
  have hlen : ¬ ((Spec.frameHeader t v ++ rest).length < frameHeaderLen) := by
    simp [frameHeaderLen]
  have hd : (Spec.frameHeader t v ++ rest).headD 0 = t.toUInt8 := rfl
  have hdt : ((Spec.frameHeader t v ++ rest).drop 4).take 4 = Spec.le 4 v := by
    show (Spec.le 4 v ++ rest).take 4 = _
    exact take_app_len _ _ 4 (by simp)
  have htn : t.toUInt8.toNat = t := toUInt8_toNat_of_lt (by omega)
  simp only [readFrameHeader, if_neg hlen, hd, hdt, htn, getLE_specLe 4 v (by simpa using hv), fhOf,
    frameInvalid, frameEntry, frameIndex, frameCommit]
  rcases ht with h | h | h <;> subst h <;> simp

def encAll : List Fr → Bytes
  | [] => []
  | f :: fs => f.enc ++ encAll fs

def scanOf (off : Nat) : List Fr → List (FrameHeader × Nat)
  | [] => []
  | f :: fs => (f.fh, off) :: scanOf (off + f.enc.length) fs

theorem encAll_append (a b : List Fr) : encAll (a ++ b) = encAll a ++ encAll b := by
  induction a with
  | nil => rfl
  | cons f fs ih => simp only [List.cons_append, encAll, ih, List.append_assoc]

theorem scanOf_append (off : Nat) (a b : List Fr) :
    scanOf off (a ++ b) = scanOf off a ++ scanOf (off + (encAll a).length) b := by
  induction a generalizing off with
  | nil => simp [scanOf, encAll]
  | cons f fs ih =>
    simp only [List.cons_append, scanOf, encAll, ih, List.length_append, Nat.add_assoc]

theorem scanFrames_step (pre rest : Bytes) (f : Fr) (hf : f.WF) (fuel : Nat) :
    scanFrames (pre ++ (f.enc ++ rest)) (fuel+1) pre.length
      = (f.fh, pre.length) :: scanFrames (pre ++ (f.enc ++ rest)) fuel (pre.length + f.enc.length) := by
  have hbuf : readAt (pre ++ (f.enc ++ rest)) pre.length frameHeaderLen = Spec.frameHeader f.typ f.val := by
    rw [readAt_app _ _ _ _ rfl, Fr.enc, List.append_assoc]
    exact take_app_len _ _ _ (by simp [frameHeaderLen])
  have hrd : readFrameHeader (Spec.frameHeader f.typ f.val) = some f.fh := by
    have := readFrameHeader_frameHeader f.typ f.val hf.typ hf.val []
    rwa [List.append_nil] at this
  have hty : ¬ (f.fh.typ = frameInvalid) := by
    rw [Fr.fh_typ]; have := hf.typ; unfold frameInvalid; omega
  rw [scanFrames]
  simp only [hbuf, hrd]
  rw [if_neg (by simp [frameHeaderLen]), if_neg hty, Fr.fh_len, Fr.enc_length f hf]

theorem scanFrames_all (fs : List Fr) (hwf : ∀ f ∈ fs, f.WF) (pre rest : Bytes) (fuel : Nat) :
    scanFrames (pre ++ (encAll fs ++ rest)) (fuel + fs.length) pre.length
      = scanOf pre.length fs ++ scanFrames (pre ++ (encAll fs ++ rest)) fuel (pre.length + (encAll fs).length) := by
  induction fs generalizing pre with
  | nil => simp [encAll, scanOf]
  | cons f fs ih =>
    have hf := hwf f (List.mem_cons_self)
    have hfs : ∀ g ∈ fs, g.WF := fun g hg => hwf g (List.mem_cons_of_mem _ hg)
    simp only [encAll, List.length_cons, scanOf, List.append_assoc]
    rw [← Nat.add_assoc, scanFrames_step pre _ f hf]
    have e : pre ++ (f.enc ++ (encAll fs ++ rest)) = (pre ++ f.enc) ++ (encAll fs ++ rest) := by
      simp only [List.append_assoc]
    have := ih hfs (pre ++ f.enc)
    rw [List.length_append] at this
    rw [e, this, List.length_append, Nat.add_assoc]
    rfl

theorem readFrameHeader_zeros : readFrameHeader (zeros 8) = some { typ := 0, len := 0, crc := 0 } := by decide

/-- where the scan loop stops: fewer than 8 bytes left, or a zero frame header -/
def StopTail (tail : Bytes) : Prop := tail.length < 8 ∨ tail.take 8 = zeros 8

theorem stopTail_zeros (k : Nat) : StopTail (zeros k) := by
  by_cases h : k < 8
  · left; simpa using h
  · right; rw [zeros, List.take_replicate, Nat.min_eq_left (Nat.le_of_not_lt h)]; rfl

theorem stopTail_zeros8 (junk : Bytes) : StopTail (zeros 8 ++ junk) :=
  Or.inr (take_app_len _ _ 8 rfl)

theorem scanFrames_stop_at (file : Bytes) (fuel off : Nat) (h : StopTail (file.drop off)) :
    scanFrames file fuel off = [] := by
  cases fuel with
  | zero => rfl
  | succ fuel =>
    rw [scanFrames, readAt, frameHeaderLen]
    rcases h with h | h
    · rw [if_pos (by rw [List.length_take]; exact Nat.lt_of_le_of_lt (Nat.min_le_right _ _) h)]
    · rw [h, readFrameHeader_zeros]; rfl

theorem scanFrames_stop (pre tail : Bytes) (fuel : Nat) (h : StopTail tail) :
    scanFrames (pre ++ tail) fuel pre.length = [] :=
  scanFrames_stop_at _ _ _ (by rw [drop_app_len _ _ _ rfl]; exact h)

theorem encAll_length_ge (fs : List Fr) : 8 * fs.length ≤ (encAll fs).length := by
  induction fs with
  | nil => exact Nat.zero_le _
  | cons f fs ih =>
    rw [encAll, Fr.enc, List.length_cons, List.length_append, List.length_append, specFrameHeader_length, Nat.mul_succ,
      Nat.add_comm]
    exact Nat.add_le_add (Nat.le_add_right 8 _) ih

/-- the fuel of the scan (and of the README decoder), one step per 8 bytes, covers every frame of the file -/
theorem length_le_scanFuel (hd : Bytes) (fs : List Fr) (tail : Bytes) :
    fs.length ≤ scanFuel (hd ++ (encAll fs ++ tail)) := by
  apply Nat.le_succ_of_le
  rw [Nat.le_div_iff_mul_le (by decide), Nat.mul_comm, List.length_append, List.length_append]
  exact Nat.le_trans (encAll_length_ge fs) (Nat.le_trans (Nat.le_add_right _ _) (Nat.le_add_left _ _))

theorem scan_stop (hd : Bytes) (hlen : hd.length = 32) (fs : List Fr) (hwf : ∀ f ∈ fs, f.WF) (tail : Bytes)
    (h : StopTail tail) :
    scanFrames (hd ++ (encAll fs ++ tail)) (scanFuel (hd ++ (encAll fs ++ tail))) fileHeaderLen
      = scanOf 32 fs := by
  have h32 : fileHeaderLen = hd.length := by rw [hlen]; rfl
  rw [← Nat.sub_add_cancel (length_le_scanFuel hd fs tail), h32, scanFrames_all fs hwf hd tail, ← List.length_append,
    ← List.append_assoc, scanFrames_stop _ _ _ h, List.append_nil, hlen]

theorem le4_cons (v : Nat) : Spec.le 4 v =
    [(v % 256).toUInt8, (v / 256 % 256).toUInt8, (v / 256 / 256 % 256).toUInt8, (v / 256 / 256 / 256 % 256).toUInt8] := rfl

theorem parseFrame_frameHeader (t v : Nat) (hv : v < 2^32) (rest : Bytes) :
    Spec.parseFrame (Spec.frameHeader t v ++ rest) =
      if t.toUInt8 = 3 then some (3, v, [], rest)
      else if t.toUInt8 = 1 ∨ t.toUInt8 = 2 then
        if rest.length < Spec.roundUp8 v then none
        else some (t.toUInt8.toNat, v, rest.take v, rest.drop (Spec.roundUp8 v))
      else none := by
  have hval : (v % 256).toUInt8.toNat + 256 * ((v / 256 % 256).toUInt8.toNat + 256 * ((v / 256 / 256 % 256).toUInt8.toNat
      + 256 * (v / 256 / 256 / 256 % 256).toUInt8.toNat)) = v := getLE_specLe 4 v hv
  show Spec.parseFrame (t.toUInt8 :: 0 :: 0 :: 0 :: (v % 256).toUInt8 :: (v / 256 % 256).toUInt8
      :: (v / 256 / 256 % 256).toUInt8 :: (v / 256 / 256 / 256 % 256).toUInt8 :: rest) = _
  rw [Spec.parseFrame, hval]

theorem parseFrame_enc (f : Fr) (hf : f.WF) (rest : Bytes) :
    Spec.parseFrame (f.enc ++ rest) = some (f.typ, f.val, if f.typ = 3 then [] else f.payload, rest) := by
  obtain ⟨t, v, body⟩ := f
  obtain ⟨ht, hv, hb⟩ := hf
  simp only [Fr.len] at ht hv hb
  show Spec.parseFrame (Fr.enc ⟨t, v, body⟩ ++ rest) = some (t, v, if t = 3 then [] else body.take v, rest)
  rw [Fr.enc, List.append_assoc, parseFrame_frameHeader t v hv]
  rcases ht with rfl | rfl | rfl
  · have hb : body.length = Spec.roundUp8 v := hb
    rw [if_neg (by decide), if_pos (by decide), if_neg (by simp [hb]), if_neg (by decide),
      List.take_append_of_le_length (hb ▸ roundUp8_ge v), drop_app_len _ _ _ hb]
    rfl
  · have hb : body.length = Spec.roundUp8 v := hb
    rw [if_neg (by decide), if_pos (by decide), if_neg (by simp [hb]), if_neg (by decide),
      List.take_append_of_le_length (hb ▸ roundUp8_ge v), drop_app_len _ _ _ hb]
    rfl
  · have hb : body.length = 0 := by simpa [Spec.roundUp8] using hb
    rw [if_pos (by decide), if_pos rfl, List.eq_nil_of_length_eq_zero hb, List.nil_append]

def decStep (s : List Bytes × List Bytes) (f : Fr) : List Bytes × List Bytes :=
  if f.typ = 1 then (s.1, s.2 ++ [f.payload]) else if f.typ = 2 then s else (s.1 ++ s.2, [])

theorem decodeBody_step (f : Fr) (hf : f.WF) (rest : Bytes) (fuel : Nat) (c p : List Bytes) :
    Spec.decodeBody (fuel + 1) (f.enc ++ rest) c p
      = Spec.decodeBody fuel rest (decStep (c, p) f).1 (decStep (c, p) f).2 := by
  rw [Spec.decodeBody, parseFrame_enc f hf, decStep]
  rcases hf.typ with h | h | h <;> simp [h]

theorem decodeBody_all (fs : List Fr) (hwf : ∀ f ∈ fs, f.WF) (rest : Bytes) (fuel : Nat) (c p : List Bytes) :
    Spec.decodeBody (fuel + fs.length) (encAll fs ++ rest) c p
      = Spec.decodeBody fuel rest (fs.foldl decStep (c, p)).1 (fs.foldl decStep (c, p)).2 := by
  induction fs generalizing c p with
  | nil => rfl
  | cons f fs ih =>
    rw [encAll, List.append_assoc, List.length_cons, ← Nat.add_assoc,
      decodeBody_step f (hwf f List.mem_cons_self), ih (fun g hg => hwf g (List.mem_cons_of_mem _ hg))]
    rfl

theorem parseFrame_zeros (k : Nat) : Spec.parseFrame (zeros k) = none := by
  match k with
  | 0 | 1 | 2 | 3 | 4 | 5 | 6 | 7 => rfl
  | k + 8 =>
    have : zeros (k + 8) = 0 :: 0 :: 0 :: 0 :: 0 :: 0 :: 0 :: 0 :: zeros k := by
      simp [zeros, List.replicate_succ]
    rw [this, Spec.parseFrame]
    simp

theorem decodeBody_zeros (k fuel : Nat) (c p : List Bytes) : Spec.decodeBody fuel (zeros k) c p = c := by
  cases fuel with
  | zero => rfl
  | succ fuel => rw [Spec.decodeBody, parseFrame_zeros]

theorem readFrame_entry (pre post p : Bytes) (bufSize : Nat) (hbuf : 8 ≤ bufSize) (hp : p.length ≤ maxEntrySize)
    (hoff : pre.length + 8 < 2^32) :
    (readFrame (pre ++ (Spec.entryFrame p ++ post)) pre.length bufSize).map (·.1) = .ok p := by
  have hplt : p.length < 2^32 := Nat.lt_of_le_of_lt hp (by decide)
  generalize hX : p ++ (List.replicate (Spec.roundUp8 p.length - p.length) 0 ++ post) = X
  have hXp : X.take p.length = p := by rw [← hX]; exact take_app_len _ _ _ rfl
  have hXl : p.length ≤ X.length := by rw [← hX]; simp
  have hfile : pre ++ (Spec.entryFrame p ++ post) = pre ++ (Spec.frameHeader 1 p.length ++ X) := by
    rw [← hX]; simp only [Spec.entryFrame, List.append_assoc]
  have hbufv : readAt (pre ++ (Spec.frameHeader 1 p.length ++ X)) pre.length bufSize
      = Spec.frameHeader 1 p.length ++ X.take (bufSize - 8) := by
    rw [readAt_app _ _ _ _ rfl, take_app_ge _ _ _ (by simpa using hbuf), specFrameHeader_length]
  have hrd := readFrameHeader_frameHeader 1 p.length (Or.inl rfl) hplt (X.take (bufSize - 8))
  have hfh : fhOf 1 p.length = { typ := 1, len := p.length, crc := 0 } := rfl
  rw [hfile, readFrame]
  simp only [hbufv, hrd, hfh]
  rw [if_neg (by simp [frameHeaderLen])]
  by_cases hfit : frameHeaderLen + p.length ≤ (Spec.frameHeader 1 p.length ++ X.take (bufSize - 8)).length
  · rw [if_pos hfit]
    simp only [Except.map]
    congr 1
    rw [drop_app_len _ _ _ (by simp [frameHeaderLen]), List.take_take]
    have : p.length ≤ bufSize - 8 := by
      rw [frameHeaderLen, List.length_append, specFrameHeader_length, List.length_take] at hfit
      exact Nat.le_trans (Nat.le_of_add_le_add_left hfit) (Nat.min_le_left _ _)
    rw [Nat.min_eq_left this, hXp]
  · rw [if_neg hfit, if_neg (Nat.not_lt.mpr hp)]
    have hu : u32 (pre.length + frameHeaderLen) = (pre ++ Spec.frameHeader 1 p.length).length := by
      simp only [u32, frameHeaderLen, List.length_append, specFrameHeader_length]
      exact Nat.mod_eq_of_lt hoff
    rw [← List.append_assoc, readAt_app _ _ _ _ hu.symm, hXp, if_neg (Nat.lt_irrefl _)]
    rfl

end RaftWal
