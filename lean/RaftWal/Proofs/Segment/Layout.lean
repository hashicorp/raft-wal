/-
  Proofs/Segment/Layout.lean — the README layout (`Spec.layoutAcc`) batch by batch, as bytes and as a list of frames.
-/
import RaftWal.Proofs.Segment.Frames
namespace RaftWal
open Spec (Acc Batch addEntry addBatch)

def Fr.entry (p : Bytes) : Fr := ⟨1, p.length, p ++ List.replicate (Spec.roundUp8 p.length - p.length) 0⟩

def Fr.index (os : List Nat) : Fr :=
  ⟨2, ((os.map (Spec.le 4)).flatten).length,
    (os.map (Spec.le 4)).flatten ++ List.replicate (Spec.roundUp8 ((os.map (Spec.le 4)).flatten).length - ((os.map (Spec.le 4)).flatten).length) 0⟩

def Fr.commit (c : Nat) : Fr := ⟨3, c, []⟩

theorem Fr.entry_enc (p : Bytes) : (Fr.entry p).enc = Spec.entryFrame p := by
  simp only [Fr.enc, Fr.entry, Spec.entryFrame, List.append_assoc]

theorem Fr.index_enc (os : List Nat) : (Fr.index os).enc = Spec.indexFrame os := by
  simp only [Fr.enc, Fr.index, Spec.indexFrame, List.append_assoc]

theorem Fr.commit_enc (c : Nat) : (Fr.commit c).enc = Spec.commitFrame c := by
  simp only [Fr.enc, Fr.commit, Spec.commitFrame, List.append_nil]

theorem Fr.entry_wf (p : Bytes) (h : p.length < 2^32) : (Fr.entry p).WF := by
  refine ⟨Or.inl rfl, h, ?_⟩
  show (p ++ List.replicate (Spec.roundUp8 p.length - p.length) 0).length = Spec.roundUp8 p.length
  rw [List.length_append, List.length_replicate, add_sub_roundUp8]

theorem Fr.index_wf (os : List Nat) (h : 4 * os.length < 2^32) : (Fr.index os).WF := by
  refine ⟨Or.inr (Or.inl rfl), Nat.lt_of_le_of_lt (Nat.le_of_eq (flatten_le4_length os)) h, ?_⟩
  show ((os.map (Spec.le 4)).flatten ++ List.replicate _ 0).length = Spec.roundUp8 ((os.map (Spec.le 4)).flatten).length
  rw [List.length_append, List.length_replicate, add_sub_roundUp8]

theorem Fr.commit_wf (c : UInt32) : (Fr.commit c.toNat).WF := by
  refine ⟨Or.inr (Or.inr rfl), c.toNat_lt, ?_⟩
  simp [Fr.commit, Fr.len, Spec.roundUp8]

theorem Fr.entry_payload (p : Bytes) : (Fr.entry p).payload = p := by
  simp [Fr.payload, Fr.entry]

def offs (s : Nat) : List Bytes → List Nat
  | [] => []
  | p :: ps => s :: offs (s + encodedFrameSize p.length) ps

def encEntries : List Bytes → Bytes
  | [] => []
  | p :: ps => Spec.entryFrame p ++ encEntries ps

@[simp] theorem offs_length (s : Nat) (ps : List Bytes) : (offs s ps).length = ps.length := by
  induction ps generalizing s with
  | nil => rfl
  | cons p ps ih => simp [offs, ih]

theorem encEntries_append (a b : List Bytes) : encEntries (a ++ b) = encEntries a ++ encEntries b := by
  induction a with
  | nil => rfl
  | cons p ps ih => simp only [List.cons_append, encEntries, ih, List.append_assoc]

theorem encEntries_eq_encAll (ps : List Bytes) : encEntries ps = encAll (ps.map Fr.entry) := by
  induction ps with
  | nil => rfl
  | cons p ps ih => simp only [encEntries, List.map_cons, encAll, Fr.entry_enc, ih]

theorem foldl_addEntry (a : Acc) (ps : List Bytes) :
    ps.foldl addEntry a = { bytes := a.bytes ++ encEntries ps, offsets := a.offsets ++ offs a.bytes.length ps,
                            commitStart := a.commitStart } := by
  induction ps generalizing a with
  | nil => simp [encEntries, offs]
  | cons p ps ih =>
    simp only [List.foldl_cons, ih, addEntry, encEntries, offs, List.append_assoc, List.length_append,
      specEntryFrame_length, List.cons_append, List.nil_append]

theorem offs_bound (s : Nat) (ps : List Bytes) : ∀ o ∈ offs s ps, o + 8 ≤ s + (encEntries ps).length := by
  induction ps generalizing s with
  | nil => intro o h; cases h
  | cons p ps ih =>
    intro o h
    rw [encEntries, List.length_append, specEntryFrame_length, ← Nat.add_assoc]
    rcases List.mem_cons.mp h with rfl | h
    · rw [encodedFrameSize_eq, ← Nat.add_assoc]
      exact Nat.le_trans (Nat.le_add_right _ _) (Nat.le_add_right _ _)
    · exact ih _ o h

theorem encEntries_length_le (ps : List Bytes) : (encEntries ps).length ≤ (ps.map (fun p => 16 + p.length)).sum := by
  induction ps with
  | nil => simp [encEntries]
  | cons p ps ih =>
    have := roundUp8_lt p.length
    simp only [encEntries, List.length_append, specEntryFrame_length, List.map_cons, List.sum_cons, encodedFrameSize_eq]
    omega

theorem mem_length_le_encEntries (ps : List Bytes) : ∀ p ∈ ps, p.length + 8 ≤ (encEntries ps).length := by
  induction ps with
  | nil => intro p h; cases h
  | cons q ps ih =>
    intro p h
    rw [encEntries, List.length_append, specEntryFrame_length, encodedFrameSize_eq]
    rcases List.mem_cons.mp h with rfl | h
    · rw [Nat.add_comm p.length 8]
      exact Nat.le_trans (Nat.add_le_add_left (roundUp8_ge _) 8) (Nat.le_add_right _ _)
    · exact Nat.le_trans (ih p h) (Nat.le_add_left _ _)

def idxPart (sealing : Bool) (os : List Nat) : Bytes := if sealing then Spec.indexFrame os else []

/-- the file up to the commit frame of batch `b`, `a` being the accumulator before the batch -/
def batchBody (a : Acc) (b : Batch) : Bytes :=
  a.bytes ++ encEntries b.payloads ++ idxPart b.sealing (a.offsets ++ offs a.bytes.length b.payloads)

def batchCrc (a : Acc) (b : Batch) : UInt32 := crc32c ((batchBody a b).drop a.commitStart)

theorem addBatch_eq (a : Acc) (b : Batch) :
    addBatch a b = { bytes := batchBody a b ++ Spec.commitFrame (batchCrc a b).toNat,
                     offsets := a.offsets ++ offs a.bytes.length b.payloads,
                     commitStart := (batchBody a b).length + 8 } := by
  obtain ⟨ps, s⟩ := b
  cases s
  · simp only [addBatch, foldl_addEntry, batchBody, batchCrc, idxPart, Bool.false_eq_true, if_false, List.append_nil,
      List.length_append, specCommitFrame_length]
  · simp only [addBatch, foldl_addEntry, batchBody, batchCrc, idxPart, if_true,
      List.length_append, specCommitFrame_length]

theorem addBatch_length (a : Acc) (b : Batch) : (addBatch a b).bytes.length = (batchBody a b).length + 8 := by
  rw [addBatch_eq]; simp

theorem batchBody_length_ge (a : Acc) (b : Batch) : a.bytes.length + (encEntries b.payloads).length ≤ (batchBody a b).length := by
  simp [batchBody]

theorem indexFrame_length_le (os : List Nat) : (Spec.indexFrame os).length ≤ 16 + 4 * os.length := by
  have := roundUp8_lt (4 * os.length)
  rw [specIndexFrame_length, encodedFrameSize_eq]; omega

theorem addBatch_offsets_length (a : Acc) (b : Batch) :
    (addBatch a b).offsets.length = a.offsets.length + b.payloads.length := by
  rw [addBatch_eq, List.length_append, offs_length]

/-- a batch takes at most 16 bytes per entry beyond the payloads, a commit frame, and the index frame if it seals -/
theorem addBatch_length_le (a : Acc) (ps : List Bytes) (s : Bool) :
    (addBatch a ⟨ps, s⟩).bytes.length ≤ a.bytes.length + ((ps.map (fun p => 16 + p.length)).sum + 8)
      + (if s then 16 + 4 * (a.offsets.length + ps.length) else 0) := by
  have hel := encEntries_length_le ps
  have hil : (idxPart s (a.offsets ++ offs a.bytes.length ps)).length
      ≤ if s then 16 + 4 * (a.offsets.length + ps.length) else 0 := by
    cases s
    · exact Nat.le_refl 0
    · have := indexFrame_length_le (a.offsets ++ offs a.bytes.length ps)
      rwa [List.length_append, offs_length] at this
  rw [addBatch_eq]
  simp only [batchBody, List.length_append, specCommitFrame_length]
  omega

def batchFrames (a : Acc) (b : Batch) : List Fr :=
  b.payloads.map Fr.entry
    ++ ((if b.sealing then [Fr.index (a.offsets ++ offs a.bytes.length b.payloads)] else []) ++ [Fr.commit (batchCrc a b).toNat])

theorem addBatch_bytes (a : Acc) (b : Batch) : (addBatch a b).bytes = a.bytes ++ encAll (batchFrames a b) := by
  rw [addBatch_eq]
  simp only [batchBody, batchFrames, encAll_append, ← encEntries_eq_encAll, idxPart, List.append_assoc]
  cases b.sealing <;> simp [encAll, Fr.index_enc, Fr.commit_enc]

def allFrames (a : Acc) : List Batch → List Fr
  | [] => []
  | b :: bs => batchFrames a b ++ allFrames (addBatch a b) bs

theorem allFrames_singleton (a : Acc) (b : Batch) : allFrames a [b] = batchFrames a b := List.append_nil _

theorem allFrames_append (a : Acc) (xs ys : List Batch) :
    allFrames a (xs ++ ys) = allFrames a xs ++ allFrames (xs.foldl addBatch a) ys := by
  induction xs generalizing a with
  | nil => rfl
  | cons b xs ih => simp only [List.cons_append, allFrames, ih, List.foldl_cons, List.append_assoc]

theorem foldl_addBatch_bytes (a : Acc) (bs : List Batch) :
    (bs.foldl addBatch a).bytes = a.bytes ++ encAll (allFrames a bs) := by
  induction bs generalizing a with
  | nil => simp [allFrames, encAll]
  | cons b bs ih => simp only [List.foldl_cons, ih, addBatch_bytes, allFrames, encAll_append, List.append_assoc]

theorem foldl_addBatch_length_ge (a : Acc) (bs : List Batch) : a.bytes.length ≤ (bs.foldl addBatch a).bytes.length := by
  rw [foldl_addBatch_bytes]; simp

/-- the layout accumulator before the first batch -/
def acc0 (info : SegInfo) : Acc := ⟨Spec.header info.base info.id info.codec, [], 0⟩

end RaftWal
