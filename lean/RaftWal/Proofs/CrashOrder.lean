/-
  Proofs/CrashOrder.lean — order along the chain of segments; hence where an append lands and from where the first
  kept segment of a truncation shows.
-/
import RaftWal.Proofs.CrashInv
namespace RaftWal.Crash

theorem visF_sealed_getLast {s : Seg} {f : File} (h : SealedFile s f) : ∃ e, (visF f s).getLast? = some (s.max, e) := by
  have hc : f.content = f.synced := by rw [File.content, h.pend, List.append_nil]
  have hlt : f.base < s.max + 1 := by rw [h.base]; exact Nat.lt_succ_of_le (Nat.le_trans h.bm h.mm)
  have hk : f.base + (s.max + 1 - f.base) = s.max + 1 := Nat.add_sub_cancel' (Nat.le_of_lt hlt)
  have hlen : (f.synced.take (s.max + 1 - f.base)).length = s.max + 1 - f.base := by
    rw [List.length_take]
    exact Nat.min_eq_left (Nat.le_of_add_le_add_left (by rw [hk]; exact h.mx))
  obtain ⟨e, he⟩ := visU_getLast (mn := s.min) (b := f.base) (x := f.synced.take (s.max + 1 - f.base))
    (List.ne_nil_of_length_pos (by rw [hlen]; exact Nat.sub_pos_of_lt hlt))
    (by rw [hlen, hk]; exact Nat.lt_succ_of_le h.mm)
  refine ⟨e, ?_⟩
  rw [visF_of_sealed h.sl, hc, visU_filter_le, he, hlen, hk]
  rfl

theorem QO.empty {d : Disk} {P : List Seg} {t : Seg} {f : File} (h : QO d P t f) (he : absLog d = []) :
    P = [] ∧ f.synced = [] := by
  rw [h.log_eq] at he
  have := List.append_eq_nil_iff.1 he
  refine ⟨?_, Classical.byContradiction fun hx => visU_ne_nil hx (h.vis hx) this.2⟩
  -- a sealed segment shows at least its last entry
  cases P with
  | nil => rfl
  | cons s P =>
    obtain ⟨fs, hf, hsf⟩ := h.base.sealed s List.mem_cons_self
    obtain ⟨e, hl⟩ := visF_sealed_getLast hsf
    rw [logP_cons, segEntries_some hf] at this
    rw [(List.append_eq_nil_iff.1 this.1).1] at hl
    cases hl

/-- the next index to append is the end of the tail's file -/
theorem QO.next {d : Disk} {P : List Seg} {t : Seg} {f : File} (h : QO d P t f) (hne : absLog d ≠ []) :
    lastIndex d + 1 = f.base + f.synced.length := by
  unfold lastIndex
  rw [h.log_eq] at hne ⊢
  by_cases hx : f.synced = []
  · -- the tail's file is empty: the log ends with the last sealed segment, and the tail starts right after it
    rw [hx, visU_nil, List.append_nil] at hne ⊢
    rcases eq_nil_or_snoc P with rfl | ⟨P0, p, rfl⟩
    · exact absurd rfl hne
    · obtain ⟨fp, hf, hsf⟩ := h.base.sealed p List.mem_concat_self
      obtain ⟨e, he⟩ := visF_sealed_getLast hsf
      have hch := h.base.chain
      rw [chainOK_append] at hch
      rw [logP_append, logP_single, segEntries_some hf, List.getLast?_append, he, h.qt.base,
        (hch.2.2 p t List.getLast?_concat rfl).1]
      rfl
  · obtain ⟨e, he⟩ := visU_getLast hx (h.vis hx)
    rw [List.getLast?_append, he]
    exact Nat.sub_add_cancel (Nat.le_trans (List.length_pos_iff.2 hx) (Nat.le_add_left _ _))

/-- `a` lies wholly before `b` -/
def SegLt (a b : Seg) : Prop := a.max < b.base ∧ a.base ≤ a.max

theorem chain_pairwise (l : List Seg) (t : Seg) (h : chainOK (l ++ [t]) = true) (hb : ∀ s ∈ l, s.base ≤ s.max) :
    (l ++ [t]).Pairwise SegLt := by
  induction l with
  | nil => exact List.pairwise_singleton _ _
  | cons a l ih =>
    have ih := ih (chainOK_tail h) (fun s hs => hb s (List.mem_cons_of_mem _ hs))
    rw [List.cons_append]
    refine List.pairwise_cons.2 ⟨fun b hb' => ⟨?_, hb a List.mem_cons_self⟩, ih⟩
    -- the next segment `c` starts at `a.max + 1`; a later one lies after `c`
    cases hl : l ++ [t] with
    | nil => exact absurd hl (List.append_ne_nil_of_right_ne_nil _ (List.cons_ne_nil _ _))
    | cons c rest =>
      rw [List.cons_append, hl] at h
      rw [hl] at ih hb'
      have hc : a.max < c.base := by rw [((chainOK_cons_cons a c rest).1 h).1.1]; exact Nat.lt_succ_self _
      rcases List.mem_cons.1 hb' with rfl | hb'
      · exact hc
      · have := (List.pairwise_cons.1 ih).1 b hb'
        exact Nat.lt_trans (Nat.lt_of_lt_of_le hc this.2) this.1

theorem SealedOK.bounds {d : Disk} {s : Seg} (h : SealedOK d s) : s.base ≤ s.min ∧ s.min ≤ s.max := by
  obtain ⟨f, _, hsf⟩ := h
  exact ⟨hsf.bm, hsf.mm⟩

theorem pw_core {d : Disk} {P : List Seg} {t : Seg} (hsealed : ∀ s ∈ P, SealedOK d s)
    (hchain : chainOK (P ++ [t]) = true) : (P ++ [t]).Pairwise SegLt :=
  chain_pairwise P t hchain (fun s hs => Nat.le_trans (hsealed s hs).bounds.1 (hsealed s hs).bounds.2)

theorem Base.pw {d : Disk} {P : List Seg} {t : Seg} (hb : Base d P t) : (P ++ [t]).Pairwise SegLt :=
  pw_core hb.sealed hb.chain

theorem mem_sealed {d : Disk} {s : Seg} (h : SealedOK d s) {p : Nat × Entry} (hp : p ∈ segEntries d s) :
    s.min ≤ p.1 ∧ p.1 ≤ s.max := by
  obtain ⟨f, hf, hsf⟩ := h
  rw [segEntries_some hf] at hp
  have := mem_visF hp
  exact ⟨this.1, this.2.1 hsf.sl⟩

theorem logP_filter_ge_nil {d : Disk} {D : List Seg} {m : Nat} (hs : ∀ s ∈ D, SealedOK d s)
    (hm : ∀ s ∈ D, s.max < m) : (logP d D).filter (fun p => decide (m ≤ p.1)) = [] :=
  logP_filter_nil fun s h _ hp =>
    decide_eq_false (Nat.not_le.2 (Nat.lt_of_le_of_lt (mem_sealed (hs s h) hp).2 (hm s h)))

theorem logP_filter_ge_all {d : Disk} {D : List Seg} {m : Nat} (hs : ∀ s ∈ D, SealedOK d s)
    (hm : ∀ s ∈ D, m ≤ s.min) : (logP d D).filter (fun p => decide (m ≤ p.1)) = logP d D :=
  logP_filter_all fun s h _ hp => decide_eq_true (Nat.le_trans (hm s h) (mem_sealed (hs s h) hp).1)

theorem logP_filter_le_nil {d : Disk} {D : List Seg} {m : Nat} (hs : ∀ s ∈ D, SealedOK d s)
    (hm : ∀ s ∈ D, m < s.min) : (logP d D).filter (fun p => decide (p.1 ≤ m)) = [] :=
  logP_filter_nil fun s h _ hp =>
    decide_eq_false (Nat.not_le.2 (Nat.lt_of_lt_of_le (hm s h) (mem_sealed (hs s h) hp).1))

theorem logP_filter_le_all {d : Disk} {D : List Seg} {m : Nat} (hs : ∀ s ∈ D, SealedOK d s)
    (hm : ∀ s ∈ D, s.max ≤ m) : (logP d D).filter (fun p => decide (p.1 ≤ m)) = logP d D :=
  logP_filter_all fun s h _ hp => decide_eq_true (Nat.le_trans (mem_sealed (hs s h) hp).2 (hm s h))

theorem QInv.seg_base_le_min {d : Disk} {P : List Seg} {t : Seg} (h : QInv d P t) {s : Seg} (hs : s ∈ P ++ [t]) :
    s.base ≤ s.min :=
  forall_mem_concat (Q := fun s => s.base ≤ s.min) (fun s h1 => (h.sealed s h1).bounds.1)
    (by obtain ⟨f, _, hq⟩ := h.tail; exact hq.bm) s hs

theorem Base.seg_base_le_min {d : Disk} {P : List Seg} {t : Seg} (hb : Base d P t) {s : Seg} (hs : s ∈ P ++ [t]) :
    s.base ≤ s.min :=
  forall_mem_concat (Q := fun s => s.base ≤ s.min) (fun s h1 => (hb.sealed s h1).bounds.1) hb.tbm s hs

theorem ge_min_core {d : Disk} {P : List Seg} {t : Seg} (hsegs : d.md.segs = P ++ [t])
    (hsealed : ∀ s ∈ P, SealedOK d s) (hchain : chainOK (P ++ [t]) = true) (htbm : t.base ≤ t.min) {s0 : Seg}
    {rest : List Seg} (hs : P ++ [t] = s0 :: rest) {p : Nat × Entry} (hp : p ∈ absLog d) : s0.min ≤ p.1 := by
  rw [absLog_eq, hsegs] at hp
  obtain ⟨s, hsm, hps⟩ := mem_logP hp
  have hmin : s.min ≤ p.1 := by
    rw [segEntries_eq] at hps
    cases hf : d.file? s.id with
    | none => rw [hf] at hps; cases hps
    | some f => rw [hf] at hps; exact (mem_visF hps).1
  have hbs : s.base ≤ s.min := by
    rcases List.mem_append.1 hsm with h1 | h1
    · exact (hsealed s h1).bounds.1
    · cases List.mem_singleton.1 h1; exact htbm
  cases P with
  | nil =>
    cases hs
    cases List.mem_singleton.1 hsm
    exact hmin
  | cons a P =>
    -- a segment after the first lies behind it, and the first is a sealed one
    cases hs
    rcases List.mem_cons.1 hsm with rfl | hsm'
    · exact hmin
    · have hlt := ((List.pairwise_cons.1 (pw_core hsealed hchain)).1 s hsm').1
      exact Nat.le_trans (hsealed s0 List.mem_cons_self).bounds.2
        (Nat.le_trans (Nat.le_of_lt hlt) (Nat.le_trans hbs hmin))

theorem Base.ge_min {d : Disk} {P : List Seg} {t : Seg} (hb : Base d P t) {s0 : Seg} {rest : List Seg}
    (hs : P ++ [t] = s0 :: rest) {p : Nat × Entry} (hp : p ∈ absLog d) : s0.min ≤ p.1 :=
  ge_min_core hb.segs hb.sealed hb.chain hb.tbm hs hp

theorem Base.min_cases {d : Disk} {P : List Seg} {t : Seg} (hb : Base d P t) {A B : List Seg} {s : Seg}
    (e : P ++ [t] = A ++ s :: B) (hne : absLog d ≠ []) :
    s.min ≤ firstIndex d ∨ ∃ p ∈ A, s.base = p.max + 1 ∧ s.min = s.base := by
  rcases eq_nil_or_snoc A with rfl | ⟨A0, p, rfl⟩
  · obtain ⟨q, hq, hq1⟩ := firstIndex_mem hne
    exact Or.inl (hq1 ▸ hb.ge_min e hq)
  · have hch := hb.chain
    rw [e, chainOK_append] at hch
    exact Or.inr ⟨p, List.mem_append_right _ (List.mem_singleton.2 rfl), hch.2.2 p s List.getLast?_concat rfl⟩

theorem head_min_le {d : Disk} {P : List Seg} {t : Seg} (hb : Base d P t) {D rest : List Seg} {h : Seg}
    (e : P ++ [t] = D ++ h :: rest) {newMin : Nat} (hD : ∀ s ∈ D, s.max < newMin) (hne : absLog d ≠ [])
    (hfirst : firstIndex d < newMin) : h.min ≤ newMin := by
  rcases hb.min_cases e hne with h1 | ⟨p, hp, h1, h2⟩
  · exact Nat.le_trans h1 (Nat.le_of_lt hfirst)
  · rw [h2, h1]; exact hD p hp

theorem Base.seg_min_le {d : Disk} {P : List Seg} {t : Seg} (hb : Base d P t) {A B : List Seg} {s : Seg}
    (e : P ++ [t] = A ++ s :: B) (hne : absLog d ≠ []) {m : Nat} (hf : firstIndex d ≤ m) (hbm : s.base ≤ m) :
    s.min ≤ m := by
  rcases hb.min_cases e hne with h1 | ⟨p, _, _, h2⟩
  · exact Nat.le_trans h1 hf
  · rw [h2]; exact hbm

end RaftWal.Crash
