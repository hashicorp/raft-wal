/-
  Proofs/FaultProps.lean — the fault theorems about Model/Fault.lean (statements: Proofs/FaultStmt.lean), assembled from
  the per-call analyses (FaultStore: store, FaultDelHead: delHead, FaultSet: set, FaultDelTail: delTail), the restart
  analysis (FaultRestart), the fresh states (FaultStates), the agreement with the crash model (FaultNoFault) and the
  history lemmas (FaultHistory).
-/
import RaftWal.Proofs.FaultStmt
import RaftWal.Proofs.FaultStore
import RaftWal.Proofs.FaultDelHead
import RaftWal.Proofs.FaultSet
import RaftWal.Proofs.FaultDelTail
import RaftWal.Proofs.FaultRestart
import RaftWal.Proofs.FaultNoFault
import RaftWal.Proofs.FaultExamples
namespace RaftWal.Fault
open RaftWal.Crash

/-! ### fresh states -/
theorem fresh_view : fresh_view_stmt := E.fresh_view
theorem fresh_inv : fresh_inv_stmt := E.fresh_inv
theorem init_fresh : init_fresh_stmt := E.init_fresh
theorem no_fault_agrees : no_fault_agrees_stmt := E.no_fault_agrees

/-! ### one call -/

/-- every legal call under any fault plan, from any state of the invariant: the four per-call facts -/
theorem call_ok (p : Proc) (hi : FInv p) (op : Op) (hok : OkV (view p) op) (pl : Plan) : A.CallOK p op pl := by
  cases op with
  | store first es seals => exact A.store_spec p hi first es seals hok pl
  | delHead newMin => exact B.delHead_spec p hi newMin hok pl
  | delTail newMax => exact C.delTail_spec p hi newMax hok pl
  | set key val => exact B.set_spec p hi key val pl

theorem finv_call : finv_call_stmt :=
  fun p hi op hok pl => ⟨(call_ok p hi.1 op hok pl).inv, (call_ok p hi.1 op hok pl).extra hi.2⟩

theorem call_view : call_view_stmt := fun p hi op hok pl => (call_ok p hi op hok pl).vw

theorem call_disklog : call_disklog_stmt := fun p hi op hok pl => (call_ok p hi op hok pl).dlog

namespace D

/-- a stopped process refuses every call but `set`: `FInvS` is kept -/
theorem finvS_call_stopped (p : Proc) (hi : FInvS p) (hs : p.frozen.isSome = true) (op : Op) (pl : Plan) :
    FInvS (runOp p op pl).1 := by
  cases op with
  | set key val => exact ⟨(B.set_spec p hi.1 key val pl).inv, (B.set_spec p hi.1 key val pl).extra hi.2⟩
  | _ => rw [B.runOp_frozen hs (fun _ _ h => by cases h)]; exact hi

end D

/-! ### restart -/
theorem restart_total : restart_total_stmt := D.restart_total
theorem restart_view : restart_view_stmt := D.restart_view
/-- for `FInv` alone the two statements are false -/
theorem restart_total_refuted : ¬ restart_total_stmt0 := D.restart_total_refuted
theorem restart_view_refuted : ¬ restart_view_stmt0 := D.restart_view_refuted

/-! ### histories -/
theorem epoch_inv : epoch_inv_stmt := E.epoch_inv_of' finv_call
theorem epoch_view : epoch_view_stmt := E.epoch_view_of' finv_call call_view
theorem epoch_restart : epoch_restart_stmt :=
  E.epoch_restart_of' finv_call call_view call_disklog restart_total restart_view

end RaftWal.Fault
