/-
  Proofs/FaultDisk.lean — `runActs`, action by action; the disks the fault invariant speaks of (`vdisk d`: what the
  process believes, `cl d`: without what failed calls left behind), file by file.
-/
import RaftWal.Proofs.FaultStmt

namespace RaftWal.Fault.B
open RaftWal.Crash

/-! ### `runActs` step by step -/

theorem runActs_nil (d : Disk) (pl : Plan) : runActs d [] pl = (d, none, pl) := by
  unfold runActs
  rfl

theorem runActs_cons_nil (d : Disk) (a : Act) (as : List Act) :
    runActs d (a :: as) [] = runActs (applyF d a) as [] := rfl

theorem runActs_cons_none (d : Disk) (a : Act) (as : List Act) (pl : Plan) :
    runActs d (a :: as) (none :: pl) = runActs (applyF d a) as pl := rfl

theorem runActs_commit_fail (d : Disk) (wf : WriteFail) (m : Meta) (as : List Act) (pl : Plan) :
    runActs d (.commit m :: as) (some wf :: pl) = (d, some (.commit m), pl) := rfl

theorem runActs_create_fail (d : Disk) (wf : WriteFail) (id b : Nat) (as : List Act) (pl : Plan) :
    runActs d (.create id b :: as) (some wf :: pl) = (d, some (.create id b), pl) := rfl

theorem runActs_delete_fail (d : Disk) (wf : WriteFail) (id : Nat) (as : List Act) (pl : Plan) :
    runActs d (.delete id :: as) (some wf :: pl) = runActs d as pl := rfl

@[simp] theorem applyF_commit (d : Disk) (m : Meta) : applyF d (.commit m) = { d with md := m } := rfl
@[simp] theorem applyF_delete (d : Disk) (id : Nat) : applyF d (.delete id) = d.apply (.delete id) := rfl
@[simp] theorem applyF_create (d : Disk) (id b : Nat) : applyF d (.create id b) = d.apply (.create id b) := rfl

/-- a stopped process refuses every call but `set` -/
theorem runOp_frozen {p : Proc} (hs : p.frozen.isSome = true) {op : Op} (hop : ∀ k v, op ≠ .set k v) (pl : Plan) :
    runOp p op pl = (p, false) := by
  cases op with
  | set k v => exact absurd rfl (hop k v)
  | _ => simp only [runOp, hs, ↓reduceIte]

end RaftWal.Fault.B

namespace RaftWal.Fault.A
open RaftWal.Crash

/-- one action that goes through, whatever the plan says about the rest -/
theorem runActs_ok_cons (d : Disk) (a : Act) (as : List Act) (pl : Plan) (h : pl.head? ≠ some none → pl = []) :
    ∃ pl', runActs d (a :: as) pl = runActs (applyF d a) as pl' := by
  match pl with
  | [] => exact ⟨[], B.runActs_cons_nil d a as⟩
  | none :: pl => exact ⟨pl, B.runActs_cons_none d a as pl⟩
  | some wf :: pl => exact absurd (h (by simp)) (by simp)

/-! ### one file replaced -/

def updT (d : Disk) (id : Nat) (g : File → File) : Disk := { d with files := updFile d.files id g }

@[simp] theorem updT_md (d : Disk) (id : Nat) (g : File → File) : (updT d id g).md = d.md := rfl

theorem updT_file? (d : Disk) (id : Nat) (g : File → File) (hg : ∀ f, (g f).id = f.id) (j : Nat) :
    (updT d id g).file? j = if j = id then (d.file? j).map g else d.file? j :=
  look_updFile d.files id g hg j

theorem updT_fids (d : Disk) (id : Nat) (g : File → File) (hg : ∀ f, (g f).id = f.id) :
    fids (updT d id g) = fids d := by
  simp only [fids, updT, updFile, List.map_map]
  apply List.map_congr_left
  intro f _
  simp only [Function.comp]
  split
  · exact hg f
  · rfl

/-! ### what lies beyond the writer's offset -/

def setPend (x : List Entry) (b : Bool) (f : File) : File := { f with pending := x, sealedP := b }

theorem applyF_write (d : Disk) (id : Nat) (es : List Entry) (sl : Bool) :
    applyF d (.write id es sl) = updT d id (setPend es sl) := rfl

theorem failEffect_nothing (d : Disk) (id : Nat) (es : List Entry) (sl : Bool) :
    failEffect d .nothing (.write id es sl) = d := rfl
theorem failEffect_garbage (d : Disk) (id : Nat) (es : List Entry) (sl : Bool) :
    failEffect d .garbage (.write id es sl) = updT d id (setPend [] false) := rfl
theorem failEffect_whole (d : Disk) (id : Nat) (es : List Entry) (sl : Bool) :
    failEffect d .whole (.write id es sl) = updT d id (setPend es sl) := rfl

/-! ### `vdisk`, `strip`; logs depend on the segment list and the files only -/

@[simp] theorem vdisk_md (d : Disk) : (vdisk d).md = d.md := rfl

@[simp] theorem strip_md (d : Disk) : (strip d).md = d.md := rfl

theorem look_filter_id (fs : List File) (q : Nat → Bool) (j : Nat) :
    look (fs.filter (fun f => q f.id)) j = if q j then look fs j else none := by
  unfold look
  induction fs with
  | nil => simp
  | cons a l ih =>
    rw [List.filter_cons]
    by_cases e : a.id = j
    · subst e
      cases hq : q a.id <;> simp [hq, ih]
    · cases q a.id <;> simp [e, ih]

theorem logP_files {d1 d2 : Disk} (h : d1.files = d2.files) (P : List Seg) : logP d1 P = logP d2 P := by
  unfold logP segEntries Disk.file?
  rw [h]

theorem absLog_congr {d1 d2 : Disk} (hs : d1.md.segs = d2.md.segs) (hf : d1.files = d2.files) : absLog d1 = absLog d2 := by
  rw [absLog_eq, absLog_eq, hs]; exact logP_files hf _

end RaftWal.Fault.A

namespace RaftWal.Fault.B
open RaftWal.Crash RaftWal.Fault.A

/-! ### an action under any plan -/

/-- the actions whose failure ends the list and leaves the disk as it is: all but pwrite and Delete -/
def failsUnchanged : Act → Bool
  | .write _ _ _ => false
  | .delete _ => false
  | _ => true

theorem runActs_failsUnchanged (d : Disk) (a : Act) (as : List Act) (pl : Plan) (ha : failsUnchanged a = true) :
    (∃ pl', runActs d (a :: as) pl = (d, some a, pl')) ∨ ∃ pl', runActs d (a :: as) pl = runActs (d.apply a) as pl' := by
  have he : applyF d a = d.apply a := by
    cases a with
    | write => cases ha
    | _ => rfl
  match pl with
  | some wf :: pl =>
    refine Or.inl ⟨pl, ?_⟩
    cases a with
    | write => cases ha
    | delete => cases ha
    | commit m => exact runActs_commit_fail d wf m as pl
    | create id b => exact runActs_create_fail d wf id b as pl
    | _ => rfl
  | [] => exact Or.inr (he ▸ runActs_ok_cons d a as [] (fun _ => rfl))
  | none :: pl => exact Or.inr (he ▸ runActs_ok_cons d a as (none :: pl) (fun h => absurd rfl h))

/-! ### lists of actions -/

theorem runActs_append (d : Disk) (as bs : List Act) (pl : Plan) :
    runActs d (as ++ bs) pl =
      match runActs d as pl with
      | (d1, none, pl1) => runActs d1 bs pl1
      | r => r := by
  induction as generalizing d pl with
  | nil => rfl
  | cons a as ih =>
    rcases pl with _ | ⟨_ | wf, pl⟩
    · rw [List.cons_append, runActs_cons_nil, runActs_cons_nil, ih]
    · rw [List.cons_append, runActs_cons_none, runActs_cons_none, ih]
    · cases a with
      | delete id => rw [List.cons_append, runActs_delete_fail, runActs_delete_fail, ih]
      | _ => rfl

/-- the meta state a truncation or a rotation commits: the segments `sg` are kept, a new tail starts at `b` -/
def tailMeta (d : Disk) (sg : List Seg) (b : Nat) : Meta :=
  ⟨d.md.nextID + 1, sg ++ [newSeg d.md.nextID b], d.md.stable⟩

theorem newTailActs_eq (d : Disk) (sg : List Seg) (b : Nat) :
    newTailActs d.md sg b = [.commit (tailMeta d sg b), .create d.md.nextID b] := rfl

theorem runActs_newTail (d : Disk) (m : Meta) (id b : Nat) (rest : List Act) (pl : Plan) :
    (∃ pl', runActs d ([.commit m, .create id b] ++ rest) pl = (d, some (.commit m), pl')) ∨
    (∃ pl', runActs d ([.commit m, .create id b] ++ rest) pl = (d.apply (.commit m), some (.create id b), pl')) ∨
    ∃ pl', runActs d ([.commit m, .create id b] ++ rest) pl =
      runActs ((d.apply (.commit m)).apply (.create id b)) rest pl' := by
  rcases runActs_failsUnchanged d (.commit m) (.create id b :: rest) pl rfl with h | ⟨pl1, e1⟩
  · exact Or.inl h
  · rcases runActs_failsUnchanged (d.apply (.commit m)) (.create id b) rest pl1 rfl with ⟨pl2, e2⟩ | ⟨pl2, e2⟩
    · exact Or.inr (Or.inl ⟨pl2, e1.trans e2⟩)
    · exact Or.inr (Or.inr ⟨pl2, e1.trans e2⟩)

/-- a pwrite fails, leaving nothing, part or the whole of the batch beyond the writer's offset, or goes through -/
theorem runActs_write (d : Disk) (id : Nat) (es : List Entry) (sl : Bool) (as : List Act) (pl : Plan) :
    (∃ wf pl', runActs d (.write id es sl :: as) pl = (failEffect d wf (.write id es sl), some (.write id es sl), pl')) ∨
    ∃ pl', runActs d (.write id es sl :: as) pl = runActs (updT d id (setPend es sl)) as pl' := by
  rw [← applyF_write]
  match pl with
  | some wf :: pl => exact Or.inl ⟨wf, pl, rfl⟩
  | [] => exact Or.inr (runActs_ok_cons d _ as [] (fun _ => rfl))
  | none :: pl => exact Or.inr (runActs_ok_cons d _ as (none :: pl) (fun h => absurd rfl h))

/-- after a run of deletions (any number of which may fail) only files with one of the identifiers may be missing;
    nothing is reported -/
theorem runActs_deletes (ids : List Nat) (d : Disk) (pl : Plan) :
    ∃ (g : Nat → Bool) (pl' : Plan), (∀ j, j ∉ ids → g j = true) ∧
      runActs d (ids.map .delete) pl = ({ d with files := d.files.filter (fun f => g f.id) }, none, pl') := by
  induction ids generalizing d pl with
  | nil =>
    refine ⟨fun _ => true, pl, fun _ _ => rfl, ?_⟩
    rw [List.map_nil, runActs_nil, List.filter_eq_self.2 (fun _ _ => rfl)]
  | cons a l ih =>
    have went : ∀ pl1, ∃ (g : Nat → Bool) (pl' : Plan), (∀ j, j ∉ a :: l → g j = true) ∧
        runActs (d.apply (.delete a)) (l.map .delete) pl1 =
          ({ d with files := d.files.filter (fun f => g f.id) }, none, pl') := by
      intro pl1
      obtain ⟨g, pl', hg, hr⟩ := ih (d.apply (.delete a)) pl1
      refine ⟨fun j => decide (j ≠ a) && g j, pl', ?_, ?_⟩
      · intro j hj
        simp only [List.mem_cons, not_or] at hj
        simp [hj.1, hg j hj.2]
      · rw [hr]
        simp only [Disk.apply, List.filter_filter, Bool.and_comm]
    match pl with
    | [] => exact went []
    | none :: pl => exact went pl
    | some wf :: pl =>
      rw [List.map_cons, runActs_delete_fail]
      obtain ⟨g, pl', hg, hr⟩ := ih d pl
      exact ⟨g, pl', fun j hj => hg j (fun h => hj (List.mem_cons_of_mem _ h)), hr⟩

/-! ### `vdisk` and the clean disk `cl` -/

@[simp] theorem vfile_id (f : File) : (vfile f).id = f.id := rfl

theorem vdisk_file? (d : Disk) (j : Nat) : (vdisk d).file? j = (d.file? j).map vfile :=
  look_map d.files vfile vfile_id j

/-- what `cleanTail` does to the tail's file -/
def cleanF (f : File) : File := { f with pending := [], sealedP := false, sealedS := false }

@[simp] theorem cleanF_id (f : File) : (cleanF f).id = f.id := rfl

theorem cleanTail_eq {d : Disk} {t : Seg} (h : d.md.segs.getLast? = some t) : cleanTail d = updT d t.id cleanF := by
  unfold cleanTail
  rw [h]
  rfl

/-- the clean disk of the invariant -/
def cl (d : Disk) : Disk := cleanTail (strip d)

/-- some segment has identifier `j` -/
def named (segs : List Seg) (j : Nat) : Bool := segs.any (fun s => s.id == j)

theorem named_iff {segs : List Seg} {j : Nat} : named segs j = true ↔ j ∈ segIds segs := by
  simp [named, segIds]

theorem named_of_mem {segs : List Seg} {s : Seg} (hs : s ∈ segs) : named segs s.id = true :=
  named_iff.2 (List.mem_map.2 ⟨s, hs, rfl⟩)

@[simp] theorem cl_md (d : Disk) : (cl d).md = d.md := by
  unfold cl cleanTail
  split <;> rfl

theorem cl_files {d : Disk} {t : Seg} (h : d.md.segs.getLast? = some t) :
    (cl d).files = updFile (d.files.filter (fun f => named d.md.segs f.id)) t.id cleanF := by
  unfold cl
  rw [cleanTail_eq (d := strip d) h]
  rfl

theorem cl_file? {d : Disk} {t : Seg} (h : d.md.segs.getLast? = some t) (j : Nat) :
    (cl d).file? j =
      if named d.md.segs j then (if j = t.id then (d.file? j).map cleanF else d.file? j) else none := by
  rw [file?_eq_look, cl_files h, look_updFile _ t.id cleanF cleanF_id, look_filter_id, file?_eq_look]
  cases named d.md.segs j <;> simp

end RaftWal.Fault.B
