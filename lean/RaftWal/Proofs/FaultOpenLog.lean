/-
  Proofs/FaultOpenLog.lean — Open from ANY `Rec` state recovers exactly the log the disk stands for
  (`open_log`): the crash development only says "an admissible log"; a clean restart after I/O errors needs the exact one.
  Route: when Open's first action is the fsync of the tail, Open of the disk and Open of the disk after that fsync leave
  the same state (the fsync is idempotent), and after the fsync the tail has nothing pending, so `open_final` with the
  one admissible log `absLog d` applies.
-/
import RaftWal.Proofs.CrashProps
namespace RaftWal.Crash.D

/-! ### fsync is idempotent -/

theorem apply_fsync_eq_D (d : Disk) (id : Nat) :
    d.apply (.fsync id) =
      { d with files := if dirSync d id then (updFile d.files id File.fs).map File.lk else updFile d.files id File.fs } := rfl

theorem File.fs_fs_D (g : File) : g.fs.fs = g.fs := by simp [File.fs]
theorem File.fs_lk_fs_D (g : File) : g.fs.lk.fs = g.fs.lk := by simp [File.fs, File.lk]

theorem updFile_self_D {fs : List File} {id : Nat} {g : File → File} (h : ∀ f ∈ fs, f.id = id → g f = f) :
    updFile fs id g = fs := by
  unfold updFile
  conv => rhs; rw [← List.map_id fs]
  apply List.map_congr_left
  intro f hf
  by_cases e : f.id = id
  · simp [e, h f hf e]
  · simp [e]

theorem fsync_idem_D {d : Disk} {id : Nat} {f : File} (hf : d.file? id = some f) :
    (d.apply (.fsync id)).apply (.fsync id) = d.apply (.fsync id) := by
  have hds : dirSync (d.apply (.fsync id)) id = false := by
    unfold dirSync
    rw [apply_fsync_file?]
    simp only [↓reduceIte, hf, Option.map_some]
    cases dirSync d id <;> simp [File.fs, File.lk]
  rw [apply_fsync_eq_D (d.apply (.fsync id))]
  simp only [hds, Bool.false_eq_true, ↓reduceIte]
  have : updFile (d.apply (.fsync id)).files id File.fs = (d.apply (.fsync id)).files := by
    apply updFile_self_D
    intro g hg hid
    rw [apply_fsync_eq_D] at hg
    simp only at hg
    cases hd : dirSync d id with
    | true =>
      simp only [hd, ↓reduceIte, List.mem_map, updFile] at hg
      obtain ⟨g1, ⟨g0, _, rfl⟩, rfl⟩ := hg
      by_cases e : g0.id = id
      · simp only [e, ↓reduceIte, File.fs_lk_fs_D]
      · simp only [e, ↓reduceIte, File.lk_id] at hid
    | false =>
      simp only [hd, Bool.false_eq_true, ↓reduceIte, List.mem_map, updFile] at hg
      obtain ⟨g0, _, rfl⟩ := hg
      by_cases e : g0.id = id
      · simp only [e, ↓reduceIte, File.fs_fs_D]
      · simp only [e, ↓reduceIte] at hid
  rw [this]

/-! ### the orphans only depend on the identifiers present -/

theorem orphanIds_eq_D (d : Disk) :
    orphanIds d = (fids d).filter (fun j => !d.md.segs.any (fun s => decide (s.id = j))) := by
  unfold orphanIds fids
  rw [List.filter_map]
  rfl

theorem orphanIds_congr_D {d d' : Disk} (hm : d'.md = d.md) (hf : fids d' = fids d) : orphanIds d' = orphanIds d := by
  rw [orphanIds_eq_D, orphanIds_eq_D, hm, hf]

/-! ### the log of a `Rec` state -/

theorem rec_log_some {A : Log → Prop} {d : Disk} {P : List Seg} {t : Seg} (h : Rec A d P t) {f : File}
    (hf : d.file? t.id = some f) : absLog d = logP d P ++ visU t.min f.base (f.synced ++ f.pending) := by
  rw [absLog_eq, h.base.segs, logP_append, logP_single, segEntries_some hf, visF_unsealed h.base.tsl]
  rfl

theorem rec_log_none {A : Log → Prop} {d : Disk} {P : List Seg} {t : Seg} (h : Rec A d P t)
    (hf : d.file? t.id = none) : absLog d = logP d P := by
  rw [absLog_eq, h.base.segs, logP_append, logP_single, segEntries_none hf, List.append_nil]

/-! ### Open after the tail's fsync -/

theorem openPre_fsync {A : Log → Prop} {d : Disk} {P : List Seg} {t : Seg} (h : Rec A d P t) {f : File}
    (hf : d.file? t.id = some f) (hce : (f.content.isEmpty && !f.isSealed) = false) :
    openPre (d.apply (.fsync t.id)) t = openPre d t ∧ ∃ X, openPre d t = .fsync t.id :: X := by
  obtain ⟨f1, hf1, g1, g2, g3, g4, g5, _, _⟩ := fsync_file h.base.hl hf
  have hid : f.id = t.id := (file?_some_mem hf).2
  have hid1 : f1.id = t.id := (file?_some_mem hf1).2
  have hc : f1.content = f.content := by simp [File.content, g2, g3]
  have hs : f1.isSealed = f.isSealed := by simp [File.isSealed, g4, g5]
  have hl : f1.lastIdx = f.lastIdx := by simp [File.lastIdx, hc, g1]
  constructor
  · unfold openPre
    simp only [hf, hf1, hc, hs, hl, hid, hid1, apply_fsync_md]
  · unfold openPre
    simp only [hf, hce, Bool.false_eq_true, ↓reduceIte, hid, List.cons_append, List.nil_append]
    exact ⟨_, rfl⟩

/-- Open of a disk whose tail is to be fsynced first = Open of the disk after that fsync -/
theorem openResult_fsync {A : Log → Prop} {d : Disk} {P : List Seg} {t : Seg} (h : Rec A d P t) {f : File}
    (hf : d.file? t.id = some f) (hce : (f.content.isEmpty && !f.isSealed) = false) :
    openResult (d.apply (.fsync t.id)) = openResult d := by
  have h1 : Rec A (d.apply (.fsync t.id)) P t := h.fsync hf (h.tsome f hf).a2
  obtain ⟨e1, X, e2⟩ := openPre_fsync h hf hce
  unfold openResult
  rw [open_shape h, open_shape h1, e1, orphanDeletes_eq, orphanDeletes_eq,
    orphanIds_congr_D (d := d) (d' := d.apply (.fsync t.id)) rfl (fids_fsync _ _), e2]
  simp only [Option.map_some, List.cons_append, applyAll_cons, fsync_idem_D hf]

/-- **Open recovers exactly the log the disk stands for**, from any state of the recovery invariant -/
theorem open_log {A : Log → Prop} {d d' : Disk} {P : List Seg} {t : Seg} (h : Rec A d P t)
    (ho : openResult d = some d') : absLog d' = absLog d := by
  cases hf : d.file? t.id with
  | none =>
    have h' : Rec (fun l => l = absLog d) d P t :=
      ⟨h.base, fun f hf' => (by rw [hf] at hf'; cases hf'), fun _ => ⟨(h.tnone hf).1, (rec_log_none h hf).symm⟩⟩
    exact (open_final ⟨P, t, h'⟩ ho).2.1
  | some f =>
    have hr := h.tsome f hf
    cases hce : (f.content.isEmpty && !f.isSealed) with
    | true =>
      simp only [Bool.and_eq_true, List.isEmpty_iff, File.content, List.append_eq_nil_iff] at hce
      have hl := rec_log_some h hf
      have h' : Rec (fun l => l = absLog d) d P t := by
        refine ⟨h.base, ?_, fun hn => by rw [hf] at hn; cases hn⟩
        intro g hg
        rw [hf] at hg; cases hg
        refine ⟨hr.base, hr.lk, hr.mn, hr.vis, hr.ss, hr.sp, ?_, hl.symm⟩
        rw [hl, hce.1.2, List.append_nil]
      exact (open_final ⟨P, t, h'⟩ ho).2.1
    | false =>
      have h1 : Rec (fun l => l = absLog d) (d.apply (.fsync t.id)) P t := h.fsync hf (rec_log_some h hf).symm
      rw [← openResult_fsync h hf hce] at ho
      exact (open_final ⟨P, t, h1⟩ ho).2.1

/-- Open from a state of the recovery invariant: it succeeds, leaves a `QuiescentS` state, the log and the stable store
    are exactly the ones the disk stood for -/
theorem open_rec_total {A : Log → Prop} {d : Disk} {P : List Seg} {t : Seg} (h : Rec A d P t) :
    ∃ d', openResult d = some d' ∧ QuiescentS d' ∧ absLog d' = absLog d ∧ d'.md.stable = d.md.stable := by
  have hs := open_isSome ⟨P, t, h⟩
  cases ho : openProg d with
  | none => rw [ho] at hs; cases hs
  | some as =>
    have ho' : openResult d = some (d.applyAll as) := by unfold openResult; rw [ho]; rfl
    obtain ⟨hq, _, hst⟩ := open_final ⟨P, t, h⟩ ho'
    exact ⟨_, ho', (quiescentS_iff _).2 hq, open_log h ho', hst⟩

/-- a process crash does not change the log the disk stands for -/
theorem absLog_crash_proc_D (d : Disk) : absLog (d.crash .proc) = absLog d := by
  rw [absLog_eq, absLog_eq, crash_md]
  apply flatMap_congr'
  intro s _
  rw [segEntries_eq, segEntries_eq, crash_proc_file?]
  cases d.file? s.id with
  | none => rfl
  | some f => rfl

end RaftWal.Crash.D
