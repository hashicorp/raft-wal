/-
  Proofs/CrashRestart.lean — what holds of every `Quiescent` state as it stands (`QInv`), without the two extra facts
  of `QuiescentS` that everything else assumes.
-/
import RaftWal.Proofs.CrashOpen
import RaftWal.Proofs.CrashOrder
namespace RaftWal.Crash

theorem mem_ack_snoc (as : List Act) : Act.ack ∈ as ++ [.ack] := List.mem_append_right _ (List.mem_singleton.2 rfl)

theorem store_has_ack {d : Disk} {P : List Seg} {t : Seg} (h : QInv d P t) (first : Nat) (es : List Entry) (sl : Bool) :
    Act.ack ∈ storeProg d first es sl := by
  -- whether or not the tail is replaced, the meta store names a tail when the append starts
  have hne : (d.applyAll (resetActs d first).1).md.segs.getLast? ≠ none := by
    unfold resetActs
    rw [h.last]
    dsimp only
    split
    · show ((d.apply _).apply (.create _ _)).md.segs.getLast? ≠ none
      rw [apply_create_md, apply_commit_md, List.getLast?_concat]
      exact Option.some_ne_none _
    · rw [applyAll_nil, h.last]; exact Option.some_ne_none _
  unfold storeProg
  generalize resetActs d first = r at hne
  obtain ⟨a1, del⟩ := r
  show Act.ack ∈ (match (d.applyAll a1).md.segs.getLast? with | none => a1 | some t => _)
  cases hl : (d.applyAll a1).md.segs.getLast? with
  | none => exact absurd hl hne
  | some t1 => exact List.mem_append_left _ (List.mem_append_right _ (mem_ack_snoc _))

theorem delTail_has_ack {d : Disk} {P : List Seg} {t : Seg} (h : QInv d P t) {newMax : Nat}
    (hok : (Op.delTail newMax).ok d) : Act.ack ∈ delTailProg d newMax := by
  -- the first segment is kept: its base is at or below the first index
  have hne : (d.md.segs.filter (fun s => decide (s.base ≤ newMax))).getLast? ≠ none := by
    cases hsegs : P ++ [t] with
    | nil => exact absurd hsegs (List.append_ne_nil_of_right_ne_nil _ (List.cons_ne_nil _ _))
    | cons s0 rest =>
      obtain ⟨q, hq, hq1⟩ := firstIndex_mem hok.1
      have h1 := ge_min_core h.segs h.sealed h.chain (h.seg_base_le_min List.mem_concat_self)
        hsegs hq
      have h2 := h.seg_base_le_min (s := s0) (hsegs ▸ List.mem_cons_self)
      have : s0 ∈ d.md.segs.filter (fun s => decide (s.base ≤ newMax)) := by
        rw [h.segs, hsegs]
        exact List.mem_filter.2 ⟨List.mem_cons_self,
          decide_eq_true (Nat.le_trans h2 (Nat.le_trans h1 (hq1 ▸ hok.2.1)))⟩
      intro hc
      rw [List.getLast?_eq_none_iff.1 hc] at this
      cases this
  unfold delTailProg
  show Act.ack ∈ (match (d.md.segs.filter (fun s => decide (s.base ≤ newMax))).getLast? with | none => [] | some t => _)
  cases hl : (d.md.segs.filter (fun s => decide (s.base ≤ newMax))).getLast? with
  | none => exact absurd hl hne
  | some t1 => exact mem_ack_snoc _

theorem delHead_has_ack (d : Disk) (newMin : Nat) : Act.ack ∈ delHeadProg d newMin := by
  unfold delHeadProg
  dsimp only
  split
  · exact mem_ack_snoc _
  · exact mem_ack_snoc _

/-- every program of a legal call contains the point at which it returns -/
theorem prog_has_ack (d : Disk) (hq : Quiescent d) (op : Op) (hok : op.ok d) : ackPos (prog d op) < (prog d op).length := by
  obtain ⟨P, t, h⟩ := (quiescent_iff d).1 hq
  refine List.findIdx_lt_length_of_exists ⟨.ack, ?_, by simp⟩
  cases op with
  | store first es sl => exact store_has_ack h first es sl
  | delHead newMin => exact delHead_has_ack d newMin
  | delTail newMax => exact delTail_has_ack h hok
  | set k v => exact List.mem_cons_of_mem _ List.mem_cons_self

theorem open_quiescent_shape {d : Disk} {P : List Seg} {t : Seg} (h : QInv d P t) {f : File}
    (hf : d.file? t.id = some f) :
    openProg d = some (if f.content.isEmpty then [] else [.fsync t.id]) := by
  obtain ⟨f0, hf0, hq⟩ := h.tail
  rw [hf] at hf0; cases hf0
  have horph : orphanDeletes d d.md = [] := by
    unfold orphanDeletes
    rw [List.map_eq_nil_iff, List.filter_eq_nil_iff]
    intro g hg
    obtain ⟨s, hs, e⟩ := h.sub g hg
    simp only [Bool.not_eq_eq_eq_not, Bool.not_true, List.any_eq_false, decide_eq_true_eq]
    rw [h.segs]
    exact fun hc => hc s hs e
  rw [openProg_eq h.segs h.sealed hq.sl, horph, List.append_nil,
    openPre_unsealed hf (by rw [File.isSealed, hq.ss, hq.sp]; rfl)]

/-- a clean restart (no crash inside any call) changes nothing -/
theorem restart_identity (d : Disk) (hq : Quiescent d) :
    ∃ d', openResult (d.crash .proc) = some d' ∧ Quiescent d' ∧ absLog d' = absLog d ∧ d'.md.stable = d.md.stable := by
  obtain ⟨P, t, h⟩ := (quiescent_iff d).1 hq
  obtain ⟨f, hf, hqt⟩ := h.tail
  have hf0 : (d.crash .proc).file? t.id = some f.unh := by rw [crash_proc_file?, hf]; rfl
  have h0 := h.transfer (d' := d.crash .proc) (crash_md d .proc) (fun s _ => keeps_crash_proc d s.id)
    (fids_crash_proc d) hf hf0
    ⟨hqt.base, hqt.pend, hqt.sp, hqt.bm, hqt.b1, hqt.sl, hqt.ss, hqt.lk, hqt.mn⟩ rfl rfl
  unfold openResult
  rw [open_quiescent_shape h0.1 hf0]
  by_cases hce : f.unh.content.isEmpty = true
  · rw [if_pos hce]
    exact ⟨_, rfl, (quiescent_iff _).2 ⟨P, t, h0.1⟩, h0.2, crash_md d .proc ▸ rfl⟩
  · -- Open fsyncs the tail's file, which has nothing pending
    rw [if_neg hce]
    refine ⟨_, rfl, ?_⟩
    obtain ⟨f2, hf2, g1, g2, g3, g4, g5, g6, _⟩ := fsync_file (HL_crash d h.nodupF .proc) hf0
    have hs2 : f2.synced = f.synced := by rw [g2]; simp [File.unh, hqt.pend]
    have h1 := h0.1.transfer (d' := (d.crash .proc).apply (.fsync t.id)) rfl
      (fun s hs => keeps_fsync _ _ (h0.1.tid_ne s hs)) (fids_fsync _ _) hf0 hf2
      ⟨g1.trans hqt.base, g3, g5, hqt.bm, hqt.b1, hqt.sl, by rw [g4]; simp [File.unh, hqt.ss, hqt.sp], Or.inl g6,
        by rw [g1, hs2]; exact hqt.mn⟩
      g1 (by rw [File.content, File.content, g2, g3, List.append_nil])
    exact ⟨(quiescent_iff _).2 ⟨P, t, h1.1⟩, h1.2.trans h0.2, crash_md d .proc ▸ rfl⟩

end RaftWal.Crash
