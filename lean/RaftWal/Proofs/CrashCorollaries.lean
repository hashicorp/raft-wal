/-
  Proofs/CrashCorollaries.lean — the crash theorems of CrashProps.lean specialised to the shapes the properties
  C01–C04, C08, C13 are worded in.
-/
import RaftWal.Proofs.CrashProps
namespace RaftWal.Crash

/-- does a call remove index `i` from the log? -/
def Op.removes : Op → Nat → Bool
  | .delHead newMin, i => decide (i < newMin)
  | .delTail newMax, i => decide (newMax < i)
  | _, _ => false

def appended (first : Nat) (es : List Entry) : List (Nat × Entry) :=
  ((List.range es.length).zip es).map (fun p => (first + p.1, p.2))

theorem specApply_store' (l : List (Nat × Entry)) (first : Nat) (es : List Entry) (s : Bool) :
    specApply l (.store first es s) = l ++ appended first es := rfl

theorem mem_specApply_of_not_removed (l : List (Nat × Entry)) (op : Op) (p : Nat × Entry) (hp : p ∈ l)
    (hr : op.removes p.1 = false) : p ∈ specApply l op := by
  cases op with
  | store first es s => exact List.mem_append_left _ hp
  | delHead newMin =>
    simp only [Op.removes, decide_eq_false_iff_not, Nat.not_lt] at hr
    simp only [specApply, List.mem_filter, decide_eq_true_eq]
    exact ⟨hp, hr⟩
  | delTail newMax =>
    simp only [Op.removes, decide_eq_false_iff_not, Nat.not_lt] at hr
    simp only [specApply, List.mem_filter, decide_eq_true_eq]
    exact ⟨hp, hr⟩
  | set k v => exact hp

/-- **C01**: an entry that is in the log when a call starts, and that the call does not delete, is in the log every
    recovery comes back with — whatever the call (append with or without rotation or base reset, truncation, stable
    write), wherever it is cut, whatever the crash, however many recoveries are themselves cut -/
theorem entries_survive (d : Disk) (hq : QuiescentS d) (op : Op) (hok : op.ok d) (k : Nat) (c : CrashKind)
    (d1 d' : Disk) (hr : ReachRec (crashAfter d (prog d op) k c) d1) (ho : openResult d1 = some d')
    (p : Nat × Entry) (hp : p ∈ absLog d) (hnr : op.removes p.1 = false) : p ∈ absLog d' := by
  obtain ⟨_, h, _⟩ := crash_safe_corrected d hq op hok k c d1 d' hr ho
  rcases h with h | h
  · rw [h]; exact hp
  · rw [h]; exact mem_specApply_of_not_removed _ op p hp hnr

/-- **C01**: once StoreLogs has returned, the recovered log is the old log followed by exactly the appended entries -/
theorem acked_append_survives (d : Disk) (hq : QuiescentS d) (first : Nat) (es : List Entry) (s : Bool)
    (hok : (Op.store first es s).ok d) (k : Nat) (c : CrashKind) (d1 d' : Disk)
    (hr : ReachRec (crashAfter d (prog d (.store first es s)) k c) d1) (ho : openResult d1 = some d')
    (hack : ackPos (prog d (.store first es s)) < k) :
    absLog d' = absLog d ++ appended first es ∧ QuiescentS d' := by
  obtain ⟨hq', _, h⟩ := crash_safe_corrected d hq _ hok k c d1 d' hr ho
  exact ⟨by rw [h hack]; rfl, hq'⟩

/-- **C02**: an append cut by a crash is recovered as absent or whole, never in part, and nothing else appears -/
theorem append_all_or_nothing (d : Disk) (hq : QuiescentS d) (first : Nat) (es : List Entry) (s : Bool)
    (hok : (Op.store first es s).ok d) (k : Nat) (c : CrashKind) (d1 d' : Disk)
    (hr : ReachRec (crashAfter d (prog d (.store first es s)) k c) d1) (ho : openResult d1 = some d') :
    absLog d' = absLog d ∨ absLog d' = absLog d ++ appended first es := by
  obtain ⟨_, h, _⟩ := crash_safe_corrected d hq _ hok k c d1 d' hr ho
  rcases h with h | h
  · exact Or.inl h
  · exact Or.inr (by rw [h]; rfl)

/-- **C03**: recovery terminates in a usable log: Open succeeds after any crash history and leaves a state from
    which every legal call behaves as specified (and is itself crash-safe, by the theorems above) -/
theorem recovery_usable (d : Disk) (hq : QuiescentS d) (op : Op) (hok : op.ok d) (k : Nat) (c : CrashKind)
    (d1 : Disk) (hr : ReachRec (crashAfter d (prog d op) k c) d1) :
    ∃ d', openResult d1 = some d' ∧ QuiescentS d' ∧
      ∀ op', op'.ok d' → QuiescentS (d'.applyAll (prog d' op')) ∧ absLog (d'.applyAll (prog d' op')) = specApply (absLog d') op' := by
  obtain ⟨as, has⟩ := Option.isSome_iff_exists.1 (open_never_fails_corrected d hq op hok k c d1 hr)
  have ho : openResult d1 = some (d1.applyAll as) := by simp [openResult, has]
  have hq' := (crash_safe_corrected d hq op hok k c d1 _ hr ho).1
  exact ⟨_, ho, hq', fun op' hok' => call_refines_corrected _ hq' op' hok'⟩

/-- **C04**: a truncation cut by a crash leaves the old log or the truncated log; once DeleteRange has returned it
    is the truncated log, after every later restart -/
theorem truncation_atomic (d : Disk) (hq : QuiescentS d) (op : Op) (htr : (∃ m, op = .delHead m) ∨ (∃ m, op = .delTail m))
    (hok : op.ok d) (k : Nat) (c : CrashKind) (d1 d' : Disk)
    (hr : ReachRec (crashAfter d (prog d op) k c) d1) (ho : openResult d1 = some d') :
    (absLog d' = absLog d ∨ absLog d' = specApply (absLog d) op) ∧
    (ackPos (prog d op) < k → absLog d' = specApply (absLog d) op) := by
  have := htr
  exact (crash_safe_corrected d hq op hok k c d1 d' hr ho).2

/-- **C13**: after every recovery the directory holds exactly the files of the segments the meta store lists (orphans
    of interrupted truncations and rotations are gone) and every identifier in use is below NextSegmentID -/
theorem recovered_dir_exact (d : Disk) (hq : QuiescentS d) (op : Op) (hok : op.ok d) (k : Nat) (c : CrashKind)
    (d1 d' : Disk) (hr : ReachRec (crashAfter d (prog d op) k c) d1) (ho : openResult d1 = some d') :
    (∀ f ∈ d'.files, ∃ s ∈ d'.md.segs, s.id = f.id) ∧ (∀ s ∈ d'.md.segs, (d'.file? s.id).isSome) ∧
    (∀ s ∈ d'.md.segs, s.id < d'.md.nextID) :=
  quiescent_dir_exact d' (crash_safe_corrected d hq op hok k c d1 d' hr ho).1.1

end RaftWal.Crash
