/-
  Proofs/SegmentChainFault.lean — byte-level crash chains with I/O faults (segment model L1; C02 × C10): the events
  of `ChainEv` plus `failed b fault`, an `Append` that fails on an injected I/O fault and leaves what landed behind
  the write offset (Proofs/SegmentChainFaultDefs.lean).

  FINDING.  The intended statement `chain_atomic_faults_stmt` — CRC-32C collision,
  or the final state holds the acknowledged batches plus whole admissible batches only — is FALSE in the model, and
  the model is `segment/writer.go` line by line here (`Append`'s deferred rollback is in memory only; `recoverTail`
  scans on past the accepted commit; a commit's CRC covers the bytes since the previous commit FRAME IN SCAN ORDER).
  Stale bytes of a failed append are not frame-aligned with what is written over them, so the scan can enter the
  stale PAYLOAD bytes of the failed batch and parse them as frames.  A payload that contains a well-formed
  `entry frame* ++ commit frame` sequence is then recovered as a batch, with a CRC that genuinely matches:
    * `faultW3`: append; failed(.sync) of one entry whose payload embeds `entryFrame [42] ++ commitFrame crc`;
      acknowledged SHORTER append; restart  ⇒  entry `[42]` is recovered at the next index: FABRICATED (never
      submitted as an entry), no torn write and no power loss involved, only an fsync error and a later restart.
    * `faultW1`: append; failed(.sync); failed(.write 8) of the two-entry batch `[[], [9]]`; restart  ⇒  HALF of
      the second failed batch (its first entry only) is recovered: PARTIAL.
    * `faultW2`: append; failed(.sync); torn `[[], [9]]` with only its first chunk landed  ⇒  same partial outcome
      from a torn append over stale bytes.

  What does hold is `chain_atomic_faults_partial`: chains in which every failed append fails on its fsync and is
  immediately followed by a restart.
-/
import RaftWal.Proofs.SegmentChainFaultDefs
namespace RaftWal

/-- `chainSpecF p evs bs`: the batches `bs` the events `evs` may contribute when `p` is the pending failed batch
    (the LAST failed append since the previous recovery, not overwritten by a later acknowledged append).
    `append b` contributes `b` (and kills the pending batch), `failed b _` contributes nothing and becomes pending,
    a recovery (`restart`, or the one inside `torn b _`) contributes nothing, or the pending batch whole, or (torn)
    the in-flight batch whole. -/
def chainSpecF : Option (List Bytes) → List ChainEvF → List (List Bytes) → Prop
  | _, [], bs => bs = []
  | _, .append b :: evs, bs => ∃ bs', bs = b :: bs' ∧ chainSpecF none evs bs'
  | _, .failed b _ :: evs, bs => chainSpecF (some b) evs bs
  | p, .restart :: evs, bs =>
      chainSpecF none evs bs ∨ ∃ c bs', p = some c ∧ bs = c :: bs' ∧ chainSpecF none evs bs'
  | p, .torn b _ :: evs, bs =>
      chainSpecF none evs bs ∨ (∃ bs', bs = b :: bs' ∧ chainSpecF none evs bs')
        ∨ ∃ c bs', p = some c ∧ bs = c :: bs' ∧ chainSpecF none evs bs'

def pendingAfter : Option (List Bytes) → List ChainEvF → Option (List Bytes)
  | p, [] => p
  | _, .append _ :: evs => pendingAfter none evs
  | _, .failed b _ :: evs => pendingAfter (some b) evs
  | _, .restart :: evs => pendingAfter none evs
  | _, .torn _ _ :: evs => pendingAfter none evs

/-- may stale bytes lie behind the write offset after the events? (a failed append since the last recovery) -/
def dirtyAfter : Bool → List ChainEvF → Bool
  | d, [] => d
  | d, .append _ :: evs => dirtyAfter d evs
  | _, .failed _ _ :: evs => dirtyAfter true evs
  | _, .restart :: evs => dirtyAfter false evs
  | _, .torn _ _ :: evs => dirtyAfter false evs

def ChainEvF.batches : ChainEvF → List (List Bytes)
  | .append b => [b]
  | .restart => []
  | .torn b _ => [b]
  | .failed b _ => [b]

def ChainEvF.faultOk : ChainEvF → Prop
  | .failed _ f => f ≠ .none
  | _ => True

def chainBatchesF (evs : List ChainEvF) : List (List Bytes) := evs.flatMap ChainEvF.batches

structure ChainWFF (info : SegInfo) (evs : List ChainEvF) : Prop where
  nonempty   : ∀ b ∈ chainBatchesF evs, b ≠ []
  payload_le : ∀ b ∈ chainBatchesF evs, ∀ p ∈ b, p.length ≤ maxEntrySize
  faults     : ∀ e ∈ evs, e.faultOk
  base_lt    : info.base < 2^64
  id_lt      : info.id < 2^64
  codec_lt   : info.codec < 2^64
  limit_lt   : info.sizeLimit < 2^32
  size_lt    : runBytesBound (chainBatchesF evs) < 2^32
  fits       : runBytesBound (chainBatchesF evs).dropLast ≤ info.sizeLimit

theorem pendingAfter_append (l1 l2 : List ChainEvF) : ∀ p, pendingAfter p (l1 ++ l2) = pendingAfter (pendingAfter p l1) l2 := by
  induction l1 with
  | nil => intro p; rfl
  | cons e l ih => intro p; cases e <;> simp only [List.cons_append, pendingAfter, ih]

theorem dirtyAfter_append (l1 l2 : List ChainEvF) : ∀ d, dirtyAfter d (l1 ++ l2) = dirtyAfter (dirtyAfter d l1) l2 := by
  induction l1 with
  | nil => intro d; rfl
  | cons e l ih => intro d; cases e <;> simp only [List.cons_append, dirtyAfter, ih]

theorem chainSpecF_append (l1 l2 : List ChainEvF) : ∀ p bs1 bs2, chainSpecF p l1 bs1 →
    chainSpecF (pendingAfter p l1) l2 bs2 → chainSpecF p (l1 ++ l2) (bs1 ++ bs2) := by
  induction l1 with
  | nil => intro p bs1 bs2 h1 h2; simp only [chainSpecF] at h1; subst h1; exact h2
  | cons e l ih =>
    intro p bs1 bs2 h1 h2
    cases e with
    | append b =>
      simp only [List.cons_append, chainSpecF, pendingAfter] at h1 h2 ⊢
      obtain ⟨bs', rfl, h'⟩ := h1
      exact ⟨bs' ++ bs2, rfl, ih none bs' bs2 h' h2⟩
    | failed b f =>
      simp only [List.cons_append, chainSpecF, pendingAfter] at h1 h2 ⊢
      exact ih (some b) bs1 bs2 h1 h2
    | restart =>
      simp only [List.cons_append, chainSpecF, pendingAfter] at h1 h2 ⊢
      rcases h1 with h | ⟨c, bs', hp, rfl, h'⟩
      · exact Or.inl (ih none bs1 bs2 h h2)
      · exact Or.inr ⟨c, bs' ++ bs2, hp, rfl, ih none bs' bs2 h' h2⟩
    | torn b m =>
      simp only [List.cons_append, chainSpecF, pendingAfter] at h1 h2 ⊢
      rcases h1 with h | ⟨bs', rfl, h'⟩ | ⟨c, bs', hp, rfl, h'⟩
      · exact Or.inl (ih none bs1 bs2 h h2)
      · exact Or.inr (Or.inl ⟨bs' ++ bs2, rfl, ih none bs' bs2 h' h2⟩)
      · exact Or.inr (Or.inr ⟨c, bs' ++ bs2, hp, rfl, ih none bs' bs2 h' h2⟩)

theorem chainBatchesF_snoc (evs : List ChainEvF) (e : ChainEvF) :
    chainBatchesF (evs ++ [e]) = chainBatchesF evs ++ e.batches := by simp [chainBatchesF]

/-- `RegionCollision`, spelled out, of the image a recovery reads with the file the complete append of `c` would leave -/
def StaleRegionCollision (info : SegInfo) (w : Writer) (img : Bytes) (c : List Bytes) : Prop :=
  ∃ w' file', w.append img (indexBatch (chainNext info w) c) .none = (none, w', file') ∧
    batchRegion img w.writeOffset w'.writeOffset ≠ batchRegion file' w.writeOffset w'.writeOffset ∧
    crc32c (batchRegion img w.writeOffset w'.writeOffset) = crc32c (batchRegion file' w.writeOffset w'.writeOffset)

/-- the image the recovery of event `e` reads from state `s` (`none`: `e` is not a recovery) -/
def recoveryImage (info : SegInfo) (s : Writer × Bytes) : ChainEvF → Option Bytes
  | .restart => some s.2
  | .torn b mask =>
    match s.1.append s.2 (indexBatch (chainNext info s.1) b) .none with
    | (none, w', file') => some (tearImage s.2 file' s.1.writeOffset (w'.writeOffset - s.1.writeOffset) mask)
    | _ => none
  | _ => none

/-- the complete batches whose commit frame a recovery may meet: the pending failed one, the in-flight one -/
def candidates (p : Option (List Bytes)) : ChainEvF → List (List Bytes)
  | .torn b _ => b :: p.toList
  | _ => p.toList

/-- some recovery along the chain reads an image in which the region of a candidate batch (the in-flight torn one,
    or the pending failed one) is a CRC-32C collision of that batch's bytes -/
def ChainCollisionF (info : SegInfo) (evs : List ChainEvF) : Prop :=
  ∃ pre e post s img c, evs = pre ++ e :: post
    ∧ chainRunF info (freshSegment info) pre = .ok s
    ∧ recoveryImage info s e = some img
    ∧ c ∈ candidates (pendingAfter none pre) e
    ∧ StaleRegionCollision info s.1 img c

structure FaultResult (info : SegInfo) (evs : List ChainEvF) (w : Writer) (file : Bytes) (bs : List (List Bytes)) : Prop where
  run      : chainRunF info (freshSegment info) evs = .ok (w, file)
  /-- `bs`: every acknowledged batch; at a recovery possibly one admissible batch, whole -/
  spec     : chainSpecF none evs bs
  /-- nothing else: the writer knows exactly the entries of `bs` -/
  count    : w.offsets.length = bs.flatten.length
  readable : info.min = info.base → ∀ (k : Nat) (hk : k < bs.flatten.length) (bufSize : Nat), 8 ≤ bufSize →
               w.getLog file (info.base + k) bufSize = .ok (bs.flatten[k]'hk)
  nothingAbove : ∀ (idx bufSize : Nat), info.base + bs.flatten.length ≤ idx →
               (0 < idx → w.getLog file idx bufSize = .error .notFound) ∧ ∃ e, w.getLog file idx bufSize = .error e
  /-- after a recovery (no failed append since) the region behind the write offset is all zeros again -/
  clean    : dirtyAfter false evs = false → ∀ x ∈ file.drop w.writeOffset, x = 0

/-- FALSE: `chain_atomic_faults_false` -/
def chain_atomic_faults_stmt : Prop :=
  ∀ (info : SegInfo) (evs : List ChainEvF), ChainWFF info evs →
    ChainCollisionF info evs ∨ ∃ w file bs, FaultResult info evs w file bs

def faultInfo : SegInfo :=
  { id := 7, base := 5, min := 5, max := 0, codec := 1, indexStart := 0, sizeLimit := 400, sealed := false }

/-- a payload that embeds a one-entry batch: 8 bytes, the frame of entry `[42]`, a commit frame with its CRC -/
def phantomPayload : Bytes :=
  zeros 8 ++ entryFrame [42] ++ commitFrame (crc32c (entryFrame [42])).toNat

/-- fsync error on a batch with that payload; an acknowledged shorter append (one empty entry: 16 bytes, ends
    exactly where the embedded entry frame starts); restart -/
def faultW3 : List ChainEvF :=
  [.append [[1, 2, 3]], .failed [phantomPayload] .sync, .append [[]], .restart]

/-- an 8-byte payload that is a commit frame with the CRC of an empty entry's frame -/
def fakeCommit : Bytes := commitFrame (crc32c (entryFrame [])).toNat

def faultW1 : List ChainEvF :=
  [.append [[1, 2, 3]], .failed [fakeCommit] .sync, .failed [[], [9]] (.write 8), .restart]

def faultW2 : List ChainEvF :=
  [.append [[1, 2, 3]], .failed [fakeCommit] .sync, .torn [[], [9]] (fun j => j == 0)]

def showF (info : SegInfo) (r : Except SegErr (Writer × Bytes)) :=
  r.map fun p => (p.1.obs, readBack info p, (p.2.drop p.1.writeOffset).all (· == 0))

/-- info: Except.ok ({ offsets := [32, 56, 72], writeOffset := 96, commitIdx := 7, indexStart := 0 },
 [Except.ok [1, 2, 3], Except.ok [], Except.ok [42]],
 true) -/
#guard_msgs in
#eval showF faultInfo (chainRunF faultInfo (freshSegment faultInfo) faultW3)

/-- info: Except.ok ({ offsets := [32, 56], writeOffset := 72, commitIdx := 6, indexStart := 0 },
 [Except.ok [1, 2, 3], Except.ok []],
 true) -/
#guard_msgs in
#eval showF faultInfo (chainRunF faultInfo (freshSegment faultInfo) faultW1)

/-- info: Except.ok ({ offsets := [32, 56], writeOffset := 72, commitIdx := 6, indexStart := 0 },
 [Except.ok [1, 2, 3], Except.ok []],
 true) -/
#guard_msgs in
#eval showF faultInfo (chainRunF faultInfo (freshSegment faultInfo) faultW2)

theorem faultW_outcomes :
    (match chainRunF faultInfo (freshSegment faultInfo) faultW3 with
     | .ok p => p.1.offsets.length == 3 && (match p.1.getLog p.2 7 64 with | .ok d => d == [42] | _ => false)
     | _ => false) = true
    ∧ (match chainRunF faultInfo (freshSegment faultInfo) faultW1 with
     | .ok p => p.1.offsets.length == 2 && p.1.commitIdx == 6
     | _ => false) = true
    ∧ (match chainRunF faultInfo (freshSegment faultInfo) faultW2 with
     | .ok p => p.1.offsets.length == 2 && p.1.commitIdx == 6
     | _ => false) = true := by decide +kernel

/-- `faultW3`: three entries, the third reads back as `[42]` -/
theorem faultW3_outcome :
    (match chainRunF faultInfo (freshSegment faultInfo) faultW3 with
     | .ok p => p.1.offsets.length == 3 && (match p.1.getLog p.2 7 64 with | .ok d => d == [42] | _ => false)
     | _ => false) = true := faultW_outcomes.1

/-- `faultW1` / `faultW2`: the second entry (index 6) is the first HALF of `[[], [9]]` -/
theorem faultW1_outcome :
    (match chainRunF faultInfo (freshSegment faultInfo) faultW1 with
     | .ok p => p.1.offsets.length == 2 && p.1.commitIdx == 6
     | _ => false) = true := faultW_outcomes.2.1

theorem faultW2_outcome :
    (match chainRunF faultInfo (freshSegment faultInfo) faultW2 with
     | .ok p => p.1.offsets.length == 2 && p.1.commitIdx == 6
     | _ => false) = true := faultW_outcomes.2.2

theorem faultW3_wf : ChainWFF faultInfo faultW3 where
  nonempty := by decide
  payload_le := by decide
  faults := by
    intro e he
    simp only [faultW3, List.mem_cons, List.mem_nil_iff, or_false] at he
    rcases he with rfl | rfl | rfl | rfl <;> simp [ChainEvF.faultOk]
  base_lt := by decide
  id_lt := by decide
  codec_lt := by decide
  limit_lt := by decide
  size_lt := by decide
  fits := by decide

theorem faultW3_no_collision : ¬ ChainCollisionF faultInfo faultW3 := by
  rintro ⟨pre, e, post, s, img, c, h1, _, h3, h4, _⟩
  rcases pre with _ | ⟨a0, _ | ⟨a1, _ | ⟨a2, _ | ⟨a3, pre⟩⟩⟩⟩
  all_goals simp only [faultW3, List.nil_append, List.cons_append, List.cons.injEq] at h1
  · obtain ⟨rfl, _⟩ := h1; simp [recoveryImage] at h3
  · obtain ⟨_, rfl, _⟩ := h1; simp [recoveryImage] at h3
  · obtain ⟨_, _, rfl, _⟩ := h1; simp [recoveryImage] at h3
  · obtain ⟨rfl, rfl, rfl, rfl, _⟩ := h1
    simp [candidates, pendingAfter] at h4
  · obtain ⟨_, _, _, _, h⟩ := h1
    cases pre <;> simp at h

theorem faultW3_no_result : ¬ ∃ w file bs, FaultResult faultInfo faultW3 w file bs := by
  rintro ⟨w, file, bs, h⟩
  have hout := faultW3_outcome
  rw [h.run] at hout
  simp only [Bool.and_eq_true, beq_iff_eq] at hout
  have hc := h.count
  have hs := h.spec
  simp only [faultW3, chainSpecF] at hs
  obtain ⟨bs1, rfl, bs2, rfl, hs⟩ := hs
  have : bs2 = [] := by
    rcases hs with hs | ⟨c, _, hc', _⟩
    · exact hs
    · cases hc'
  subst this
  rw [hout.1] at hc
  simp at hc

theorem chain_atomic_faults_false : ¬ chain_atomic_faults_stmt := by
  intro h
  rcases h faultInfo faultW3 faultW3_wf with hc | hr
  · exact faultW3_no_collision hc
  · exact faultW3_no_result hr

def plainOf : List ChainEvF → Option (List ChainEv)
  | [] => some []
  | .append b :: r => (plainOf r).map (ChainEv.append b :: ·)
  | .restart :: r => (plainOf r).map (ChainEv.restart :: ·)
  | .torn b m :: r => (plainOf r).map (ChainEv.torn b m :: ·)
  | .failed b .sync :: .restart :: r => (plainOf r).map (fun l => ChainEv.append b :: ChainEv.restart :: l)
  | .failed _ _ :: _ => none

def ChainEv.toF : ChainEv → ChainEvF
  | .append b => .append b
  | .restart => .restart
  | .torn b m => .torn b m

/-- `plainOf evs = some l` as a relation: event by event the two chains are the same, except that `l` has
    `append b; restart` where `evs` has `failed b .sync; restart` -/
inductive Plain : List ChainEvF → List ChainEv → Prop
  | nil : Plain [] []
  | same (e : ChainEv) {r : List ChainEvF} {l : List ChainEv} : Plain r l → Plain (e.toF :: r) (e :: l)
  | sync (b : List Bytes) {r : List ChainEvF} {l : List ChainEv} :
      Plain r l → Plain (.failed b .sync :: .restart :: r) (.append b :: .restart :: l)

theorem plain_of_plainOf (evs : List ChainEvF) : ∀ (l : List ChainEv), plainOf evs = some l → Plain evs l := by
  induction evs using plainOf.induct with
  | case1 => intro l hl; cases hl; exact .nil
  | case2 b rest ih =>
    intro l hl
    obtain ⟨l', hl', rfl⟩ := Option.map_eq_some_iff.mp (plainOf.eq_2 b rest ▸ hl)
    exact .same (.append b) (ih l' hl')
  | case3 rest ih =>
    intro l hl
    obtain ⟨l', hl', rfl⟩ := Option.map_eq_some_iff.mp (plainOf.eq_3 rest ▸ hl)
    exact .same .restart (ih l' hl')
  | case4 b m rest ih =>
    intro l hl
    obtain ⟨l', hl', rfl⟩ := Option.map_eq_some_iff.mp (plainOf.eq_4 b m rest ▸ hl)
    exact .same (.torn b m) (ih l' hl')
  | case5 b rest ih =>
    intro l hl
    obtain ⟨l', hl', rfl⟩ := Option.map_eq_some_iff.mp (plainOf.eq_5 b rest ▸ hl)
    exact .sync b (ih l' hl')
  | case6 b f tail hno =>
    intro l hl
    exfalso
    cases f <;> cases tail <;> try (simp [plainOf] at hl)

theorem chainRunF_cons_ok {info : SegInfo} {s r : Writer × Bytes} {e : ChainEvF} {l : List ChainEvF} :
    chainRunF info s (e :: l) = .ok r ↔ ∃ s', chainStepF info s e = .ok s' ∧ chainRunF info s' l = .ok r := by
  rw [chainRunF]
  cases chainStepF info s e with
  | error err => exact ⟨fun h => (nomatch h), fun ⟨_, h, _⟩ => (nomatch h)⟩
  | ok s' => exact ⟨fun h => ⟨s', rfl, h⟩, fun ⟨_, h, hr⟩ => Except.ok.inj h ▸ hr⟩

/-- an append that fails on its fsync leaves in the file exactly what the completed append leaves: the restart that
    follows cannot tell the difference -/
theorem chainStepF_sync (info : SegInfo) (s s' : Writer × Bytes) (b : List Bytes) (hb : b ≠ [])
    (h : chainStep info s (.append b) = .ok s') : chainStepF info s (.failed b .sync) = .ok (s.1, s'.2) := by
  simp only [chainStep] at h
  cases happ : s.1.append s.2 (indexBatch (chainNext info s.1) b) .none with
  | mk eo rest =>
    obtain ⟨w', file'⟩ := rest
    rw [happ] at h
    cases eo with
    | some e => cases h
    | none =>
      cases h
      simp [chainStepF, append_sync_file s.1 s.2 _ w' file' happ (indexBatch_isEmpty _ b hb)]

theorem chainRunF_plain (info : SegInfo) {evs : List ChainEvF} {l : List ChainEv} (h : Plain evs l) :
    (∀ b ∈ chainBatchesF evs, b ≠ []) →
    ∀ (s r : Writer × Bytes), chainRun info s l = .ok r → chainRunF info s evs = .ok r := by
  induction h with
  | nil => intro _ s r hr; exact hr
  | same e _ ih =>
    intro hne s r hr
    obtain ⟨s', hs, hr⟩ := chainRun_cons_ok.mp hr
    exact chainRunF_cons_ok.mpr ⟨s', by cases e <;> exact hs, ih (fun x hx => hne x (by
      simp only [chainBatchesF, List.flatMap_cons, List.mem_append] at hx ⊢; exact Or.inr hx)) s' r hr⟩
  | sync b _ ih =>
    intro hne s r hr
    have hb : b ≠ [] := hne b (by simp [chainBatchesF, ChainEvF.batches])
    obtain ⟨s', hs, hr⟩ := chainRun_cons_ok.mp hr
    obtain ⟨s'', hs2, hr⟩ := chainRun_cons_ok.mp hr
    exact chainRunF_cons_ok.mpr ⟨_, chainStepF_sync info s s' b hb hs, chainRunF_cons_ok.mpr ⟨s'', hs2,
      ih (fun x hx => hne x (by
        simp only [chainBatchesF, List.flatMap_cons, List.mem_append] at hx ⊢; exact Or.inr (Or.inr hx))) s'' r hr⟩⟩

theorem chainBatches_plain {evs : List ChainEvF} {l : List ChainEv} (h : Plain evs l) :
    chainBatches l = chainBatchesF evs := by
  induction h with
  | nil => rfl
  | same e _ ih =>
    rw [chainBatches_cons, ih]
    cases e <;> rfl
  | sync b _ ih =>
    rw [chainBatches_cons, chainBatches_cons, ih]
    rfl

theorem chainSpec_plain {evs : List ChainEvF} {l : List ChainEv} (h : Plain evs l) :
    ∀ (p : Option (List Bytes)) (bs : List (List Bytes)), chainSpec l bs → chainSpecF p evs bs := by
  induction h with
  | nil => intro p bs h; exact h
  | same e _ ih =>
    intro p bs h
    cases e with
    | append b =>
      obtain ⟨bs', rfl, h'⟩ := h
      exact ⟨bs', rfl, ih none bs' h'⟩
    | restart => exact Or.inl (ih none bs h)
    | torn b m =>
      rcases h with h | ⟨bs', rfl, h'⟩
      · exact Or.inl (ih none bs h)
      · exact Or.inr (Or.inl ⟨bs', rfl, ih none bs' h'⟩)
  | sync b _ ih =>
    intro p bs h
    obtain ⟨bs', rfl, h'⟩ := h
    exact Or.inr ⟨b, bs', rfl, rfl, ih none bs' h'⟩

/-- **C02 × C10, partial** (`.sync` faults, each failed append immediately followed by a restart; any number of them,
    freely mixed with acknowledged appends, restarts and torn appends).  Let `l` be the fault-free chain
    `plainOf evs` (every `failed b .sync; restart` replaced by `append b; restart`).  Either a torn event of `l` (the
    torn events of `evs`, at the same states) exhibits a CRC-32C collision, or the chain WITH the faults runs to a
    state with the full conclusion: all acknowledged batches and every `.sync`-failed batch readable whole (C10:
    "applied in full"), torn batches whole or absent, nothing else, zeros behind the write offset. -/
theorem chain_atomic_faults_partial (info : SegInfo) (evs : List ChainEvF) (l : List ChainEv)
    (hp : plainOf evs = some l) (hwf : ChainWFF info evs) :
    ChainCollision info l
    ∨ ∃ w file bs, FaultResult info evs w file bs ∧ ChainResult info l w file bs
        ∧ (∀ x ∈ file.drop w.writeOffset, x = 0) := by
  have hpl := plain_of_plainOf evs l hp
  have hcb := chainBatches_plain hpl
  have hwf' : ChainWF info l :=
    ⟨by rw [hcb]; exact hwf.nonempty, by rw [hcb]; exact hwf.payload_le, hwf.base_lt, hwf.id_lt, hwf.codec_lt,
      hwf.limit_lt, by rw [hcb]; exact hwf.size_lt, by rw [hcb]; exact hwf.fits⟩
  rcases chain_atomic info l hwf' with hc | ⟨w, file, bs, hres⟩
  · exact Or.inl hc
  · exact Or.inr ⟨w, file, bs, ⟨chainRunF_plain info hpl hwf.nonempty _ _ hres.run, chainSpec_plain hpl none bs hres.spec,
      hres.inv.offsets_length, hres.readable, hres.nothingAbove, fun _ => hres.clean⟩, hres, hres.clean⟩

/-- append; `.sync`-failed 3-entry batch (56 bytes behind the tail); torn SHORTER batch (2 entries, 40 bytes: its
    commit frame falls on the header of the failed batch's third entry frame) of which only the first and the last
    chunk land; restart.  The scan meets: entry header (new) over stale payload, stale entry frame, the in-flight
    commit (CRC mismatch), then the stale payload chunk `[15, 0, …]`, which is no frame header: it stops.  Recovered
    as absent, stale bytes zeroed. -/
def faultExEvs : List ChainEvF :=
  [.append [[1, 2, 3]], .failed [[10, 11], [12, 13, 14], [15]] .sync,
   .torn [[20, 21], [22, 23, 24]] (fun j => j == 0 || j == 4), .restart]

/-- info: Except.ok ({ offsets := [32], writeOffset := 56, commitIdx := 5, indexStart := 0 }, [Except.ok [1, 2, 3]], true) -/
#guard_msgs in
#eval showF faultInfo (chainRunF faultInfo (freshSegment faultInfo) faultExEvs)

-- before the torn event: the failed batch's 56 bytes lie behind the write offset (not clean)
/-- info: Except.ok ({ offsets := [32], writeOffset := 56, commitIdx := 5, indexStart := 0 }, [Except.ok [1, 2, 3]], false) -/
#guard_msgs in
#eval showF faultInfo (chainRunF faultInfo (freshSegment faultInfo) (faultExEvs.take 2))

/-- a restart right after the failed append recovers it whole (the case `chain_atomic_faults_partial` covers) -/
def faultExEvs2 : List ChainEvF :=
  [.append [[1, 2, 3]], .failed [[10, 11], [12, 13, 14], [15]] .sync, .restart, .torn [[20]] (fun j => j == 0), .append [[30]]]

/-- info: Except.ok ({ offsets := [32, 56, 72, 88, 112], writeOffset := 136, commitIdx := 9, indexStart := 0 },
 [Except.ok [1, 2, 3], Except.ok [10, 11], Except.ok [12, 13, 14], Except.ok [15], Except.ok [30]],
 true) -/
#guard_msgs in
#eval showF faultInfo (chainRunF faultInfo (freshSegment faultInfo) faultExEvs2)

example : ∃ l, plainOf faultExEvs2 = some l := ⟨_, rfl⟩

example : ChainWFF faultInfo faultExEvs2 where
  nonempty := by decide
  payload_le := by decide
  faults := by
    intro e he
    simp only [faultExEvs2, List.mem_cons, List.mem_nil_iff, or_false] at he
    rcases he with rfl | rfl | rfl | rfl | rfl <;> simp [ChainEvF.faultOk]
  base_lt := by decide
  id_lt := by decide
  codec_lt := by decide
  limit_lt := by decide
  size_lt := by decide
  fits := by decide

/-- a torn batch that shares its first chunk with the pending failed batch and lands only that chunk: the FAILED
    batch is recovered whole by the torn event's recovery (third disjunct of `chainSpecF` at `torn`) -/
def faultExEvs3 : List ChainEvF :=
  [.append [[1, 2, 3]], .failed [[10, 11], [12, 13, 14], [15]] .sync, .torn [[10, 11], [22, 23, 24]] (fun j => j == 0)]

/-- info: Except.ok ({ offsets := [32, 56, 72, 88], writeOffset := 112, commitIdx := 8, indexStart := 0 },
 [Except.ok [1, 2, 3], Except.ok [10, 11], Except.ok [12, 13, 14], Except.ok [15]],
 true) -/
#guard_msgs in
#eval showF faultInfo (chainRunF faultInfo (freshSegment faultInfo) faultExEvs3)

end RaftWal

#print axioms RaftWal.chain_atomic_faults_false    -- [propext, Quot.sound]
#print axioms RaftWal.chain_atomic_faults_partial  -- [propext, Classical.choice, Quot.sound]
#print axioms RaftWal.chainRunF_plain              -- [propext, Quot.sound]
#print axioms RaftWal.faultW3_outcome              -- [propext, Quot.sound]
