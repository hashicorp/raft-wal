/-
  Proofs/SegmentFaults.lean — the writer's behaviour under injected I/O failures (C10, L1).
-/
import RaftWal.Proofs.Segment.Run
namespace RaftWal

/-- a failed `Append` (write error after any prefix landed, or fsync error) leaves the in-memory writer exactly as
    it was: nothing of the failed batch is visible through it -/
theorem append_fault_rollback (w : Writer) (file : Bytes) (es : List (Nat × Bytes)) (f : IoFault) (hf : f ≠ .none)
    (hne : es.isEmpty = false) :
    (w.append file es f).2.1 = w ∧ (w.indexStart = 0 → (w.append file es f).1.isSome) := by
  rw [append_eq_prep w file es f hne]
  cases w.prep es with
  | error e => exact ⟨rfl, fun _ => rfl⟩
  | ok w2 =>
    cases f with
    | none => exact absurd rfl hf
    | write k => exact ⟨rfl, fun _ => rfl⟩
    | sync => exact ⟨rfl, fun _ => rfl⟩

/-- a failed `ForceSeal` leaves the in-memory writer exactly as it was (in particular not marked sealed) -/
theorem forceSeal_fault_rollback (w : Writer) (file : Bytes) (f : IoFault) (e : SegErr)
    (h : (w.forceSeal file f).1 = .error e) : (w.forceSeal file f).2.1 = w := by
  unfold Writer.forceSeal at *
  by_cases h0 : w.indexStart > 0
  · simp [h0]
  · simp only [h0, if_false] at h ⊢
    cases h1 : w.appendIndex with
    | error e1 => simp [h1]
    | ok w1 =>
      simp only [h1] at h ⊢
      cases h2 : w1.appendCommit file f with
      | mk r fl =>
        cases r with
        | error e2 => simp [h2]
        | ok w2 => simp [h2] at h

end RaftWal
