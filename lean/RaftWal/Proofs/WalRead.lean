/-
  Proofs/WalRead.lean — in a state related to the specification the read-only calls compute their
  answers from the abstract log.
-/
import RaftWal.Proofs.WalSimRel
import RaftWal.Proofs.SpecLog
namespace RaftWal

variable {cfg : WalCfg} {nextID F : Nat} {es : List Log}

theorem SegF.hi_le_len {c : SegS} {r : Rdr} {f : FileL} (h : SegF cfg nextID F es c r f) :
    hi c f ≤ f.base + f.entries.length := by
  cases hsl : c.sealed
  · exact Nat.le_of_eq (hi_open hsl f)
  · rw [hi_sealed hsl]
    exact (h.sealedOK hsl).2.1

theorem SegF.min_le_hi {c : SegS} {r : Rdr} {f : FileL} (h : SegF cfg nextID F es c r f) : c.min ≤ hi c f := by
  cases hsl : c.sealed
  · rw [hi_open hsl]
    rcases (h.tailOK hsl).2 with h' | h'
    · rw [h', ← h.fbase]
      exact Nat.le_add_right _ _
    · exact Nat.le_of_lt h'
  · rw [hi_sealed hsl]
    exact Nat.le_succ_of_le (h.sealedOK hsl).1

theorem SegF.hi_le {c : SegS} {r : Rdr} {f : FileL} (h : SegF cfg nextID F es c r f)
    (hne : c.min < hi c f) : hi c f ≤ F + es.length := by
  have hpos : hi c f ≠ 0 := Nat.ne_of_gt (Nat.zero_lt_of_lt hne)
  have := (h.pt (hi c f - 1) (Nat.le_sub_one_of_lt hne) (Nat.sub_one_lt hpos)).2.1
  rwa [← Nat.succ_pred_eq_of_ne_zero hpos]

theorem SegF.min_lt_hi_sealed {c : SegS} {r : Rdr} {f : FileL} (h : SegF cfg nextID F es c r f)
    (hsl : c.sealed = true) : c.min < hi c f :=
  (lt_hi_sealed hsl).mpr (h.sealedOK hsl).1

theorem SegF.base_le_max {c : SegS} {r : Rdr} {f : FileL} (h : SegF cfg nextID F es c r f)
    (hsl : c.sealed = true) : c.base ≤ c.max :=
  Nat.le_trans h.basemin (h.sealedOK hsl).1

theorem es_pos_of_sealed {c : SegS} {r : Rdr} {f : FileL} (hseg : SegF cfg nextID F es c r f)
    (hsl : c.sealed = true) : 0 < es.length :=
  have h1 := hseg.min_lt_hi_sealed hsl
  pos_of_le_of_lt_add hseg.Fmin (Nat.lt_of_lt_of_le h1 (hseg.hi_le h1))

theorem SegF.tail_nonempty {t : SegS} {r : Rdr} {ft : FileL} (hseg : SegF cfg nextID F es t r ft)
    (hsl : t.sealed = false) (hE : ft.base + ft.entries.length = F + es.length) (hlen : 0 < ft.entries.length) :
    0 < es.length ∧ 1 < F + es.length := by
  have hlt : t.min < ft.base + ft.entries.length :=
    (hseg.tailOK hsl).2.elim (fun e => e ▸ hseg.fbase ▸ Nat.lt_add_of_pos_right hlen) id
  rw [hE] at hlt
  rw [← hE]
  exact ⟨pos_of_le_of_lt_add hseg.Fmin hlt, one_lt_add (hseg.fbase ▸ hseg.base1) hlen⟩

theorem SegF.tail_empty {t : SegS} {r : Rdr} {ft : FileL} (hseg : SegF cfg nextID F es t r ft)
    (hsl : t.sealed = false) (hE : ft.base + ft.entries.length = F + es.length) (hlen : ¬ 0 < ft.entries.length) :
    t.base = F + es.length ∧ (t.min = F → es.length = 0) := by
  have h4 := (hseg.tailOK hsl).2
  rw [hseg.fbase, Nat.eq_zero_of_not_pos hlen, Nat.add_zero] at hE h4
  have hmin : t.min = t.base := h4.elim id fun h => absurd hseg.basemin (Nat.not_le.mpr h)
  refine ⟨hE, fun hF => ?_⟩
  have : F + es.length = F + 0 := hE.symm.trans (hmin.symm.trans hF)
  exact Nat.add_left_cancel this

theorem le_commitIdx {f : FileL} {idx : Nat} (h1 : f.base ≤ idx) (h2 : idx < f.base + f.entries.length) :
    idx ≤ f.commitIdx := by
  rw [commitIdx_eq, if_pos (pos_of_le_of_lt_add h1 h2)]
  exact Nat.le_sub_one_of_lt h2

theorem commitIdx_lt {f : FileL} {idx : Nat} (h1 : 1 ≤ f.base) (h2 : f.base + f.entries.length ≤ idx) :
    f.commitIdx < idx := by
  have hpos : 0 < f.base + f.entries.length := Nat.lt_of_lt_of_le h1 (Nat.le_add_right _ _)
  rw [commitIdx_eq]
  split
  · exact Nat.lt_of_lt_of_le (Nat.sub_one_lt (Nat.ne_of_gt hpos)) h2
  · exact Nat.lt_of_lt_of_le hpos h2

theorem lt_of_le_commitIdx {f : FileL} {m : Nat} (h1 : 1 ≤ m) (h2 : m ≤ f.commitIdx) :
    m < f.base + f.entries.length := by
  rw [commitIdx_eq] at h2
  split at h2
  · rename_i hlen
    exact Nat.lt_of_le_sub_one (Nat.lt_of_lt_of_le hlen (Nat.le_add_left _ _)) h2
  · exact absurd (Nat.le_trans h1 h2) (Nat.not_succ_le_zero 0)

theorem findSegment_some {segs : List (SegS × Rdr)} {idx : Nat} {c : SegS × Rdr}
    (h : findSegment segs idx = some c) :
    c ∈ segs ∧ c.1.min ≤ idx ∧ (c.1.max = 0 ∨ idx ≤ c.1.max) := by
  unfold findSegment at h
  simp only at h
  split at h
  · cases h
  · rename_i s rest hd
    have hs : s ∈ segs := List.mem_of_mem_drop (hd ▸ List.mem_cons_self)
    split at h
    · cases h
    · rename_i c' hc
      split at h
      · rename_i hcond
        cases h
        refine ⟨?_, hcond.1, hcond.2⟩
        split at hc
        · exact (List.takeWhile_sublist _).subset (List.mem_of_getLast? hc)
        · cases hc
          exact hs
      · cases h

theorem findSegment_of_mem_range {l1 l2 : List (SegS × Rdr)} {c d : SegS × Rdr} {idx : Nat}
    (hs : (l1 ++ c :: d :: l2).Pairwise SegLt)
    (hb : ∀ x ∈ l1, x.1.base ≤ x.1.max)
    (h1 : c.1.base ≤ c.1.min) (h2 : c.1.min ≤ idx) (h3 : idx ≤ c.1.max) :
    findSegment (l1 ++ c :: d :: l2) idx = some c := by
  rw [List.pairwise_append] at hs
  obtain ⟨_, hs2, hs3⟩ := hs
  have hd : idx < d.1.base :=
    Nat.lt_of_le_of_lt h3 ((List.pairwise_cons.mp hs2).1 d List.mem_cons_self).2.1
  have hl1 : ∀ a ∈ l1, decide (a.1.base < idx) = true := fun a ha =>
    decide_eq_true (Nat.lt_of_le_of_lt (hb a ha)
      (Nat.lt_of_lt_of_le (hs3 a ha c List.mem_cons_self).2.1 (Nat.le_trans h1 h2)))
  have hdn : ¬ decide (d.1.base < idx) = true := fun h => Nat.lt_asymm hd (of_decide_eq_true h)
  have hcond : c.1.min ≤ idx ∧ (c.1.max = 0 ∨ c.1.max ≥ idx) := ⟨h2, Or.inr h3⟩
  unfold findSegment
  simp only
  rw [List.takeWhile_append_of_pos hl1]
  by_cases hc : c.1.base < idx
  · have e : List.takeWhile (fun s : SegS × Rdr => decide (s.1.base < idx)) (c :: d :: l2) = [c] := by
      rw [List.takeWhile_cons, if_pos (decide_eq_true hc), List.takeWhile_cons, if_neg hdn]
    have e2 : List.drop (l1 ++ [c]).length (l1 ++ c :: d :: l2) = d :: l2 := by
      rw [List.append_cons l1 c (d :: l2), List.drop_left]
    rw [e, e2]
    simp only [hd, if_true, List.getLast?_concat, hcond, and_self]
  · have e : List.takeWhile (fun s : SegS × Rdr => decide (s.1.base < idx)) (c :: d :: l2) = [] :=
      List.takeWhile_cons_of_neg (fun h => hc (of_decide_eq_true h))
    rw [e, List.append_nil, List.drop_left]
    simp only [show ¬ c.1.base > idx from Nat.not_lt.mpr (Nat.le_trans h1 h2), if_false, hcond, and_self, if_true]

theorem shape {cfg : WalCfg} {nextID : Nat} {segs : List (SegS × Rdr)} {files : List FileL} {F : Nat}
    {es : List Log} (hc : Core cfg nextID segs files F es) (ht : TailOpen segs files) :
    ∃ pre t r ft, segs = pre ++ [(t, r)] ∧ t.sealed = false ∧ fileOf files t.id = some ft ∧
      ft.indexStart = 0 ∧ SegF cfg nextID F es t r ft ∧ ft.base + ft.entries.length = F + es.length ∧
      (∀ c ∈ pre, c.1.sealed = true ∧ c.1.max < t.base) := by
  obtain ⟨t, r, f, hl, hsl, hf, hi0⟩ := ht
  obtain ⟨pre, hpre⟩ := List.getLast?_eq_some_iff.mp hl
  obtain ⟨f', hf', hseg⟩ := hc.segOK t r (hpre ▸ List.mem_concat_self)
  rw [hf] at hf'
  cases hf'
  obtain ⟨t', f'', hl', hf'', hhi⟩ := hc.endE
  rw [hl] at hl'
  cases hl'
  rw [hf] at hf''
  cases hf''
  refine ⟨pre, t, r, f, hpre, hsl, hf, hi0, hseg, (hi_open hsl f).symm.trans hhi, ?_⟩
  intro c hcm
  have := hc.sorted
  rw [hpre, List.pairwise_append] at this
  have := this.2.2 c hcm (t, r) (List.mem_singleton.mpr rfl)
  exact ⟨this.1, this.2.1⟩

theorem shape_pre {pre : List (SegS × Rdr)} {t : SegS} {r : Rdr} {files : List FileL}
    (hc : Core cfg nextID (pre ++ [(t, r)]) files F es) (hpre : ∀ c ∈ pre, c.1.sealed = true ∧ c.1.max < t.base) :
    (pre = [] → t.min = F) ∧ (pre ≠ [] → 0 < es.length) := by
  constructor
  · intro hp
    subst hp
    obtain ⟨c0, hh, hF⟩ := hc.headF
    cases hh
    exact hF
  · intro hp
    obtain ⟨a, l, rfl⟩ := List.exists_cons_of_ne_nil hp
    obtain ⟨fa, _, hsa⟩ := hc.segOK a.1 a.2 List.mem_cons_self
    exact es_pos_of_sealed hsa (hpre a List.mem_cons_self).1

theorem shape_empty {segs : List (SegS × Rdr)} {files : List FileL}
    (hc : Core cfg nextID segs files F []) (ht : TailOpen segs files) :
    ∃ t r ft, segs = [(t, r)] ∧ t.sealed = false ∧ fileOf files t.id = some ft ∧ ft.indexStart = 0 ∧
      SegF cfg nextID F [] t r ft ∧ ft.entries = [] ∧ t.min = F ∧ t.base = F := by
  obtain ⟨pre, t, r, ft, hs, hsl, hf, hi0, hseg, hE, hpre⟩ := shape hc ht
  obtain ⟨hp1, hp2⟩ := shape_pre (hs ▸ hc) hpre
  have hp : pre = [] := Classical.byContradiction fun h => absurd (hp2 h) (Nat.lt_irrefl 0)
  have hlen : ¬ 0 < ft.entries.length := fun h => absurd (hseg.tail_nonempty hsl hE h).1 (Nat.lt_irrefl 0)
  exact ⟨t, r, ft, by rw [hs, hp]; rfl, hsl, hf, hi0, hseg, List.eq_nil_of_length_eq_zero (Nat.eq_zero_of_not_pos hlen),
    hp1 hp, (hseg.tail_empty hsl hE hlen).1⟩

theorem tailCommitIdx_eq {w : Wal} {pre : List (SegS × Rdr)} {t : SegS} {r : Rdr} {ft : FileL}
    (hs : w.segs = pre ++ [(t, r)]) (hf : fileOf w.files t.id = some ft) :
    w.tailCommitIdx = ft.commitIdx := by
  simp only [Wal.tailCommitIdx, Wal.tailSeg, hs, List.getLast?_concat, Wal.file?_eq, hf]

theorem lastIndex_eq {w : Wal} {F : Nat} {es : List Log}
    (hc : Core w.cfg w.nextID w.segs w.files F es) (ht : TailOpen w.segs w.files) :
    w.lastIndex = if es.length = 0 then 0 else F + es.length - 1 := by
  obtain ⟨pre, t, r, ft, hs, hsl, hf, hi0, hseg, hE, hpre⟩ := shape hc ht
  obtain ⟨hp1, hp2⟩ := shape_pre (hs ▸ hc) hpre
  unfold Wal.lastIndex
  rw [tailCommitIdx_eq hs hf, hs, lastIndexOf_concat, commitIdx_eq]
  by_cases hlen : 0 < ft.entries.length
  · obtain ⟨hpos, h1⟩ := hseg.tail_nonempty hsl hE hlen
    rw [if_pos hlen, hE, if_pos (Nat.sub_pos_of_lt h1), if_neg (Nat.ne_of_gt hpos)]
  · obtain ⟨hbase, hnil⟩ := hseg.tail_empty hsl hE hlen
    rw [if_neg hlen, if_neg (Nat.lt_irrefl 0)]
    by_cases hp : pre = []
    · rw [if_pos hp, if_pos (hnil (hp1 hp))]
    · rw [if_neg hp, if_neg (Nat.ne_of_gt (hp2 hp)), hbase]

theorem firstIndex_eq {w : Wal} {F : Nat} {es : List Log}
    (hc : Core w.cfg w.nextID w.segs w.files F es) (ht : TailOpen w.segs w.files) :
    w.firstIndex = if es.length = 0 then 0 else F := by
  obtain ⟨pre, t, r, ft, hs, hsl, hf, hi0, hseg, hE, hpre⟩ := shape hc ht
  obtain ⟨hp1, hp2⟩ := shape_pre (hs ▸ hc) hpre
  obtain ⟨c0, hh, hF⟩ := hc.headF
  unfold Wal.firstIndex
  rw [tailCommitIdx_eq hs hf, commitIdx_eq]
  cases pre with
  | nil =>
    rw [hs] at hh ⊢
    cases hh
    simp only [List.nil_append, hsl, Bool.false_eq_true, not_false_eq_true, true_and]
    by_cases hlen : 0 < ft.entries.length
    · obtain ⟨hpos, h1⟩ := hseg.tail_nonempty hsl hE hlen
      rw [if_pos hlen, hE, if_neg (Nat.ne_of_gt (Nat.sub_pos_of_lt h1)), if_neg (Nat.ne_of_gt hpos)]
      exact hF
    · rw [if_neg hlen, if_pos rfl, if_pos ((hseg.tail_empty hsl hE hlen).2 hF)]
  | cons a l =>
    rw [hs] at hh ⊢
    have ha : a = c0 := Option.some.inj hh
    subst ha
    have := hp2 (List.cons_ne_nil _ _)
    simp only [List.cons_append, (hpre a List.mem_cons_self).1, not_true_eq_false, false_and, if_false]
    rw [if_neg (Nat.ne_of_gt this)]
    exact hF

theorem readVia_in {c : SegS} {r : Rdr} {f : FileL} (hseg : SegF cfg nextID F es c r f) {idx : Nat}
    (h1 : c.min ≤ idx) (h2 : idx < hi c f) : ∃ l, look F es idx = some l ∧ readVia r f idx = .ok l := by
  obtain ⟨hF, hlt, hpt⟩ := hseg.pt idx h1 h2
  have hlen : idx < f.base + f.entries.length := Nat.lt_of_lt_of_le h2 hseg.hi_le_len
  have hb : f.base ≤ idx := hseg.fbase ▸ Nat.le_trans hseg.basemin h1
  have hin : idx - F < es.length := Nat.sub_lt_left_of_lt_add hF hlt
  rw [List.getElem?_eq_getElem hin] at hpt
  refine ⟨es[idx - F], by rw [look, if_pos hF, List.getElem?_eq_getElem hin], ?_⟩
  have hr := hseg.rdr
  cases r with
  | writer fm =>
    have hfm : fm ≤ idx := Nat.le_trans hr h1
    have hci := le_commitIdx hb hlen
    have : ¬ (idx < f.base ∨ idx < fm ∨ idx > f.commitIdx) := fun h =>
      h.elim (Nat.not_lt.mpr hb) fun h => h.elim (Nat.not_lt.mpr hfm) (Nat.not_lt.mpr hci)
    simp only [readVia, this, if_false, hpt]
  | sealed mn mx is =>
    obtain ⟨hsl, hr1, hr2, hr3⟩ := hr
    have hmax : idx ≤ c.max := (lt_hi_sealed hsl).mp h2
    have e1 : ¬ (idx < mn ∨ (mx > 0 ∧ idx > mx)) := fun h =>
      h.elim (Nat.not_lt.mpr (Nat.le_trans hr1 h1)) fun ⟨hp, hgt⟩ =>
        hr2.elim (fun e => absurd hp (e ▸ Nat.lt_irrefl 0)) fun hle =>
          Nat.lt_irrefl idx (Nat.lt_of_le_of_lt (Nat.le_trans hmax hle) hgt)
    simp only [readVia, hr3, if_false, e1, Nat.not_lt.mpr hb, hpt]

theorem readVia_tail_beyond {t : SegS} {r : Rdr} {ft : FileL}
    (hseg : SegF cfg nextID F es t r ft) (hsl : t.sealed = false) {idx : Nat}
    (h2 : ft.base + ft.entries.length ≤ idx) : readVia r ft idx = .error .notFound := by
  have hr := hseg.rdr
  cases r with
  | writer fm =>
    have := commitIdx_lt (hseg.fbase ▸ hseg.base1) h2
    simp only [readVia, Or.inr (Or.inr this), if_true]
  | sealed mn mx is =>
    rw [hr.1] at hsl
    cases hsl

/-- the lookup through the segment map inside `getLogRaw` -/
def viaSegs (segs : List (SegS × Rdr)) (files : List FileL) (idx : Nat) : Except Err Log :=
  match findSegment segs idx with
  | none => .error .notFound
  | some (s, r) => match fileOf files s.id with
    | none => .error .other
    | some f => readVia r f idx

theorem viaSegs_eq {segs : List (SegS × Rdr)} {files : List FileL} (hc : Core cfg nextID segs files F es)
    {pre : List (SegS × Rdr)} {t : SegS} {r : Rdr} {ft : FileL}
    (hs : segs = pre ++ [(t, r)]) (hsl : t.sealed = false) (hf : fileOf files t.id = some ft)
    (hseg : SegF cfg nextID F es t r ft) (hE : ft.base + ft.entries.length = F + es.length)
    (hpre : ∀ c ∈ pre, c.1.sealed = true ∧ c.1.max < t.base)
    (idx : Nat) (hidx : idx < t.min ∨ F + es.length ≤ idx) :
    viaSegs segs files idx = ansOf (look F es idx) := by
  have hpreOK : ∀ x ∈ pre, ∃ fx, fileOf files x.1.id = some fx ∧ SegF cfg nextID F es x.1 x.2 fx ∧
      x.1.base ≤ x.1.max := by
    intro x hx
    obtain ⟨fx, hfx, hsx⟩ := hc.segOK x.1 x.2 (hs ▸ List.mem_append_left _ hx)
    exact ⟨fx, hfx, hsx, hsx.base_le_max (hpre x hx).1⟩
  unfold viaSegs
  by_cases hex : ∃ c ∈ pre, c.1.min ≤ idx ∧ idx ≤ c.1.max
  · obtain ⟨c, hcm, h1, h2⟩ := hex
    obtain ⟨l1, l2, hl⟩ := List.append_of_mem hcm
    obtain ⟨fc, hfc, hsc, _⟩ := hpreOK c hcm
    obtain ⟨d, l3, hd⟩ := List.exists_cons_of_ne_nil
      (List.append_ne_nil_of_right_ne_nil l2 (List.cons_ne_nil (t, r) []))
    have hsegs : segs = l1 ++ c :: d :: l3 := by
      rw [hs, hl, List.append_assoc, List.cons_append, hd]
    have hfs : findSegment segs idx = some c := by
      rw [hsegs]
      refine findSegment_of_mem_range (hsegs ▸ hc.sorted) ?_ hsc.basemin h1 h2
      intro x hx
      obtain ⟨_, _, _, q⟩ := hpreOK x (hl ▸ List.mem_append_left _ hx)
      exact q
    obtain ⟨l, hl1, hl2⟩ := readVia_in hsc h1 ((lt_hi_sealed (hpre c hcm).1).mpr h2)
    rw [hfs]
    simp only [hfc]
    rw [hl1, hl2]
    rfl
  · -- nothing below the tail holds idx: the abstract log does not have it
    have hlook : look F es idx = none := by
      unfold look
      split
      · rename_i hF
        by_cases hlt : idx < F + es.length
        · exfalso
          obtain ⟨c, rc, fc, hcm, hfc, h1, h2⟩ := hc.cover idx hF hlt
          rw [hs] at hcm
          rcases List.mem_append.mp hcm with h | h
          · exact hex ⟨(c, rc), h, h1, (lt_hi_sealed (hpre _ h).1).mp h2⟩
          · cases List.mem_singleton.mp h
            exact hidx.elim (fun h => absurd h1 (Nat.not_le.mpr h)) (fun h => absurd hlt (Nat.not_lt.mpr h))
        · exact List.getElem?_eq_none (Nat.le_sub_of_add_le' (Nat.le_of_not_lt hlt))
      · rfl
    rw [hlook]
    cases hfs : findSegment segs idx with
    | none => rfl
    | some c' =>
      obtain ⟨hcm, h1, h2⟩ := findSegment_some hfs
      rw [hs] at hcm
      rcases List.mem_append.mp hcm with h | h
      · exfalso
        obtain ⟨_, _, hsx, q⟩ := hpreOK c' h
        have hmax : 1 ≤ c'.1.max := Nat.le_trans hsx.base1 q
        exact hex ⟨c', h, h1, h2.elim (fun e => absurd hmax (by rw [e]; exact Nat.not_succ_le_zero 0)) id⟩
      · cases List.mem_singleton.mp h
        simp only [hf]
        exact readVia_tail_beyond hseg hsl
          (hidx.elim (fun h => absurd h1 (Nat.not_le.mpr h)) (fun h => hE ▸ h))

theorem getLogRaw_eq {w : Wal} {F : Nat} {es : List Log}
    (hc : Core w.cfg w.nextID w.segs w.files F es) (ht : TailOpen w.segs w.files) (idx : Nat) :
    w.getLogRaw idx = ansOf (look F es idx) := by
  obtain ⟨pre, t, r, ft, hs, hsl, hf, hi0, hseg, hE, hpre⟩ := shape hc ht
  have hv := viaSegs_eq hc hs hsl hf hseg hE hpre idx
  have hget : w.getLogRaw idx = if idx < t.min then viaSegs w.segs w.files idx else
      match readVia r ft idx with
      | .ok l => .ok l
      | .error .notFound => viaSegs w.segs w.files idx
      | .error e => .error e := by
    unfold Wal.getLogRaw
    simp only [Wal.tailSeg, hs, List.getLast?_concat, Wal.file?_eq, hf]
    rfl
  rw [hget]
  by_cases h1 : idx < t.min
  · rw [if_pos h1]
    exact hv (Or.inl h1)
  · rw [if_neg h1]
    by_cases h2 : idx < ft.base + ft.entries.length
    · obtain ⟨l, hl1, hl2⟩ := readVia_in hseg (Nat.le_of_not_lt h1) (by rw [hi_open hsl]; exact h2)
      rw [hl1, hl2]
      rfl
    · rw [readVia_tail_beyond hseg hsl (Nat.le_of_not_lt h2)]
      exact hv (Or.inr (hE ▸ Nat.le_of_not_lt h2))

theorem spec_get_eq {s : Spec.SLog} {F : Nat} (hcl : s.closed = false) (hf : s.entries ≠ [] → s.first = F)
    (i : Nat) : s.get i = sAnsOf (look F s.entries i) := by
  unfold Spec.SLog.get look
  rw [if_neg (by rw [hcl]; exact Bool.false_ne_true)]
  cases he : s.entries with
  | nil =>
    rw [if_pos (Or.inl rfl : ([] : List Log).isEmpty = true ∨ i < s.first)]
    split <;> rfl
  | cons a l =>
    rw [hf (by rw [he]; exact List.cons_ne_nil _ _)]
    by_cases h : i < F
    · rw [if_pos (Or.inr h), if_neg (Nat.not_le.mpr h)]
      rfl
    · rw [if_neg (fun h' => h (h'.resolve_left Bool.false_ne_true)), if_pos (Nat.le_of_not_lt h)]
      cases (a :: l)[i - F]? <;> rfl

theorem sim_get {w : Wal} {s : Spec.SLog} (h : Sim w s) (i : Nat) :
    (w.step (.get i)).2 = (s.step (.get i)).2 ∧ Sim (w.step (.get i)).1 (s.step (.get i)).1 := by
  have hsim := h
  obtain ⟨F, hc, ht, hcl, hf⟩ := h
  unfold Wal.step Spec.SLog.step
  cases hw : w.closed
  · obtain ⟨w', he, g2, g3, g4, g5, g6⟩ := getLog_open w i hw
    simp only [he, spec_get_eq (hcl.trans hw) hf i, getLogRaw_eq hc ht i]
    exact ⟨by cases look F s.entries i <;> rfl, hsim.of_eq g2 g3 g4 g5 (hcl.trans g6.symm) rfl rfl⟩
  · have e1 : w.getLog i = (w, .error .closed) := by
      unfold Wal.getLog
      exact if_pos hw
    simp only [e1, Spec.SLog.get_of_closed (hcl.trans hw)]
    exact ⟨rfl, hsim⟩

theorem sim_first {w : Wal} {s : Spec.SLog} (h : Sim w s) :
    (w.step .first).2 = (s.step .first).2 ∧ Sim (w.step .first).1 (s.step .first).1 := by
  refine ⟨?_, h⟩
  obtain ⟨F, hc, ht, hcl, hf⟩ := h
  simp only [Wal.step, Spec.SLog.step, Wal.firstIndexApi, hcl]
  cases hw : w.closed
  · simp only [firstIndex_eq hc ht, Spec.SLog.firstIndex_eq hf, Bool.false_eq_true, if_false]
  · rfl

theorem sim_last {w : Wal} {s : Spec.SLog} (h : Sim w s) :
    (w.step .last).2 = (s.step .last).2 ∧ Sim (w.step .last).1 (s.step .last).1 := by
  refine ⟨?_, h⟩
  obtain ⟨F, hc, ht, hcl, hf⟩ := h
  simp only [Wal.step, Spec.SLog.step, Wal.lastIndexApi, hcl]
  cases hw : w.closed
  · simp only [lastIndex_eq hc ht, Spec.SLog.lastIndex_eq hf, Bool.false_eq_true, if_false]
  · rfl

theorem sim_close {w : Wal} {s : Spec.SLog} (h : Sim w s) :
    (w.step .close).2 = (s.step .close).2 ∧ Sim (w.step .close).1 (s.step .close).1 :=
  ⟨rfl, h.of_eq rfl rfl rfl rfl rfl rfl rfl⟩

end RaftWal
