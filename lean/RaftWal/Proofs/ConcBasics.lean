/-
  Proofs/ConcBasics.lean — algebra of the read-path concurrency model (Model/Conc.lean): object lookup after
  `setObj` / append / `release`, who holds a reference, and the three step functions as lists of rules.
-/
import RaftWal.Model.Conc
import RaftWal.Proofs.Schedules
namespace RaftWal.Conc

theorem obj_congr {s s' : Sys} (ho : s'.objs = s.objs) (k : Nat) : s'.obj k = s.obj k := by
  unfold Sys.obj; rw [ho]

theorem obj_default (s : Sys) (k : Nat) (h : s.objs.length ≤ k) : s.obj k = {} := by
  unfold Sys.obj
  rw [List.getD_eq_getElem?_getD, List.getElem?_eq_none h]; rfl

theorem obj_setObj (s : Sys) (i k : Nat) (o : Obj) :
    (s.setObj i o).obj k = if i = k ∧ i < s.objs.length then o else s.obj k := by
  unfold Sys.obj Sys.setObj
  simp only [List.getD_eq_getElem?_getD, List.getElem?_set]
  by_cases h : i = k
  · subst h
    by_cases h2 : i < s.objs.length
    · rw [if_pos rfl, if_pos h2, if_pos ⟨rfl, h2⟩]; rfl
    · rw [if_pos rfl, if_neg h2, if_neg (fun h => h2 h.2), List.getElem?_eq_none (Nat.le_of_not_lt h2)]
  · rw [if_neg h, if_neg (fun h' => h h'.1)]

theorem setObj_proj {α} (π : Obj → α) (s : Sys) (i : Nat) (o : Obj) (h : π o = π (s.obj i)) (k : Nat) :
    π ((s.setObj i o).obj k) = π (s.obj k) := by
  rw [obj_setObj]
  split
  · next hk => rw [h, hk.1]
  · rfl

theorem setObj_fin_unset (s : Sys) {sid : Nat} (o : Obj) (k : Nat) (hlt : sid < s.objs.length)
    (hf : ((s.setObj sid o).obj k).fin = .unset) (ho : o.fin ≠ .unset) : sid ≠ k ∧ (s.obj k).fin = .unset := by
  rw [obj_setObj] at hf
  split at hf
  · exact absurd hf ho
  · next hk => exact ⟨fun e => hk ⟨e, hlt⟩, hf⟩

theorem obj_append {s s' : Sys} {o : Obj} (ho : s'.objs = s.objs ++ [o]) (k : Nat) :
    s'.obj k = if k = s.objs.length then o else s.obj k := by
  unfold Sys.obj
  rw [List.getD_eq_getElem?_getD, List.getD_eq_getElem?_getD, ho, List.getElem?_append]
  split
  · next h => rw [if_neg (Nat.ne_of_lt h)]
  · next h =>
    split
    · next hk => rw [hk, Nat.sub_self]; rfl
    · next hk =>
      rw [List.getElem?_eq_none (Nat.le_of_not_lt h),
        List.getElem?_eq_none (Nat.sub_pos_of_lt (Nat.lt_of_le_of_ne (Nat.le_of_not_lt h) (Ne.symm hk)))]

theorem append_proj {α} (π : Obj → α) {s s' : Sys} {o : Obj} (ho : s'.objs = s.objs ++ [o]) (h : π o = π {})
    (k : Nat) : π (s'.obj k) = π (s.obj k) := by
  rw [obj_append ho]
  split
  · next hk => rw [h, hk, obj_default s _ (Nat.le_refl _)]
  · rfl

@[simp] theorem setObj_length (s : Sys) (i : Nat) (o : Obj) : (s.setObj i o).objs.length = s.objs.length :=
  List.length_set
@[simp] theorem setObj_cur (s : Sys) (i : Nat) (o : Obj) : (s.setObj i o).cur = s.cur := rfl
@[simp] theorem setObj_closed (s : Sys) (i : Nat) (o : Obj) : (s.setObj i o).closed = s.closed := rfl
@[simp] theorem setObj_closedFiles (s : Sys) (i : Nat) (o : Obj) : (s.setObj i o).closedFiles = s.closedFiles := rfl
@[simp] theorem setObj_doubleClose (s : Sys) (i : Nat) (o : Obj) : (s.setObj i o).doubleClose = s.doubleClose := rfl
@[simp] theorem setObj_lock (s : Sys) (i : Nat) (o : Obj) : (s.setObj i o).lock = s.lock := rfl
@[simp] theorem setObj_readers (s : Sys) (i : Nat) (o : Obj) : (s.setObj i o).readers = s.readers := rfl
@[simp] theorem setObj_wpc (s : Sys) (i : Nat) (o : Obj) : (s.setObj i o).wpc = s.wpc := rfl
@[simp] theorem setObj_wqueue (s : Sys) (i : Nat) (o : Obj) : (s.setObj i o).wqueue = s.wqueue := rfl
@[simp] theorem setObj_cpc (s : Sys) (i : Nat) (o : Obj) : (s.setObj i o).cpc = s.cpc := rfl

/-- `state.acquire` -/
def Sys.incRc (s : Sys) (sid : Nat) : Sys := s.setObj sid { s.obj sid with refCount := (s.obj sid).refCount + 1 }

theorem incRc_files (s : Sys) (sid k : Nat) : ((s.incRc sid).obj k).files = (s.obj k).files :=
  setObj_proj (·.files) s sid _ (by rfl) k

theorem incRc_fin (s : Sys) (sid k : Nat) : ((s.incRc sid).obj k).fin = (s.obj k).fin :=
  setObj_proj (·.fin) s sid _ (by rfl) k

theorem incRc_fin_unset (s : Sys) (sid k : Nat) :
    ((s.incRc sid).obj k).fin = .unset ↔ (s.obj k).fin = .unset := by rw [incRc_fin]

theorem incRc_refCount (s : Sys) {sid : Nat} (hlt : sid < s.objs.length) (k : Nat) :
    ((s.incRc sid).obj k).refCount = (s.obj k).refCount + if sid = k then 1 else 0 := by
  rw [Sys.incRc, obj_setObj]
  by_cases hk : sid = k
  · subst hk; rw [if_pos ⟨rfl, hlt⟩, if_pos rfl]
  · rw [if_neg (fun h => hk h.1), if_neg hk]; rfl

theorem incRc_refCount_le (s : Sys) (sid k : Nat) : (s.obj k).refCount ≤ ((s.incRc sid).obj k).refCount := by
  rw [Sys.incRc, obj_setObj]
  split
  · next hk => rw [hk.1]; exact Nat.le_succ _
  · exact Nat.le_refl _

def relCloses (s : Sys) (sid : Nat) : List FileId :=
  if (s.obj sid).refCount - 1 = 0 then
    match (s.obj sid).fin with
    | .set c => c
    | _ => []
  else []

/-- the finalizer slot after the release of `sid` -/
def relFin (s : Sys) (sid : Nat) : Fin :=
  if (s.obj sid).refCount - 1 = 0 then
    match (s.obj sid).fin with
    | .set _ => .taken
    | x => x
  else (s.obj sid).fin

theorem rel_cases (s : Sys) (sid : Nat) :
    (∃ c, (s.obj sid).refCount - 1 = 0 ∧ (s.obj sid).fin = .set c ∧ relFin s sid = .taken ∧ relCloses s sid = c) ∨
    (relFin s sid = (s.obj sid).fin ∧ relCloses s sid = [] ∧
      ((s.obj sid).refCount - 1 = 0 → ∀ c, (s.obj sid).fin ≠ .set c)) := by
  unfold relFin relCloses
  by_cases h0 : (s.obj sid).refCount - 1 = 0
  · rw [if_pos h0, if_pos h0]
    cases (s.obj sid).fin with
    | set c => exact .inl ⟨c, h0, rfl, rfl, rfl⟩
    | _ => exact .inr ⟨rfl, rfl, fun _ _ => nofun⟩
  · rw [if_neg h0, if_neg h0]
    exact .inr ⟨rfl, rfl, fun h => absurd h h0⟩

theorem closeFiles_nil (s : Sys) : s.closeFiles [] = s := by
  cases s; simp [Sys.closeFiles]

theorem release_eq (s : Sys) (sid : Nat) :
    s.release sid =
      (s.setObj sid { s.obj sid with refCount := (s.obj sid).refCount - 1, fin := relFin s sid }).closeFiles
        (relCloses s sid) := by
  unfold Sys.release relFin relCloses
  dsimp only
  split
  · cases (s.obj sid).fin <;> first | rfl | exact (closeFiles_nil _).symm
  · exact (closeFiles_nil _).symm

@[simp] theorem closeFiles_objs (s : Sys) (fs : List FileId) : (s.closeFiles fs).objs = s.objs := rfl
@[simp] theorem closeFiles_cur (s : Sys) (fs : List FileId) : (s.closeFiles fs).cur = s.cur := rfl
@[simp] theorem closeFiles_closed (s : Sys) (fs : List FileId) : (s.closeFiles fs).closed = s.closed := rfl
@[simp] theorem closeFiles_closedFiles (s : Sys) (fs : List FileId) :
    (s.closeFiles fs).closedFiles = s.closedFiles ++ fs := rfl
@[simp] theorem closeFiles_doubleClose (s : Sys) (fs : List FileId) :
    (s.closeFiles fs).doubleClose = (s.doubleClose || fs.any (fun f => s.closedFiles.contains f)) := rfl
@[simp] theorem closeFiles_lock (s : Sys) (fs : List FileId) : (s.closeFiles fs).lock = s.lock := rfl
@[simp] theorem closeFiles_readers (s : Sys) (fs : List FileId) : (s.closeFiles fs).readers = s.readers := rfl
@[simp] theorem closeFiles_wpc (s : Sys) (fs : List FileId) : (s.closeFiles fs).wpc = s.wpc := rfl
@[simp] theorem closeFiles_wqueue (s : Sys) (fs : List FileId) : (s.closeFiles fs).wqueue = s.wqueue := rfl
@[simp] theorem closeFiles_cpc (s : Sys) (fs : List FileId) : (s.closeFiles fs).cpc = s.cpc := rfl

/-- no range condition: decrementing the default object gives the default object -/
theorem release_obj (s : Sys) (sid k : Nat) :
    (s.release sid).obj k =
      if sid = k then { s.obj sid with refCount := (s.obj sid).refCount - 1, fin := relFin s sid } else s.obj k := by
  rw [release_eq]
  show (s.setObj sid _).obj k = _
  rw [obj_setObj]
  by_cases hk : sid = k
  · subst hk
    by_cases hlt : sid < s.objs.length
    · rw [if_pos ⟨rfl, hlt⟩, if_pos rfl]
    · rw [if_neg (fun h => hlt h.2), if_pos rfl, relFin, obj_default s sid (Nat.le_of_not_lt hlt)]; rfl
  · rw [if_neg (fun h => hk h.1), if_neg hk]

theorem release_files (s : Sys) (sid k : Nat) : ((s.release sid).obj k).files = (s.obj k).files := by
  rw [release_eq]; exact setObj_proj (·.files) s sid _ (by rfl) k

theorem release_refCount (s : Sys) (sid k : Nat) (hle : (if sid = k then 1 else 0) ≤ (s.obj k).refCount) :
    ((s.release sid).obj k).refCount + (if sid = k then 1 else 0) = (s.obj k).refCount := by
  rw [release_obj]
  by_cases hk : sid = k
  · subst hk; rw [if_pos rfl] at hle; rw [if_pos rfl, if_pos rfl]; exact Nat.sub_add_cancel hle
  · rw [if_neg hk, if_neg hk]; rfl

theorem release_fin (s : Sys) (sid k : Nat) :
    ((s.release sid).obj k).fin = if sid = k then relFin s sid else (s.obj k).fin := by
  rw [release_obj]; split <;> rfl

theorem release_fin_unset (s : Sys) (sid k : Nat) :
    ((s.release sid).obj k).fin = .unset ↔ (s.obj k).fin = .unset := by
  rw [release_fin]
  split
  · next hk =>
    subst hk
    rcases rel_cases s sid with ⟨c, _, hf, hrf, _⟩ | ⟨hrf, _, _⟩
    · rw [hrf, hf]; exact ⟨nofun, nofun⟩
    · rw [hrf]
  · rfl

@[simp] theorem release_length (s : Sys) (sid : Nat) : (s.release sid).objs.length = s.objs.length := by
  rw [release_eq]; exact setObj_length s sid _
@[simp] theorem release_cur (s : Sys) (sid : Nat) : (s.release sid).cur = s.cur := by rw [release_eq]; rfl
@[simp] theorem release_closed (s : Sys) (sid : Nat) : (s.release sid).closed = s.closed := by rw [release_eq]; rfl
@[simp] theorem release_closedFiles (s : Sys) (sid : Nat) :
    (s.release sid).closedFiles = s.closedFiles ++ relCloses s sid := by rw [release_eq]; rfl
@[simp] theorem release_doubleClose (s : Sys) (sid : Nat) :
    (s.release sid).doubleClose = (s.doubleClose || (relCloses s sid).any (fun f => s.closedFiles.contains f)) := by
  rw [release_eq]; rfl
@[simp] theorem release_lock (s : Sys) (sid : Nat) : (s.release sid).lock = s.lock := by rw [release_eq]; rfl
@[simp] theorem release_readers (s : Sys) (sid : Nat) : (s.release sid).readers = s.readers := by rw [release_eq]; rfl
@[simp] theorem release_wpc (s : Sys) (sid : Nat) : (s.release sid).wpc = s.wpc := by rw [release_eq]; rfl
@[simp] theorem release_wqueue (s : Sys) (sid : Nat) : (s.release sid).wqueue = s.wqueue := by rw [release_eq]; rfl
@[simp] theorem release_cpc (s : Sys) (sid : Nat) : (s.release sid).cpc = s.cpc := by rw [release_eq]; rfl

/-- the test `holders` applies to a reader -/
def holdsR (pc : RPc) (k : Nat) : Bool :=
  match pc with
  | .acquired x => x == k
  | .finished x _ => x == k
  | _ => false

def rHolders (rs : List Reader) (k : Nat) : Nat := (rs.filter (fun r => holdsR r.pc k)).length

def rHolds (pc : RPc) (k : Nat) : Nat :=
  match pc with
  | .acquired x | .finished x _ => if x = k then 1 else 0
  | _ => 0

def wHolds (w : WPc) (k : Nat) : Nat :=
  match w with
  | .held x | .published x | .finSet x => if x = k then 1 else 0
  | _ => 0

/-- Between taking and releasing the write lock Close goes through the phases of a state change (its successor state
    is the empty one), so what is said about a writer's pc applies to `cpc.asW`. -/
def CPc.asW : CPc → WPc
  | .locked => .locked
  | .held x => .held x
  | .published x => .published x
  | .finSet x => .finSet x
  | _ => .idle

/-- the number of threads currently holding a reference to state object `sid` -/
def holders (s : Sys) (sid : Nat) : Nat :=
  (s.readers.filter (fun r => match r.pc with
      | .acquired x => x == sid
      | .finished x _ => x == sid
      | _ => false)).length
  + (match s.wpc with | .held x | .published x | .finSet x => if x = sid then 1 else 0 | _ => 0)
  + (match s.cpc with | .held x | .published x | .finSet x => if x = sid then 1 else 0 | _ => 0)

theorem holders_eq (s : Sys) (k : Nat) :
    holders s k = rHolders s.readers k + wHolds s.wpc k + wHolds s.cpc.asW k := by
  unfold holders
  cases s.cpc <;> rfl

theorem rHolders_set (rs : List Reader) (i : Nat) (r r' : Reader) (k : Nat) (h : rs[i]? = some r) :
    rHolders (rs.set i r') k + rHolds r.pc k = rHolders rs k + rHolds r'.pc k := by
  have hb : ∀ pc : RPc, (holdsR pc k).toNat = rHolds pc k := by
    intro pc; cases pc <;> simp [holdsR, rHolds, Bool.toNat, cond_eq_ite]
  rw [rHolders, rHolders, ← List.countP_eq_length_filter, ← List.countP_eq_length_filter, ← hb, ← hb]
  exact countP_set_of_get _ _ h

theorem holders_r {s s' : Sys} {i : Nat} {r : Reader} {pc' : RPc} (hr : s.readers[i]? = some r)
    (hrd : s'.readers = s.readers.set i { r with pc := pc' }) (hw : s'.wpc = s.wpc) (hc : s'.cpc = s.cpc) (k : Nat) :
    holders s' k + rHolds r.pc k = holders s k + rHolds pc' k := by
  have : _ = _ + rHolds pc' k := rHolders_set s.readers i r { r with pc := pc' } k hr
  rw [holders_eq, holders_eq, hrd, hw, hc]
  omega

theorem holders_w {s s' : Sys} {w w' : WPc} (hw : s.wpc = w) (hw' : s'.wpc = w') (hrd : s'.readers = s.readers)
    (hc : s'.cpc = s.cpc) (k : Nat) : holders s' k + wHolds w k = holders s k + wHolds w' k := by
  rw [holders_eq, holders_eq, hrd, hc, hw, hw']
  omega

theorem holders_c {s s' : Sys} {c : CPc} {w w' : WPc} (hc : s.cpc = c) (hcw : c.asW = w) (hc' : s'.cpc.asW = w')
    (hrd : s'.readers = s.readers) (hw : s'.wpc = s.wpc) (k : Nat) :
    holders s' k + wHolds w k = holders s k + wHolds w' k := by
  rw [holders_eq, holders_eq, hrd, hw, hc, hc', hcw]
  omega

/-! ### the step functions as rules -/

/-- the `res` of `stepReader` -/
def readRes (cfg : Cfg) (s : Sys) (r : Reader) (sid : Nat) : RRes :=
  if (s.obj sid).empty then (if cfg.readersCheckEmpty then .errClosed else .panic)
  else if ¬ (s.obj sid).files.contains r.want then .notFound
  else if s.isOpen r.want then .ok
  else if s.closed then .errClosed
  else .errFile

/-- the reader steps that write nothing but the reader's own pc -/
inductive Move (cfg : Cfg) (s : Sys) (r : Reader) : RPc → Prop
  | refuse : r.pc = .start → s.closed = true → Move cfg s r (.done .errClosed)
  | check : r.pc = .start → s.closed = false → Move cfg s r .checked
  | load : r.pc = .checked → Move cfg s r (.loaded s.cur)
  | read (sid : Nat) : r.pc = .acquired sid → Move cfg s r (.finished sid (readRes cfg s r sid))

theorem ite_ne {α} {c : Prop} [Decidable c] {a b x : α} (ha : a ≠ x) (hb : b ≠ x) : (if c then a else b) ≠ x := by
  split <;> assumption

theorem readRes_ne_panic {cfg : Cfg} (hcfg : cfg.readersCheckEmpty = true) (s : Sys) (r : Reader) (sid : Nat) :
    readRes cfg s r sid ≠ .panic := by
  unfold readRes
  rw [hcfg, if_pos rfl]
  exact ite_ne nofun (ite_ne nofun (ite_ne nofun (ite_ne nofun nofun)))

theorem Move.holds {cfg : Cfg} {s : Sys} {r : Reader} {pc' : RPc} (hm : Move cfg s r pc') (k : Nat) :
    rHolds pc' k = rHolds r.pc k := by
  cases hm with
  | refuse hpc _ => rw [hpc]; rfl
  | check hpc _ => rw [hpc]; rfl
  | load hpc => rw [hpc]; rfl
  | read sid hpc => rw [hpc]; rfl

theorem Move.loaded {cfg : Cfg} {s : Sys} {r : Reader} {pc' : RPc} (hm : Move cfg s r pc') {x : Nat}
    (hx : pc' = .loaded x) : x = s.cur := by
  cases hm <;> cases hx
  rfl

theorem Move.noPanic {cfg : Cfg} (hcfg : cfg.readersCheckEmpty = true) {s : Sys} {r : Reader} {pc' : RPc}
    (hm : Move cfg s r pc') : pc' ≠ .done .panic ∧ ∀ sid, pc' ≠ .finished sid .panic := by
  cases hm with
  | read sid hpc =>
    refine ⟨nofun, fun sid' e => ?_⟩
    injection e with _ e
    exact readRes_ne_panic hcfg s r sid e
  | _ => exact ⟨nofun, nofun⟩

theorem stepReader_cases {P : Sys → Prop} (cfg : Cfg) (s : Sys) (i : Nat) (skip : P s)
    (move : ∀ r pc', s.readers[i]? = some r → Move cfg s r pc' →
      P { s with readers := s.readers.set i { r with pc := pc' } })
    (acquire : ∀ r sid, s.readers[i]? = some r → r.pc = .loaded sid →
      P { s.incRc sid with readers := (s.incRc sid).readers.set i { r with pc := .acquired sid } })
    (release : ∀ r sid res, s.readers[i]? = some r → r.pc = .finished sid res →
      P { s.release sid with readers := (s.release sid).readers.set i { r with pc := .done res } }) :
    P (stepReader cfg s i) := by
  unfold stepReader
  split
  · exact skip
  · next r hr =>
    dsimp only
    split
    · next hpc =>
      split
      · next hcl => exact move r _ hr (.refuse hpc hcl)
      · next hcl => exact move r _ hr (.check hpc (Bool.eq_false_iff.2 hcl))
    · next hpc => exact move r _ hr (.load hpc)
    · next sid hpc => exact acquire r sid hr hpc
    · next sid hpc => exact move r _ hr (.read sid hpc)
    · next sid res hpc => exact release r sid res hr hpc
    · exact skip

/-- the `newObj` of `stepWriter` -/
def Mutation.apply (m : Mutation) (old : Obj) : Obj :=
  { files := m.keep.filter (fun f => old.files.contains f) ++ m.add }

theorem stepWriter_cases {P : Sys → Prop} (s : Sys) (skip : P s)
    (clear : s.wpc = .idle → P { s with wqueue := [] })
    (lock : s.wpc = .idle → s.closed = false → P { s with lock := true, wpc := .locked })
    (hold : s.wpc = .locked → P { s.incRc s.cur with wpc := .held s.cur })
    (publish : ∀ sid m rest, s.wpc = .held sid → s.wqueue = m :: rest →
      P { s with objs := s.objs ++ [m.apply (s.obj sid)], cur := s.objs.length, wpc := .published sid })
    (attach : ∀ sid, s.wpc = .published sid →
      P { s.setObj sid { s.obj sid with
            fin := .set ((s.obj sid).files.filter (fun f => ¬ (s.obj s.cur).files.contains f)) } with
          wpc := .finSet sid })
    (release : ∀ sid, s.wpc = .finSet sid →
      P { s.release sid with wpc := .idle, lock := false, wqueue := s.wqueue.tail }) :
    P (stepWriter s) := by
  unfold stepWriter
  split
  · next hw =>
    split
    · exact skip
    · split
      · exact skip
      · split
        · exact clear hw
        · next hcl => exact lock hw (Bool.eq_false_iff.2 hcl)
  · next hw => exact hold hw
  · next sid hw =>
    split
    · exact skip
    · next m rest hq => exact publish sid m rest hw hq
  · next sid hw => exact attach sid hw
  · next sid hw => exact release sid hw

theorem stepCloser_cases {P : Sys → Prop} (s : Sys) (skip : P s)
    (again : s.cpc = .idle → s.closed = true → P { s with cpc := .done })
    (flag : s.cpc = .idle → s.closed = false → P { s with closed := true, cpc := .flagged })
    (lock : s.cpc = .flagged → s.lock = false → P { s with lock := true, cpc := .locked })
    (hold : s.cpc = .locked → P { s.incRc s.cur with cpc := .held s.cur })
    (publish : ∀ sid, s.cpc = .held sid →
      P { s with objs := s.objs ++ [{ empty := true }], cur := s.objs.length, cpc := .published sid })
    (attach : ∀ sid, s.cpc = .published sid →
      P { s.setObj sid { s.obj sid with fin := .set (s.obj sid).files } with cpc := .finSet sid })
    (release : ∀ sid, s.cpc = .finSet sid → P { s.release sid with cpc := .done, lock := false }) :
    P (stepCloser s) := by
  unfold stepCloser
  split
  · next hc =>
    split
    · next hcl => exact again hc hcl
    · next hcl => exact flag hc (Bool.eq_false_iff.2 hcl)
  · next hc =>
    split
    · exact skip
    · next hl => exact lock hc (Bool.eq_false_iff.2 hl)
  · next hc => exact hold hc
  · next sid hc => exact publish sid hc
  · next sid hc => exact attach sid hc
  · next sid hc => exact release sid hc
  · exact skip

theorem stepWriter_readers (s : Sys) : (stepWriter s).readers = s.readers :=
  stepWriter_cases (P := fun s' => s'.readers = s.readers) s rfl (fun _ => rfl) (fun _ _ => rfl) (fun _ => rfl)
    (fun _ _ _ _ _ => rfl) (fun _ _ => rfl) (fun sid _ => release_readers s sid)

theorem stepCloser_readers (s : Sys) : (stepCloser s).readers = s.readers :=
  stepCloser_cases (P := fun s' => s'.readers = s.readers) s rfl (fun _ _ => rfl) (fun _ _ => rfl) (fun _ _ => rfl)
    (fun _ => rfl) (fun _ _ => rfl) (fun _ _ => rfl) (fun sid _ => release_readers s sid)

theorem stepReader_acquired (cfg : Cfg) (s : Sys) (i : Nat) (r : Reader) (hr : s.readers[i]? = some r) (sid : Nat)
    (hpc : r.pc = .acquired sid) :
    ((stepReader cfg s i).readers[i]?.map (·.pc)) = some (.finished sid (readRes cfg s r sid)) := by
  have hi : i < s.readers.length := (List.getElem?_eq_some_iff.1 hr).1
  unfold stepReader
  simp only [hr, hpc]
  rw [List.getElem?_set_self hi]
  rfl

theorem stepReader_start_closed (cfg : Cfg) (s : Sys) (i : Nat) (r : Reader) (hr : s.readers[i]? = some r)
    (hpc : r.pc = .start) (hcl : s.closed = true) :
    ((stepReader cfg s i).readers[i]?.map (·.pc)) = some (.done .errClosed) := by
  have hi : i < s.readers.length := (List.getElem?_eq_some_iff.1 hr).1
  unfold stepReader
  simp only [hr, hpc, hcl, if_true]
  rw [List.getElem?_set_self hi]
  rfl

end RaftWal.Conc
