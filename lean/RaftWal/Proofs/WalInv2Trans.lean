/-
  Proofs/WalInv2Trans.lean — what every call guarantees about the parts of the state the simulation relation of C05
  ignores, from *any* state: the stable map is untouched by log calls, segment ids stay fresh, the directory
  invariant is preserved (`Tr`), and how the counters move.  Built from four elementary changes: `createNext`,
  rewriting a file in place, dropping segments together with their files, and changes to counters and `closed` only.
-/
import RaftWal.Proofs.WalInv2Dir
import RaftWal.Proofs.WalStore
import RaftWal.Proofs.WalDelete
import RaftWal.Proofs.WalDecide
namespace RaftWal

/-- what every log call guarantees about the parts of the state the simulation relation ignores -/
structure Tr (w w' : Wal) : Prop where
  stable : w'.stable = w.stable
  ext : WExt w w'
  dir : DirEq w → DirEq w'

theorem Tr.refl (w : Wal) : Tr w w := ⟨rfl, WExt.refl w, id⟩

theorem Tr.trans {a b c : Wal} (h1 : Tr a b) (h2 : Tr b c) : Tr a c :=
  ⟨h2.stable.trans h1.stable, h1.ext.trans h2.ext, fun h => h2.dir (h1.dir h)⟩

theorem Tr.of_same {w w' : Wal} (hst : w'.stable = w.stable)
    (hn : w'.nextID = w.nextID) (hk : w'.keys = w.keys) (hf : w'.files = w.files) : Tr w w' := by
  refine ⟨hst, ?_, ?_⟩
  · unfold WExt; rw [hn, hk]; exact Ext.refl _ _
  · intro h; unfold DirEq at h ⊢; rw [hn, hk, hf]; exact h

theorem Tr.frame (w : Wal) (c : Counters) (b : Bool) : Tr w { w with ctr := c, closed := b } :=
  Tr.of_same rfl rfl rfl rfl

theorem createNext_tr {w w' : Wal} {nb : Nat} (h : w.createNext nb = some w') : Tr w w' :=
  ⟨(createNext_frame h).1, createNext_ext h, fun hd => createNext_dir h hd⟩

theorem file?_mem {w : Wal} {id : Nat} {f : FileL} (h : w.file? id = some f) : f ∈ w.files :=
  List.mem_of_find?_eq_some h

theorem updFile_tr (w : Wal) {f f' : FileL} (ctr' : Counters) (hf : f ∈ w.files) (hid : f'.id = f.id)
    (hb : f'.base = f.base) : Tr w { w with files := updFile w.files f', ctr := ctr' } :=
  ⟨rfl, WExt.refl _, fun hd => DirD.upd hd hf hid hb⟩

/-- drop a middle part `B` of the segment map (what stays may change, but not its ids and bases), possibly add a new
    tail, unlink the files of the dropped segments -/
theorem tr_drop {w w1 w2 : Wal} {del : List Nat} {A B C : List (SegS × Rdr)}
    (hst : w1.stable = w.stable) (hn : w1.nextID = w.nextID) (hfiles : w1.files = w.files)
    (hk : w.segs = A ++ B ++ C) (hk1 : w1.keys = (A ++ C).map skey) (hdel : ∀ x, x ∈ del ↔ x ∈ B.map (·.1.id))
    (h2 : w2 = w1 ∨ ∃ nb, w1.createNext nb = some w2) : Tr w (w2.removeFiles del) := by
  have hkeys : w.keys = A.map skey ++ B.map skey ++ C.map skey := by
    rw [Wal.keys, hk, List.map_append, List.map_append]
  rw [List.map_append] at hk1
  have e1 : WExt w w1 := by
    unfold WExt
    rw [hn, hkeys, hk1]
    exact Ext.sub fun k hk' => (List.mem_append.mp hk').elim
      (fun h => List.mem_append_left _ (List.mem_append_left _ h)) (fun h => List.mem_append_right _ h)
  have h12 : w2.stable = w1.stable ∧ WExt w1 w2 ∧
      (DirD w1.nextID w1.keys w1.files del → DirD w2.nextID w2.keys w2.files del) := by
    rcases h2 with rfl | ⟨nb, hcn⟩
    · exact ⟨rfl, WExt.refl _, id⟩
    · exact ⟨(createNext_frame hcn).1, createNext_ext hcn, createNext_dir hcn⟩
  refine ⟨h12.1.trans hst, e1.trans h12.2.1, fun hd => ?_⟩
  unfold DirEq at hd ⊢
  rw [hkeys] at hd
  have h1 := hd.drop (D := del) (fun x => by rw [hdel, List.map_map]; rfl)
  rw [← hk1, ← hn, ← hfiles, List.nil_append] at h1
  rw [removeFiles_files]
  exact (h12.2.2 h1).unlink

theorem rev_cons {α : Type} {l : List α} {a : α} {b : List α} (h : l.reverse = a :: b) : l = b.reverse ++ [a] := by
  have := congrArg List.reverse h
  simpa using this

theorem resetBase_tr {w w' : Wal} {nb : Nat} (h : w.resetBase nb = some w') : Tr w w' ∧ w'.ctr = w.ctr := by
  unfold Wal.resetBase at h
  by_cases hl : w.lastIndex > 0
  · rw [if_pos hl] at h
    cases h
  rw [if_neg hl] at h
  cases hrev : w.segs.reverse with
  | nil =>
    rw [hrev] at h
    exact ⟨createNext_tr h, (createNext_frame h).2.1⟩
  | cons tr before =>
    obtain ⟨t, r⟩ := tr
    rw [hrev] at h
    dsimp only at h
    by_cases hb : t.base = nb
    · rw [if_pos hb] at h
      cases h
      exact ⟨Tr.refl _, rfl⟩
    rw [if_neg hb] at h
    cases hcn : Wal.createNext { w with segs := before.reverse } nb with
    | none =>
      rw [hcn] at h
      cases h
    | some w2 =>
      rw [hcn] at h
      cases h
      exact ⟨tr_drop (w1 := { w with segs := before.reverse }) (A := before.reverse) (B := [(t, r)]) (C := [])
        rfl rfl rfl (by rw [rev_cons hrev, List.append_nil]) (by rw [List.append_nil]; rfl)
        (fun _ => Iff.rfl) (Or.inr ⟨nb, hcn⟩), (createNext_frame hcn).2.1⟩

theorem appendFile_same {f f' : FileL} {sl : Nat} {logs : List Log} (h : appendFile f sl logs = .ok f') :
    f'.id = f.id ∧ f'.base = f.base := by
  unfold appendFile at h
  split at h
  · cases h
  · split at h
    · cases h
    · cases h; exact ⟨rfl, rfl⟩

theorem rotate_tr (w : Wal) (is : Nat) : Tr w (w.rotate is) ∧ (w.rotate is).ctr.totals = w.ctr.totals := by
  unfold Wal.rotate
  split
  · exact ⟨Tr.refl _, rfl⟩
  · rename_i t r before hrev
    have hsegs := rev_cons hrev
    simp only
    cases hcn : Wal.createNext { w with
        segs := before.reverse ++ [({ t with sealed := true, max := w.tailCommitIdx, indexStart := is }, r)],
        ctr := { w.ctr with rotations := w.ctr.rotations + 1 } } 0 with
    | none => exact ⟨Tr.refl _, rfl⟩
    | some w2 =>
      simp only [Option.getD_some]
      have h2 := createNext_tr hcn
      refine ⟨Tr.trans ?_ h2, ?_⟩
      · exact Tr.of_same rfl rfl (by simp [Wal.keys, hsegs, skey]) rfl
      · rw [(createNext_frame hcn).2.1]; rfl

def Totals.app (t : Totals) (logs : List Log) : Totals :=
  { t with appends := t.appends + 1, entriesW := t.entriesW + logs.length, bytesW := t.bytesW + (logs.map encLen).sum }

theorem storeTail_tr (w : Wal) (li : Nat) (logs : List Log) :
    Tr w (storeTail w li logs).1 ∧
    (storeTail w li logs).1.ctr.totals =
      if (storeTail w li logs).2 = none then w.ctr.totals.app logs else w.ctr.totals := by
  generalize h : storeTail w li logs = res
  unfold storeTail at h
  split at h
  · subst h; exact ⟨Tr.refl _, rfl⟩
  · split at h
    · subst h; exact ⟨Tr.refl _, rfl⟩
    · rename_i t r htl
      split at h
      · subst h; exact ⟨Tr.refl _, rfl⟩
      · rename_i f hf
        split at h
        · subst h; exact ⟨Tr.refl _, rfl⟩
        · rename_i f' hap
          obtain ⟨e1, e2⟩ := appendFile_same hap
          simp only at h
          subst h
          simp only [if_true]
          split
          · refine ⟨(updFile_tr w _ (file?_mem hf) e1 e2).trans (rotate_tr _ _).1, ?_⟩
            rw [(rotate_tr _ _).2]; rfl
          · exact ⟨updFile_tr w _ (file?_mem hf) e1 e2, rfl⟩

theorem storeLogs_tr (w : Wal) (logs : List Log) :
    Tr w (w.storeLogs logs).1 ∧
    (w.storeLogs logs).1.ctr.totals =
      if (w.storeLogs logs).2 = none ∧ logs ≠ [] then w.ctr.totals.app logs else w.ctr.totals := by
  cases logs with
  | nil =>
    have : w.storeLogs [] = (w, if w.closed then some .closed else none) := by
      unfold Wal.storeLogs
      cases w.closed <;> rfl
    rw [this]
    exact ⟨Tr.refl _, by simp⟩
  | cons first rest =>
    rw [storeLogs_eq]
    split
    · exact ⟨Tr.refl _, by simp⟩
    · split
      · exact ⟨Tr.refl _, by simp⟩
      · rename_i w' hw'
        have hpre : Tr w w' ∧ w'.ctr = w.ctr := by
          split at hw'
          · exact resetBase_tr hw'
          · cases hw'; exact ⟨Tr.refl _, rfl⟩
        obtain ⟨s1, s2⟩ := storeTail_tr w' w.lastIndex (first :: rest)
        refine ⟨hpre.1.trans s1, ?_⟩
        rw [s2, hpre.2]
        simp


def headBump (w : Wal) (newMin : Nat) : Totals :=
  { w.ctr.totals with head := u64 (w.ctr.headTrunc + headRemoved w.firstIndex w.lastIndex newMin) }

theorem truncateHead_tr (w : Wal) (newMin : Nat) :
    Tr w (w.truncateHead newMin).1 ∧ (w.truncateHead newMin).1.ctr.totals = headBump w newMin := by
  generalize h : w.truncateHead newMin = res
  unfold Wal.truncateHead at h
  simp only at h
  rcases walkHead_gen newMin w.tailCommitIdx w.segs w.segs [] with ⟨dl, hd, rh, rest, e1, e2⟩ | e3
  · rw [e2] at h
    subst h
    exact ⟨tr_drop (w1 := { w with segs := ({ hd with min := newMin }, rh) :: rest, ctr := _ })
      (A := []) (B := dl) (C := (hd, rh) :: rest) rfl rfl rfl e1 rfl (fun _ => Iff.rfl) (Or.inl rfl), rfl⟩
  · rw [e3] at h
    simp only at h
    split at h
    · subst h
      exact ⟨Tr.frame w _ _, rfl⟩
    · rename_i w2 hcn
      subst h
      exact ⟨tr_drop (w1 := { w with segs := [], ctr := _ }) (A := []) (B := w.segs) (C := []) rfl rfl rfl
        (List.append_nil _).symm rfl (fun _ => Iff.rfl) (Or.inr ⟨_, hcn⟩),
        congrArg Counters.totals (createNext_frame hcn).2.1⟩

/-- force-sealing keeps the segment's id and base and rewrites at most its own file in place -/
theorem sealFor_tr (w : Wal) (t : SegS) :
    (sealFor w t).1.id = t.id ∧ (sealFor w t).1.base = t.base ∧ Tr w { w with files := (sealFor w t).2.1 } := by
  unfold sealFor
  by_cases hs : t.sealed = true
  · rw [if_pos hs]
    exact ⟨rfl, rfl, Tr.refl w⟩
  rw [if_neg hs]
  cases hf : w.file? t.id with
  | none => exact ⟨rfl, rfl, Tr.refl w⟩
  | some f =>
    dsimp only
    by_cases hi : f.indexStart > 0
    · rw [if_pos hi]
      exact ⟨rfl, rfl, Tr.refl w⟩
    rw [if_neg hi]
    by_cases he : f.entries.length = 0
    · rw [if_pos he]
      exact ⟨rfl, rfl, Tr.refl w⟩
    rw [if_neg he]
    exact ⟨rfl, rfl, updFile_tr w w.ctr (file?_mem hf) rfl rfl⟩

def tailBump (w : Wal) (newMax : Nat) : Totals :=
  { w.ctr.totals with tail := u64 (w.ctr.tailTrunc + (w.lastIndex - newMax)) }

theorem sub_of_gt_else_zero (a b : Nat) : (if a > b then a - b else 0) = a - b := by
  by_cases h : a > b
  · rw [if_pos h]
  · rw [if_neg h, Nat.sub_eq_zero_of_le (Nat.le_of_not_lt h)]

theorem bumpTail_totals (w w1 : Wal) (newMax : Nat) (h : w1.ctr = w.ctr) :
    (bumpTail w w1 newMax).ctr.totals = tailBump w newMax := by
  unfold bumpTail tailBump
  rw [sub_of_gt_else_zero, h]
  rfl

theorem truncateTail_tr (w : Wal) (newMax : Nat) :
    Tr w (w.truncateTail newMax).1 ∧
      ((w.truncateTail newMax).2 = none → (w.truncateTail newMax).1.ctr.totals = tailBump w newMax) := by
  generalize h : w.truncateTail newMax = res
  rw [truncateTail_eq, walkTail_spec] at h
  simp only at h
  have hsplit := split_rev (fun c : SegS × Rdr => decide (newMax < c.1.base)) w.segs
  generalize hdw : List.dropWhile (fun c : SegS × Rdr => decide (newMax < c.1.base)) w.segs.reverse = dw at h hsplit
  generalize htw : List.takeWhile (fun c : SegS × Rdr => decide (newMax < c.1.base)) w.segs.reverse = tw at h hsplit
  -- `dw.reverse` is kept, the segments of `tw` go; the result is `bumpTail` of a state `w2` with `Tr w (w2.removeFiles _)`
  cases dw with
  | nil =>
    simp only at h
    cases hcn : Wal.createNext { w with segs := [] } 0 with
    | none =>
      rw [hcn] at h
      subst h
      exact ⟨Tr.frame w _ _, nofun⟩
    | some w2 =>
      rw [hcn] at h
      subst h
      exact ⟨(tr_drop (w := w) (w1 := { w with segs := [] }) (A := []) (B := tw.reverse) (C := [])
        rfl rfl rfl (hsplit.trans (List.append_nil _).symm) rfl
        (fun x => by rw [List.map_reverse, List.mem_reverse]; rfl) (Or.inr ⟨_, hcn⟩)).trans
        (Tr.frame _ _ _), fun _ => bumpTail_totals w w2 newMax (createNext_frame hcn).2.1⟩
  | cons cc before =>
    obtain ⟨c, rc⟩ := cc
    simp only at h
    obtain ⟨s1, s2, s3⟩ := sealFor_tr w c
    rcases hseal : sealFor w c with ⟨t', files', ok⟩
    rw [hseal] at h s1 s2 s3
    simp only at h s1 s2 s3
    cases ok with
    | false =>
      subst h
      exact ⟨Tr.refl _, nofun⟩
    | true =>
      simp only [not_true_eq_false, if_false] at h
      cases hcn : Wal.createNext
          { w with segs := before.reverse ++ [({ t' with max := newMax }, rc)], files := files' } 0 with
      | none =>
        rw [hcn] at h
        subst h
        exact ⟨Tr.frame w _ _, nofun⟩
      | some w2 =>
        rw [hcn] at h
        subst h
        exact ⟨s3.trans ((tr_drop (w := { w with files := files' })
          (w1 := { w with segs := before.reverse ++ [({ t' with max := newMax }, rc)], files := files' })
          (A := before.reverse ++ [(c, rc)]) (B := tw.reverse) (C := []) rfl rfl rfl
          (by rw [hsplit, List.reverse_cons, List.append_nil]) (by simp [Wal.keys, skey, s1, s2])
          (fun x => by rw [List.map_reverse, List.mem_reverse]; rfl) (Or.inr ⟨_, hcn⟩)).trans (Tr.frame _ _ _)),
          fun _ => bumpTail_totals w w2 newMax (createNext_frame hcn).2.1⟩

theorem applyDel_tr (w : Wal) (d : DelAction) : Tr w (w.applyDel d).1 := by
  cases d with
  | nothing => exact Tr.refl w
  | head n => exact (truncateHead_tr w n).1
  | tail n => exact (truncateTail_tr w n).1
  | refuse => exact Tr.refl w

theorem deleteRange_tr (w : Wal) (mn mx : Nat) : Tr w (w.deleteRange mn mx).1 := by
  cases hc : w.closed
  · rw [deleteRange_eq_decision w mn mx hc]
    exact applyDel_tr w _
  · rw [deleteRange_closed hc]
    exact Tr.refl w


theorem build_keys (w : Wal) : ∀ (segs acc res : List (SegS × Rdr)) (b : Bool),
    Wal.reopen.build w segs acc = some (res, b) → res.map skey = acc.reverse.map skey ++ segs.map skey := by
  intro segs
  induction segs with
  | nil =>
    intro acc res b h
    simp only [Wal.reopen.build, Option.some.injEq, Prod.mk.injEq] at h
    rw [← h.1, List.map_nil, List.append_nil]
  | cons a l ih =>
    intro acc res b h
    obtain ⟨s, r⟩ := a
    unfold Wal.reopen.build at h
    by_cases h1 : s.codec ≠ w.cfg.codecId
    · rw [if_pos h1] at h
      cases h
    rw [if_neg h1] at h
    by_cases h2 : ¬ s.sealed = true
    · rw [if_pos h2] at h
      by_cases h3 : ¬ l.isEmpty = true
      · rw [if_pos h3] at h
        cases h
      rw [if_neg h3] at h
      cases h
      rw [List.isEmpty_iff.mp (Decidable.not_not.mp h3), List.reverse_cons, List.map_append]
      rfl
    rw [if_neg h2] at h
    split at h
    · cases h
    · rename_i f _
      by_cases h4 : f.codec ≠ s.codec ∨ f.wsize = 0
      · rw [if_pos h4] at h
        cases h
      rw [if_neg h4] at h
      rw [ih _ _ _ h, List.reverse_cons, List.map_append, List.append_assoc]
      rfl

theorem addTail_tr (w : Wal) (rt : Bool) : Tr w (addTail w rt) ∧ (addTail w rt).ctr = w.ctr ∧
    (addTail w rt).closed = w.closed := by
  unfold addTail
  split
  · rename_i s r htl
    split
    · rename_i hcond
      refine ⟨⟨rfl, WExt.refl _, ?_⟩, rfl, rfl⟩
      intro hd
      exfalso
      apply hcond.2
      have hmem : (s, r) ∈ w.segs := List.mem_of_getLast? htl
      have e := hd.eq
      rw [keep_nil] at e
      have : skey (s, r) ∈ w.files.map fkey := by rw [e]; exact List.mem_map.mpr ⟨_, hmem, rfl⟩
      obtain ⟨f, hf, hfe⟩ := List.mem_map.mp this
      rw [List.any_eq_true]
      simp only [fkey, skey, Prod.mk.injEq] at hfe
      exact ⟨f, hf, by simp [hfe.1, hfe.2]⟩
    · exact ⟨Tr.refl _, rfl, rfl⟩
  · exact ⟨Tr.refl _, rfl, rfl⟩

theorem sweep_tr (w : Wal) : Tr w (sweep w) := by
  refine ⟨rfl, WExt.refl _, ?_⟩
  intro hd
  have : (sweep w).files = w.files := by
    simp only [sweep, List.filter_eq_self]
    intro f hf
    have e := hd.eq
    rw [keep_nil] at e
    have : fkey f ∈ w.keys := by rw [← e]; exact List.mem_map.mpr ⟨f, hf, rfl⟩
    obtain ⟨s, hs, hse⟩ := List.mem_map.mp this
    rw [List.any_eq_true]
    simp only [fkey, skey, Prod.mk.injEq] at hse
    exact ⟨s, hs, by simp [hse.1]⟩
  unfold DirEq at hd ⊢
  rw [this]
  exact hd

theorem reopen_tr {w w' : Wal} (h : w.reopen = some w') :
    Tr w w' ∧ w'.ctr = w.ctr ∧ w'.closed = false := by
  rw [reopen_eq] at h
  split at h
  · cases h
  · rename_i segs rt hb
    have hk := build_keys w _ _ _ _ hb
    simp only [List.reverse_nil, List.map_nil, List.nil_append] at hk
    have h0 : Tr w { w with segs := segs, closed := false } := Tr.of_same rfl rfl hk rfl
    obtain ⟨a1, a2, a3⟩ := addTail_tr { w with segs := segs, closed := false } rt
    split at h
    · simp only [Option.map_some, Option.some.injEq] at h
      subst h
      exact ⟨(h0.trans a1).trans (sweep_tr _), a2, a3⟩
    · cases hcn : (addTail { w with segs := segs, closed := false } rt).createNext 0 with
      | none => rw [hcn] at h; cases h
      | some w2 =>
        rw [hcn] at h
        simp only [Option.map_some, Option.some.injEq] at h
        subst h
        have hf := createNext_frame hcn
        exact ⟨((h0.trans a1).trans (createNext_tr hcn)).trans (sweep_tr _),
          by show w2.ctr = w.ctr; rw [hf.2.1, a2], by show w2.closed = false; rw [hf.2.2.1, a3]⟩

theorem init_dir {cfg : WalCfg} {w0 : Wal} (h0 : Wal.init cfg = some w0) :
    DirEq w0 ∧ w0.ctr = {} ∧ w0.stable = [] := by
  unfold Wal.init at h0
  obtain ⟨t, c, _⟩ := reopen_tr h0
  refine ⟨t.dir ?_, c, t.stable⟩
  refine ⟨rfl, by simp [Wal.keys], by simp [Wal.keys], by simp, by simp⟩

theorem getLog_tr (w : Wal) (i : Nat) : Tr w (w.getLog i).1 := by
  unfold Wal.getLog
  split
  · exact Tr.refl _
  · simp only
    split <;> exact Tr.of_same rfl rfl rfl rfl

theorem step_tr (w : Wal) (op : Op) : Tr w (w.step op).1 := by
  cases op with
  | store logs => rw [step_store_eq]; exact (storeLogs_tr w logs).1
  | del mn mx => rw [step_del_eq]; exact deleteRange_tr w mn mx
  | get i => exact getLog_tr w i
  | first => exact Tr.refl _
  | last => exact Tr.refl _
  | close => exact Tr.of_same rfl rfl rfl rfl
  | reopen =>
    simp only [Wal.step]
    split
    · rename_i w' h; exact (reopen_tr h).1
    · exact Tr.of_same rfl rfl rfl rfl

theorem setStable_closed {w : Wal} (h : w.closed = true) (k : Bytes) (v : Option Bytes) :
    w.setStable k v = (w, some .closed) := by
  unfold Wal.setStable
  rw [if_pos h]

theorem setStable_open {w : Wal} (h : w.closed = false) (k : Bytes) (v : Option Bytes) :
    w.setStable k v =
      ({ w with ctr := { w.ctr with stableSets := w.ctr.stableSets + 1 }, stable := SMap.set w.stable k v }, none) := by
  unfold Wal.setStable
  rw [if_neg (h ▸ Bool.false_ne_true)]
  rfl

theorem getStable_closed {w : Wal} (h : w.closed = true) (k : Bytes) : w.getStable k = (w, .error .closed) := by
  unfold Wal.getStable
  rw [if_pos h]

theorem getStable_open {w : Wal} (h : w.closed = false) (k : Bytes) :
    w.getStable k = ({ w with ctr := { w.ctr with stableGets := w.ctr.stableGets + 1 } }, .ok (SMap.get w.stable k)) := by
  unfold Wal.getStable
  rw [if_neg (h ▸ Bool.false_ne_true)]
  rfl

theorem setStable_frame (w : Wal) (k : Bytes) (v : Option Bytes) :
    ∃ c st, (w.setStable k v).1 = { w with ctr := c, stable := st } := by
  rcases Bool.eq_false_or_eq_true w.closed with h | h
  · exact ⟨w.ctr, w.stable, congrArg Prod.fst (setStable_closed h k v)⟩
  · exact ⟨_, _, congrArg Prod.fst (setStable_open h k v)⟩

theorem getStable_frame (w : Wal) (k : Bytes) : ∃ c, (w.getStable k).1 = { w with ctr := c } := by
  rcases Bool.eq_false_or_eq_true w.closed with h | h
  · exact ⟨w.ctr, congrArg Prod.fst (getStable_closed h k)⟩
  · exact ⟨_, congrArg Prod.fst (getStable_open h k)⟩

theorem getUint64_fst (w : Wal) (k : Bytes) : (w.getUint64 k).1 = (w.getStable k).1 := by
  unfold Wal.getUint64
  rcases w.getStable k with ⟨w', _ | _ | raw⟩
  · rfl
  · rfl
  · dsimp only
    split
    · rfl
    · split <;> rfl

theorem xstep_ext_dir (w : Wal) (op : XOp) : WExt w (w.xstep op).1 ∧ (DirEq w → DirEq (w.xstep op).1) := by
  cases op with
  | log op => exact ⟨(step_tr w op).ext, (step_tr w op).dir⟩
  | set k v =>
    obtain ⟨c, st, e⟩ := setStable_frame w k v
    rw [show (w.xstep (.set k v)).1 = _ from e]
    exact ⟨WExt.refl w, id⟩
  | setu k v =>
    obtain ⟨c, st, e⟩ := setStable_frame w k (some (putLE 8 v))
    rw [show (w.xstep (.setu k v)).1 = _ from e]
    exact ⟨WExt.refl w, id⟩
  | getk k =>
    obtain ⟨c, e⟩ := getStable_frame w k
    rw [show (w.xstep (.getk k)).1 = _ from e]
    exact ⟨WExt.refl w, id⟩
  | getu k =>
    obtain ⟨c, e⟩ := getStable_frame w k
    rw [show (w.xstep (.getu k)).1 = _ from (getUint64_fst w k).trans e]
    exact ⟨WExt.refl w, id⟩

end RaftWal
