/-
  Proofs/FaultRunActs.lean — the way every truncation ends: the commit of a new tail, the creation of its file, deletions
  (`B.runActs_newTail`); what the call then is, from a state of the invariant, whichever of these fails
  (`newTail_call_spec`).
-/
import RaftWal.Proofs.FaultStates
namespace RaftWal.Fault.C
open RaftWal.Crash

theorem runOp_delTail (d : Disk) (n : Nat) (pl : Plan) :
    runOp { disk := d } (.delTail n) pl = B.finish d (runActs d (delTailActs (vdisk d) n) pl) := rfl

variable {d : Disk} {P : List Seg} {t : Seg} {f : File}

/-- the call failed, the process goes on: readers see what they saw; the disk stands for that, or for what it stood -/
theorem callFrom_err {p : Proc} {op : Op} (h : A.FRun d P t f) (hv : absLog (vdisk d) = view p)
    (ha : absLog d = view p ∨ absLog d = absLog p.disk) (he : fextraB p = true → A.SealNonempty f) :
    A.CallFrom p op ({ disk := d }, false) :=
  ⟨h.finv, hv, ha.elim (fun e => Or.inl (e.trans hv.symm)) (fun e => Or.inr (Or.inr e)),
    fun hx => (A.fextraRun_iff h).2 (he hx)⟩

/-- The commit of a new tail, the creation of its file, deletions.  `d` is the disk when the call began, `dd` the disk
    these actions start from: `d` itself, or `d` after a ForceSeal that went through (same view, same segments).  The
    commit leads to a `Rec` state that stands for the log the call is to leave. -/
theorem newTail_call_spec {d dd : Disk} {op : Op} {ff : File} (h : A.FRun dd P t ff)
    (hv : absLog (vdisk dd) = absLog (vdisk d)) (hs : d.md.segs = dd.md.segs)
    (ha : absLog dd = absLog (vdisk d) ∨ absLog dd = absLog d) (he : fextraB { disk := d } = true → A.SealNonempty ff)
    {P' : List Seg} {b : Nat}
    (h3 : Rec (fun l => l = specApply (absLog (vdisk d)) op) (dd.apply (.commit (B.tailMeta dd P' b))) P'
      (newSeg dd.md.nextID b))
    {ids : List Nat} (hne : ∀ s ∈ P' ++ [newSeg dd.md.nextID b], s.id ∉ ids) (pl : Plan) :
    A.CallFrom { disk := d } op (B.finish d (runActs dd (newTailActs dd.md P' b ++ ids.map .delete) pl)) := by
  rcases A.newTail_run h h3 (ids.map .delete) pl with ⟨pl', hr⟩ | ⟨pl', hr, q1, q2, q3, q4⟩ | ⟨pl', hr, h4, v4, _⟩
  · rw [hr]
    exact callFrom_err h hv ha he
  · rw [hr]
    rw [← hs] at q1 q2 q4
    exact ⟨q1, q2.trans hv, Or.inr (Or.inl ⟨rfl, q3⟩), fun _ => q4⟩
  · obtain ⟨d', pl'', hr', h5, hl5⟩ := h4.deletes hne pl'
    rw [hr, hr']
    have g := A.FRun.good h5 rfl (A.sealNonempty_of_noseal rfl rfl)
    rw [show absLog (vdisk d') = specApply (absLog (vdisk d)) op by rw [h5.view_eq, hl5, ← h4.view_eq]; exact v4] at g
    exact g.ok _ _ _ _

/-! ### `applyF` action by action, with the written file as `setP` (the same as `A.applyF_write`, `A.updT`, `A.setPend`) -/

def spf (es : List Entry) (sl : Bool) (f : File) : File := { f with pending := es, sealedP := sl }

def setP (d : Disk) (id : Nat) (es : List Entry) (sl : Bool) : Disk :=
  { d with files := updFile d.files id (spf es sl) }

theorem applyF_write (d : Disk) (id : Nat) (es : List Entry) (sl : Bool) :
    applyF d (.write id es sl) = setP d id es sl := rfl

theorem applyF_delete (d : Disk) (id : Nat) : applyF d (.delete id) = d.apply (.delete id) := rfl
theorem applyF_commit (d : Disk) (m : Meta) : applyF d (.commit m) = d.apply (.commit m) := rfl
theorem applyF_create (d : Disk) (id b : Nat) : applyF d (.create id b) = d.apply (.create id b) := rfl
theorem applyF_fsync (d : Disk) (id : Nat) : applyF d (.fsync id) = d.apply (.fsync id) := rfl

theorem setP_md (d : Disk) (id : Nat) (es : List Entry) (sl : Bool) : (setP d id es sl).md = d.md := rfl

end RaftWal.Fault.C
