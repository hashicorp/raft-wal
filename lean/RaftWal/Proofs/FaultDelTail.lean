/-
  Proofs/FaultDelTail.lean — a tail truncation (`op = .delTail newMax`) under any fault plan, from a state of the
  invariant (`A.FRun`).  ForceSeal (a write over whatever a failed call left, and its fsync) changes nothing a reader or
  a restart sees; then every truncation ends in the same three ways: the commit of the new tail fails (nothing happened),
  the creation of its file fails (the process stops), or both go through and some of the deletions are performed
  (`newTail_call_spec`).  The two cases — the cut lies in the tail segment, or in a sealed one — differ in the commit
  and in why the state after it is a state of the recovery invariant (`Rec.rotate` of the crash development;
  `dropped_rec`).
-/
import RaftWal.Proofs.FaultStates
import RaftWal.Proofs.FaultRunActs
namespace RaftWal.Fault.C
open RaftWal.Crash

variable {d : Disk} {P : List Seg} {t : Seg} {f : File}

/-! ### an empty write to the tail writer's offset, and what a failed one leaves -/

/-- an empty write over the leftover batch: nothing a reader or a restart sees changes -/
theorem forceSeal_write_ok (h : A.FRun d P t f) (hss : f.sealedS = false) (sl : Bool) :
    A.FRun (A.updT d t.id (A.setPend [] sl)) P t (A.setPend [] sl f) ∧
      absLog (vdisk (A.updT d t.id (A.setPend [] sl))) = absLog (vdisk d) ∧
      absLog (A.updT d t.id (A.setPend [] sl)) = absLog (vdisk d) := by
  obtain ⟨h1, h2⟩ := h.putPend hss [] sl
  have e : absLog (vdisk (A.updT d t.id (A.setPend [] sl))) = absLog (vdisk d) := by
    rw [h1.view_eq, h.view_eq, h2]; rfl
  refine ⟨h1, e, ?_⟩
  rw [h1.log_eq, ← e, h1.view_eq, show (A.setPend [] sl f).pending = [] from rfl, List.append_nil]

/-- … and neither does such a write when it fails, whatever it leaves -/
theorem forceSeal_write_fail (h : A.FRun d P t f) (hss : f.sealedS = false) (wf : WriteFail) (sl : Bool) :
    ∃ f1, A.FRun (failEffect d wf (.write t.id [] sl)) P t f1 ∧
      absLog (vdisk (failEffect d wf (.write t.id [] sl))) = absLog (vdisk d) ∧ f1.synced = f.synced ∧
      (absLog (failEffect d wf (.write t.id [] sl)) = absLog (vdisk d) ∨
        absLog (failEffect d wf (.write t.id [] sl)) = absLog d) := by
  cases wf with
  | nothing => exact ⟨f, h, rfl, rfl, Or.inr rfl⟩
  | garbage =>
    obtain ⟨g1, g2, g3⟩ := forceSeal_write_ok h hss false
    exact ⟨_, g1, g2, rfl, Or.inl g3⟩
  | whole =>
    obtain ⟨g1, g2, g3⟩ := forceSeal_write_ok h hss sl
    exact ⟨_, g1, g2, rfl, Or.inl g3⟩

/-! ### the program -/

theorem delTailActs_eq (v : Disk) (newMax : Nat) :
    delTailActs v newMax =
      match (v.md.segs.filter (keptB newMax)).getLast? with
      | none => []
      | some t =>
        (if (t.sealed || (match v.file? t.id with | some f => f.sealedS | none => false)) = true then []
          else [.write t.id [] true, .fsync t.id]) ++
          newTailActs v.md (setSeg (v.md.segs.filter (keptB newMax)) { t with sealed := true, max := newMax }) (newMax + 1) ++
          (v.md.segs.filter (fun s => !keptB newMax s)).map (fun s => .delete s.id) := rfl

theorem delTailActs_tail (h : A.FRun d P t f) {newMax : Nat}
    (hk : d.md.segs.filter (keptB newMax) = P ++ [t]) (hD : d.md.segs.filter (fun s => !keptB newMax s) = []) :
    delTailActs (vdisk d) newMax =
      (if f.sealedS = true then [] else [.write t.id [] true, .fsync t.id]) ++
        (newTailActs d.md (P ++ [sealSeg t newMax]) (newMax + 1) ++ ([] : List Nat).map .delete) := by
  have h3 : (P ++ [t]).getLast? = some t := List.getLast?_concat
  have hv := h.vdisk_tf
  rw [delTailActs_eq]
  simp only [vdisk_md, hk, hD, h3, hv, h.base.tsl, Bool.false_or, List.map_nil, List.append_nil]
  rw [setSeg_tail (t' := { t with sealed := true, max := newMax }) h.base.tid_ne rfl]
  rfl

theorem split3 {α : Type} (K0 : List α) (tk : α) (D' : List α) (t : α) :
    (K0 ++ tk :: D') ++ [t] = (K0 ++ [tk]) ++ (D' ++ [t]) := by
  rw [List.append_assoc, List.append_assoc]; rfl

theorem delTailActs_sealed {K0 D' : List Seg} {tk : Seg} (hb : Base d (K0 ++ tk :: D') t)
    {newMax : Nat} (hk : d.md.segs.filter (keptB newMax) = K0 ++ [tk])
    (hD : d.md.segs.filter (fun s => !keptB newMax s) = D' ++ [t]) :
    delTailActs (vdisk d) newMax =
      newTailActs d.md (K0 ++ [sealSeg tk newMax]) (newMax + 1) ++ (segIds (D' ++ [t])).map .delete := by
  have h3 : (K0 ++ [tk]).getLast? = some tk := List.getLast?_concat
  obtain ⟨fk, _, hsf⟩ := hb.sealed tk (List.mem_append_right _ List.mem_cons_self)
  have hnidK : ∀ s ∈ K0, s.id ≠ tk.id := by
    intro s hs e
    have hnd := hb.nodupS
    rw [List.append_assoc, List.map_append] at hnd
    exact (List.nodup_append.1 hnd).2.2 s.id (List.mem_map.2 ⟨s, hs, rfl⟩) tk.id List.mem_cons_self e
  rw [delTailActs_eq]
  simp only [vdisk_md, hk, hD, h3, hsf.sl, Bool.true_or, ↓reduceIte, List.nil_append]
  rw [setSeg_tail (t' := { tk with sealed := true, max := newMax }) hnidK rfl, map_delete_eq]
  rfl

/-! ### the truncation point lies in the tail segment -/

theorem specApply_delTail_tail (hb : Base d P t) {newMax : Nat} (htb : t.base ≤ newMax) (X : Log) :
    specApply (logP d P ++ X) (.delTail newMax) = logP d P ++ X.filter (fun p => decide (p.1 ≤ newMax)) := by
  rw [specApply_delTail, List.filter_append, logP_filter_le_all hb.sealed fun s hs =>
    Nat.le_trans (Nat.le_of_lt ((List.pairwise_append.1 hb.pw).2.2 s hs t List.mem_cons_self).1) htb]

/-- a cut inside the tail's file leaves something of it -/
theorem syn_of_cut (h : A.FRun d P t f) {mx : Nat} (htb : t.base ≤ mx) (hmx : mx < f.base + f.synced.length) :
    f.synced ≠ [] := by
  intro hc
  rw [hc, List.length_nil, Nat.add_zero, h.ft.base] at hmx
  exact Nat.not_lt.2 htb hmx

/-- the tail is durably sealed, in a state `dd` that differs from `d` by what failed calls left on the tail file and by
    that seal: commit and create -/
theorem sealed_tail_spec {dd : Disk} {ff : File} (h0 : A.FRun d P t f) (h : A.FRun dd P t ff)
    (hss : ff.sealedS = true) (hl : logP dd P = logP d P) (hfb : ff.base = f.base) (hfs : ff.synced = f.synced)
    (hs : d.md.segs = dd.md.segs) {mx : Nat} (htb : t.base ≤ mx) (hmn : t.min ≤ mx)
    (hmx : mx < f.base + f.synced.length) (pl : Plan) :
    A.CallFrom { disk := d } (.delTail mx) (B.finish d (runActs dd
      (newTailActs dd.md (P ++ [sealSeg t mx]) (mx + 1) ++ ([] : List Nat).map .delete) pl)) := by
  have hv : absLog (vdisk dd) = absLog (vdisk d) := by rw [h.view_eq, h0.view_eq, hl, hfb, hfs]
  have hx : A.SealNonempty ff := A.sealNonempty_of_synced (hfs ▸ syn_of_cut h0 htb hmx)
  have hspec : logP dd P ++ visF ff (sealSeg t mx) = specApply (absLog (vdisk d)) (.delTail mx) := by
    rw [← hv, h.view_eq, specApply_delTail_tail h.base htb, sealSeg, visF_sealed, File.content, (h.ft.ss hss).1, List.append_nil]
  refine newTail_call_spec h hv hs (Or.inl ?_) (fun _ => hx)
    ((h.toRec (L := fun _ => True) hx trivial trivial).rotate h.tf hss mx hmn (by rw [hfb, hfs]; exact hmx) dd.md.stable hspec)
    (fun _ _ hj => absurd hj List.not_mem_nil) pl
  rw [h.log_eq_view, (h.ft.ss hss).1, hv]
  exact List.append_nil _

theorem delTail_cut_in_tail (h : A.FRun d P t f) {newMax : Nat} (hk : d.md.segs.filter (keptB newMax) = P ++ [t])
    (hD : d.md.segs.filter (fun s => !keptB newMax s) = []) (htb : t.base ≤ newMax) (hmn : t.min ≤ newMax)
    (hmx : newMax < f.base + f.synced.length) (pl : Plan) : A.CallOK { disk := d } (.delTail newMax) pl := by
  have hsyn := syn_of_cut h htb hmx
  unfold A.CallOK
  rw [runOp_delTail, delTailActs_tail h hk hD]
  cases hss : f.sealedS with
  | true => exact sealed_tail_spec h h hss rfl rfl rfl rfl htb hmn hmx pl
  | false =>
    rw [if_neg Bool.false_ne_true, B.runActs_append]
    obtain ⟨h1, e1, a1⟩ := forceSeal_write_ok h hss true
    rcases B.runActs_write d t.id [] true [.fsync t.id] pl with ⟨wf, pl', e⟩ | ⟨pl', e⟩
    · -- the write of ForceSeal fails
      rw [e]
      obtain ⟨f1, g1, g2, g3, g4⟩ := forceSeal_write_fail h hss wf true
      exact callFrom_err g1 g2 g4 (fun _ => A.sealNonempty_of_synced (g3 ▸ hsyn))
    · rcases B.runActs_failsUnchanged (A.updT d t.id (A.setPend [] true)) (.fsync t.id) [] pl' rfl with ⟨pl'', e'⟩ | ⟨pl'', e'⟩
      · -- its fsync fails
        rw [e, e']
        exact callFrom_err h1 e1 (Or.inl a1) (fun _ => A.sealNonempty_of_synced hsyn)
      · -- ForceSeal succeeds: the tail is durably sealed
        rw [e, e', B.runActs_nil]
        obtain ⟨f2, h2, l2, b2, s2, _, ss2, _⟩ := h1.fsyncT
        exact sealed_tail_spec h h2 (by rw [ss2]; exact Bool.or_true _) (l2.trans (h.putPend hss [] true).2) b2
          (s2.trans (List.append_nil _)) rfl htb hmn hmx pl''

/-! ### the truncation point lies in a sealed segment -/

theorem specApply_delTail_sealed {K0 D' : List Seg} {tk : Seg} (h : A.FRun d (K0 ++ tk :: D') t f)
    {newMax : Nat} (htb : tk.base ≤ newMax) (hmax : newMax ≤ tk.max) (hdrop : ∀ s ∈ D' ++ [t], newMax < s.base) :
    specApply (absLog (vdisk d)) (.delTail newMax) = logP d (K0 ++ [sealSeg tk newMax]) := by
  have hb := h.base
  have hsK : ∀ s ∈ K0, SealedOK d s := fun s hs => hb.sealed s (List.mem_append_left _ hs)
  have hsD : ∀ s ∈ D', SealedOK d s := fun s hs => hb.sealed s (List.mem_append_right _ (List.mem_cons_of_mem _ hs))
  obtain ⟨fk, hfk, hsf⟩ := hb.sealed tk (List.mem_append_right _ List.mem_cons_self)
  have hpw := hb.pw
  rw [split3, List.append_assoc] at hpw
  -- the segments below `tk` lie below the cut, those above it and the tail above
  rw [h.view_eq, specApply_delTail, List.filter_append, logP_append, logP_cons, List.filter_append,
    List.filter_append, logP_append, logP_single,
    logP_filter_le_all hsK fun s hs =>
      Nat.le_trans (Nat.le_of_lt ((List.pairwise_append.1 hpw).2.2 s hs tk List.mem_cons_self).1) htb,
    logP_filter_le_nil hsD fun s hs =>
      Nat.lt_of_lt_of_le (hdrop s (List.mem_append_left _ hs)) (hsD s hs).bounds.1,
    segEntries_some hfk, segEntries_some (s := sealSeg tk newMax) hfk, visF_setMax hsf.sl hmax,
    List.filter_eq_nil_iff.2 fun p hp hc => Nat.not_le.2 (Nat.lt_of_lt_of_le (hdrop t List.mem_concat_self)
      (Nat.le_trans hb.tbm (mem_visU hp).1)) (of_decide_eq_true hc),
    List.append_nil, List.append_nil]
  rfl

/-- the segment right above the truncation point starts right after `tk.max` -/
theorem max_of_drop {K0 D' : List Seg} {tk : Seg} (hb : Base d (K0 ++ tk :: D') t) {newMax : Nat}
    (hdrop : ∀ s ∈ D' ++ [t], newMax < s.base) : newMax ≤ tk.max := by
  have hch := hb.chain
  rw [split3, chainOK_append] at hch
  cases hD' : D' ++ [t] with
  | nil => exact absurd hD' (List.append_ne_nil_of_right_ne_nil _ (List.cons_ne_nil _ _))
  | cons x rest =>
    have h1 := (hch.2.2 tk x List.getLast?_concat (by rw [hD']; rfl)).1
    have h2 := hdrop x (by rw [hD']; exact List.mem_cons_self)
    rw [h1] at h2
    exact Nat.le_of_lt_succ h2

/-- the identifiers of the segments kept are distinct, in use, and none of them is one of those dropped -/
theorem cut_ids {K0 D' : List Seg} {tk : Seg} (hb : Base d (K0 ++ tk :: D') t) (mx : Nat) :
    (segIds (K0 ++ [sealSeg tk mx])).Nodup ∧ (∀ s ∈ K0 ++ [sealSeg tk mx], s.id < d.md.nextID) ∧
      ∀ j ∈ segIds (D' ++ [t]), j < d.md.nextID ∧ j ∉ segIds (K0 ++ [sealSeg tk mx]) := by
  have hp : (segIds ((K0 ++ tk :: D') ++ [t])).Perm (segIds (D' ++ [t]) ++ segIds (K0 ++ [sealSeg tk mx])) := by
    rw [split3, segIds_append, segIds_append K0, segIds_append K0]
    exact List.perm_append_comm
  have hlt : ∀ j ∈ segIds ((K0 ++ tk :: D') ++ [t]), j < d.md.nextID := fun j hj => by
    obtain ⟨s, hs, rfl⟩ := List.mem_map.1 hj
    exact hb.idlt s hs
  obtain ⟨h1, h2, h3, h4, _⟩ := perm_split hp hb.nodupS
  exact ⟨h1, fun s hs => hlt _ (h2 _ (mem_segIds hs)), fun j hj => ⟨hlt j (h3 j hj), h4 j hj⟩⟩

/-- the commit that replaces everything above the truncation point by a fresh tail -/
theorem dropped_rec {K0 D' : List Seg} {tk : Seg} (hb : Base d (K0 ++ tk :: D') t)
    {newMax : Nat} (hmin : tk.min ≤ newMax) (hmax : newMax ≤ tk.max) (L : Log → Prop)
    (ha : L (logP d (K0 ++ [sealSeg tk newMax]))) :
    Rec L (d.apply (.commit (B.tailMeta d (K0 ++ [sealSeg tk newMax]) (newMax + 1)))) (K0 ++ [sealSeg tk newMax])
      (newSeg d.md.nextID (newMax + 1)) := by
  obtain ⟨fk, hfk, hsf⟩ := hb.sealed tk (List.mem_append_right _ List.mem_cons_self)
  obtain ⟨hnd, hid, _⟩ := cut_ids hb newMax
  have hch := hb.chain
  rw [split3, chainOK_append] at hch
  -- `tk`, cut at `newMax`, still agrees with its file
  exact Rec.newTail hb.nodupF d.md.nextID hb.fidlt hb.hl
    (forall_mem_concat (a := sealSeg tk newMax) (fun s hs => hb.sealed s (List.mem_append_left _ hs))
      ⟨fk, hfk, ⟨hsf.base, hsf.pend, hsf.sp, hsf.bm, hsf.b1, rfl, hsf.ss, hsf.lk, hmin, Nat.lt_of_le_of_lt hmax hsf.mx⟩⟩)
    hid hnd (newMax + 1) (Nat.succ_pos _)
    (chainOK_snoc_newSeg (a := sealSeg tk newMax) (chainOK_retail hch.1 rfl rfl) _) ha d.md.stable

theorem delTail_cut_in_sealed {K0 D' : List Seg} {tk : Seg} (h : A.FRun d (K0 ++ tk :: D') t f)
    {newMax : Nat} (hk : d.md.segs.filter (keptB newMax) = K0 ++ [tk])
    (hD : d.md.segs.filter (fun s => !keptB newMax s) = D' ++ [t]) (htb : tk.base ≤ newMax)
    (hmin : tk.min ≤ newMax) (hdrop : ∀ s ∈ D' ++ [t], newMax < s.base) (pl : Plan) :
    A.CallOK { disk := d } (.delTail newMax) pl := by
  have hmax := max_of_drop h.base hdrop
  unfold A.CallOK
  rw [runOp_delTail, delTailActs_sealed h.base hk hD]
  refine newTail_call_spec h rfl rfl (Or.inr rfl) (A.fextraRun_iff h).1
    (dropped_rec h.base hmin hmax _ (specApply_delTail_sealed h htb hmax hdrop).symm) ?_ pl
  -- the files deleted are those of the segments dropped, not of one kept, nor the new tail's
  intro s hs hj
  have hc := (cut_ids h.base newMax).2.2 s.id hj
  rcases List.mem_append.1 hs with hs | hs
  · exact hc.2 (mem_segIds hs)
  · rw [List.mem_singleton.1 hs] at hc
    exact Nat.lt_irrefl _ hc.1

/-! ### the per-call statements of Proofs/FaultStmt.lean for a tail truncation -/

theorem delTail_spec (p : Proc) (hi : FInv p) (newMax : Nat) (hok : OkV (view p) (.delTail newMax)) (pl : Plan) :
    A.CallOK p (.delTail newMax) pl := by
  obtain ⟨d, fz⟩ := p
  cases fz with
  | some segs0 => exact A.callOK_frozen hi rfl (fun _ _ h => by cases h) pl
  | none =>
    obtain ⟨P, t, f, h⟩ := A.FRun.of_finv (d := d) hi
    have hq := h.clean.1
    have hok0 : (Op.delTail newMax).ok (B.cl d) := by
      rw [A.view_run, ← h.log_cl] at hok; exact (E.okV_absLog_iff _ _).1 hok
    rcases delTail_split hq hok0 with ⟨hk, hD, htb⟩ | ⟨K0, tk, D', hP, hk, hD, htb, hdrop⟩
    · rw [B.cl_md] at hk hD
      have hmin : t.min ≤ newMax := hq.base.seg_min_le (A := P) (B := []) rfl hok0.1 hok0.2.1 htb
      have hmx : newMax < f.base + f.synced.length := by
        rw [show f.base + f.synced.length = lastIndex (B.cl d) + 1 from (hq.toQO.next hok0.1).symm]
        exact Nat.lt_succ_of_lt hok0.2.2
      exact delTail_cut_in_tail h hk hD htb hmin hmx pl
    · subst hP
      rw [B.cl_md] at hk hD
      have hmin : tk.min ≤ newMax :=
        hq.base.seg_min_le (List.append_assoc K0 (tk :: D') [t]) hok0.1 hok0.2.1 htb
      exact delTail_cut_in_sealed h hk hD htb hmin hdrop pl

#print axioms delTail_spec

/-! ### the same in the forms of `C.FR` and `C.Outcome` (see `A.FRun`) -/

def rotMeta (d : Disk) (P : List Seg) (t : Seg) (mx : Nat) : Meta :=
  ⟨d.md.nextID + 1, P ++ [sealSeg t mx] ++ [newSeg d.md.nextID (mx + 1)], d.md.stable⟩

theorem rotCommit_eq (d : Disk) (P : List Seg) (t : Seg) (mx : Nat) : rotCommit d P t mx = .commit (rotMeta d P t mx) := rfl

theorem FR.dropped {d : Disk} {K0 D' : List Seg} {tk t : Seg} {f : File} (h : FR d (K0 ++ tk :: D') t f)
    {newMax : Nat} (hmin : tk.min ≤ newMax) (hmax : newMax ≤ tk.max) (A : Log → Prop)
    (ha : A (logP d (K0 ++ [sealSeg tk newMax]))) :
    Rec A (d.apply (.commit ⟨d.md.nextID + 1, K0 ++ [sealSeg tk newMax] ++ [newSeg d.md.nextID (newMax + 1)],
        d.md.stable⟩)) (K0 ++ [sealSeg tk newMax]) (newSeg d.md.nextID (newMax + 1)) :=
  dropped_rec h.base hmin hmax A ha

/-- the conclusions of the per-call statements, for a result `r` of a call `op` on `p` (`A.CallFrom p op r` says the same) -/
structure Outcome (p : Proc) (op : Op) (r : Proc × Bool) : Prop where
  inv : FInv r.1
  vw : view r.1 = if r.2 = true then specApply (view p) op else view p
  dl : absLog r.1.disk = view r.1 ∨ (r.2 = false ∧ absLog r.1.disk = specApply (view p) op) ∨
       absLog r.1.disk = (if r.2 = true then specApply (absLog p.disk) op else absLog p.disk)
  ex : fextraB p = true → fextraB r.1 = true

theorem stmts_of_delTail
    (hf : ∀ p, FInv p → ∀ op, (∀ n, op ≠ .delTail n) → OkV (view p) op → ∀ pl, Outcome p op (runOp p op pl)) :
    finv_call_stmt ∧ call_view_stmt ∧ call_disklog_stmt := by
  have hall : ∀ p, FInv p → ∀ op, OkV (view p) op → ∀ pl, Outcome p op (runOp p op pl) := by
    intro p hi op hok pl
    by_cases hd : ∃ n, op = .delTail n
    · obtain ⟨n, rfl⟩ := hd
      have s := delTail_spec p hi n hok pl
      exact ⟨s.inv, s.vw, s.dlog, s.extra⟩
    · exact hf p hi op (fun n e => hd ⟨n, e⟩) hok pl
  exact ⟨fun p hi op hok pl => ⟨(hall p hi.1 op hok pl).inv, (hall p hi.1 op hok pl).ex hi.2⟩,
    fun p hi op hok pl => (hall p hi op hok pl).vw, fun p hi op hok pl => (hall p hi op hok pl).dl⟩

end RaftWal.Fault.C
