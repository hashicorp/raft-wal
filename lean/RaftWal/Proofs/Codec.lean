/-
  Proofs/Codec.lean — round trip of the entry codec.
-/
import RaftWal.Model.Codec
import RaftWal.Proofs.Bytes
namespace RaftWal

theorem getLE_reverse_putBE (n v : Nat) (h : v < 256 ^ n) : getLE ((putBE n v).reverse) = v := by
  simp [putBE, getLE_putLE n v h]

theorem unmarshalTime_fields (v : UInt8) (s n o e : Bytes) (hv : v = 1 ∨ v = 2)
    (hs : s.length = 8) (hn : n.length = 4) (ho : o.length = 2) (he : e.length = if v = 2 then 1 else 0) :
    unmarshalTime (v :: (s ++ (n ++ (o ++ e))))
      = some { v2 := v = 2, sec := getLE s.reverse, nsec := getLE n.reverse, offMin := getLE o.reverse,
               offSec := if v = 2 then (e.headD 0).toNat else 0 } := by
  have hlen : ¬ (s ++ (n ++ (o ++ e))).length ≠ (if v = 2 then 15 else 14) := by
    simp only [List.length_append, hs, hn, ho, he]; split <;> simp
  have d8 : (s ++ (n ++ (o ++ e))).drop 8 = n ++ (o ++ e) := List.drop_left' hs
  have d12 : (s ++ (n ++ (o ++ e))).drop 12 = o ++ e := by
    rw [show (12 : Nat) = 8 + 4 from rfl, ← List.drop_drop, d8, List.drop_left' hn]
  have d14 : (s ++ (n ++ (o ++ e))).drop 14 = e := by
    rw [show (14 : Nat) = 12 + 2 from rfl, ← List.drop_drop, d12, List.drop_left' ho]
  rw [unmarshalTime, if_neg (by rcases hv with h | h <;> simp [h]), if_neg hlen, List.take_left' hs, d8,
    List.take_left' hn, d12, List.take_left' ho, d14]

theorem unmarshalTime_bytes (t : WTime) (h : t.wf) : unmarshalTime t.bytes = some t := by
  obtain ⟨v2, sec, nsec, offMin, offSec⟩ := t
  obtain ⟨hs, hn, ho, hos, hv⟩ := h
  simp only at hs hn ho hos hv
  have e : WTime.bytes ⟨v2, sec, nsec, offMin, offSec⟩ = (if v2 then 2 else 1) ::
      (putBE 8 sec ++ (putBE 4 nsec ++ (putBE 2 offMin ++ if v2 then [offSec.toUInt8] else []))) := by
    simp only [WTime.bytes, List.cons_append, List.append_assoc, List.nil_append]
  rw [e, unmarshalTime_fields _ _ _ _ _ (by cases v2 <;> simp) (putBE_length _ _) (putBE_length _ _) (putBE_length _ _)
    (by cases v2 <;> rfl), getLE_reverse_putBE 8 sec hs, getLE_reverse_putBE 4 nsec hn, getLE_reverse_putBE 2 offMin ho]
  cases v2
  · simp [hv rfl]
  · simp [toUInt8_toNat_of_lt hos]

theorem Dec.varint_put (cfg : DecodeCfg) (v : Nat) (hv : v < 2^64) (rest : Bytes) :
    Dec.varint cfg { buf := putUvarint v ++ rest, err := false } = some (v, { buf := rest, err := false }) := by
  simp [Dec.varint, uvarint_put v hv rest]

theorem Dec.bytes_put (cfg : DecodeCfg) (d : Bytes) (hd : d.length < 2^64) (rest : Bytes) :
    Dec.bytes cfg { buf := putUvarint d.length ++ (d ++ rest), err := false } = some (d, { buf := rest, err := false }) := by
  simp only [Dec.bytes, Dec.varint_put cfg d.length hd]
  simp only [Bool.false_eq_true, if_false]
  by_cases h0 : d.length = 0
  · have : d = [] := List.eq_nil_of_length_eq_zero h0
    subst this; simp
  · simp [h0]

/-- **round trip**: decoding the encoding of any well-formed log yields that log. -/
theorem decode_encode (cfg : DecodeCfg) (l : Log) (t : WTime) (hl : l.wf) (ht : l.time = some t)
    (hd : l.data.length < 2^64) (he : l.ext.length < 2^64) (bs : Bytes) (henc : encode l = some bs) :
    decode cfg bs = .ok l := by
  obtain ⟨hi, hte, hty, htw⟩ := hl
  have twf := htw t ht
  cases l with
  | mk index term typ data ext time =>
  simp only at hi hte hty ht hd he
  subst ht
  simp only [encode, Option.some.injEq] at henc
  subst henc
  simp only [decode, List.append_assoc]
  rw [Dec.varint_put cfg index hi]
  simp only
  rw [Dec.varint_put cfg term hte]
  simp only
  rw [Dec.varint_put cfg typ (by omega)]
  simp only
  rw [Dec.bytes_put cfg data hd]
  simp only
  rw [Dec.bytes_put cfg ext he]
  simp only [Bool.false_eq_true, if_false, unmarshalTime_bytes t twf]
  have : typ % 256 = typ := Nat.mod_eq_of_lt hty
  simp [this]

/-- the only way `Encode` fails is an unencodable time -/
theorem encode_none_iff (l : Log) : encode l = none ↔ l.time = none := by
  unfold encode; cases l.time <;> simp

/-- with the guard in place the decoder has no panic outcome, for every byte string -/
theorem Dec.varint_no_panic (cfg : DecodeCfg) (h : cfg.overflowPanics = false) (d : Dec) : d.varint cfg ≠ none := by
  unfold Dec.varint
  split
  · simp
  · split <;> simp [h]
    · split <;> simp

theorem Dec.bytes_no_panic (cfg : DecodeCfg) (h : cfg.overflowPanics = false) (d : Dec) : d.bytes cfg ≠ none := by
  unfold Dec.bytes
  have := Dec.varint_no_panic cfg h d
  split
  · contradiction
  · split
    · simp
    · split
      · simp
      · split <;> simp

theorem decode_no_panic (cfg : DecodeCfg) (h : cfg.overflowPanics = false) (bs : Bytes) : decode cfg bs ≠ .panic := by
  unfold decode
  simp only
  split
  · exact absurd ‹_› (Dec.varint_no_panic cfg h _)
  · split
    · exact absurd ‹_› (Dec.varint_no_panic cfg h _)
    · split
      · exact absurd ‹_› (Dec.varint_no_panic cfg h _)
      · split
        · exact absurd ‹_› (Dec.bytes_no_panic cfg h _)
        · split
          · exact absurd ‹_› (Dec.bytes_no_panic cfg h _)
          · split
            · simp
            · split <;> simp

/-- witness of the decoder panic in the pinned code: 10 continuation bytes + 1 -/
theorem decode_panic_witness :
    decode { overflowPanics := true, shortIsErr := false } [0xff,0xff,0xff,0xff,0xff,0xff,0xff,0xff,0xff,0xff,0x01] = .panic := by
  decide

end RaftWal
