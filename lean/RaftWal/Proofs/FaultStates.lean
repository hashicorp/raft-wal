/-
  Proofs/FaultStates.lean — the states an Open leaves satisfy the invariant, their readers see the log of the disk, and
  the calls legal for what readers see are the calls legal in the crash model.
-/
import RaftWal.Proofs.FaultSteps
namespace RaftWal.Fault.E
open RaftWal.Crash

/-- a `QuiescentS` disk is a state of the invariant with nothing left behind -/
theorem run_of_QS {d : Disk} {P : List Seg} {t : Seg} {f : File} (h : QS d P t f) : A.FRun d P t f :=
  ⟨h.base, h.tf, ⟨h.qt.base, h.qt.lk, h.qt.mn, h.vis, fun hs => by rw [h.qt.ss] at hs; cases hs⟩⟩

theorem fresh_view : fresh_view_stmt := by
  rintro ⟨d, _⟩ ⟨hq, rfl⟩
  obtain ⟨P, t, f, hq⟩ := (quiescentS_iff d).1 hq
  rw [A.view_run, (run_of_QS hq).view_eq, (run_of_QS hq).log_eq, hq.qt.pend, List.append_nil]

theorem fresh_inv : fresh_inv_stmt := by
  rintro ⟨d, _⟩ ⟨hq, rfl⟩
  obtain ⟨P, t, f, hq⟩ := (quiescentS_iff d).1 hq
  exact ⟨(run_of_QS hq).finv, (A.fextraRun_iff (run_of_QS hq)).2 (A.sealNonempty_of_noseal hq.qt.ss hq.qt.sp)⟩

theorem init_eq : Fault.init = some { disk := disk0 } := by
  unfold Fault.init
  rw [open_empty]
  rfl

theorem disk0_quiescentS : QuiescentS disk0 := by
  obtain ⟨d, ho, hq, _⟩ := init_quiescentS
  rw [open_empty] at ho
  cases ho
  exact hq

theorem init_fresh : init_fresh_stmt := by
  refine ⟨{ disk := disk0 }, init_eq, ⟨disk0_quiescentS, rfl⟩, ?_⟩
  rw [fresh_view _ ⟨disk0_quiescentS, rfl⟩]
  decide

/-! ### legal calls -/

theorem lfirst_absLog (d : Disk) : lfirst (absLog d) = firstIndex d := rfl
theorem llast_absLog (d : Disk) : llast (absLog d) = lastIndex d := rfl

theorem okV_absLog_iff (d : Disk) (op : Op) : OkV (absLog d) op ↔ op.ok d := by
  cases op <;> exact Iff.rfl

/-- on a fresh state the calls legal for the readers' view are the calls legal in the crash model -/
theorem fresh_okV_iff {p : Proc} (hp : Fresh p) (op : Op) : OkV (view p) op ↔ op.ok p.disk := by
  rw [fresh_view p hp]
  exact okV_absLog_iff _ op

end RaftWal.Fault.E

namespace RaftWal.Fault.D
open RaftWal.Crash

instance decFInvD (p : Proc) : Decidable (FInv p) := by unfold FInv; infer_instance
instance decFInvSD (p : Proc) : Decidable (FInvS p) := by unfold FInvS; infer_instance

theorem fresh_view_proved_D : fresh_view_stmt := E.fresh_view

theorem fresh_invS : fresh_inv_stmt := E.fresh_inv

end RaftWal.Fault.D

/-! ### `C.FR`: `A.FRun` with the fields of its tail file laid out flat (see `A.FRun`) -/

namespace RaftWal.Fault.C
open RaftWal.Crash

variable {d : Disk} {P : List Seg} {t : Seg} {f : File}

/-- the tail file without what failed calls left on it -/
def clr (f : File) : File := { f with pending := [], sealedP := false, sealedS := false }

@[simp] theorem clr_id (f : File) : (clr f).id = f.id := rfl
@[simp] theorem vfile_id (f : File) : (vfile f).id = f.id := rfl

theorem vdisk_md (d : Disk) : (vdisk d).md = d.md := rfl

/-- a running process between two calls: the sealed segments `P` with their files, the tail `t` with its file `f` which
    may carry a leftover batch / seal flag beyond the writer's offset, or be durably sealed; other files are free -/
structure FR (d : Disk) (P : List Seg) (t : Seg) (f : File) : Prop where
  base : Base d P t
  tf : d.file? t.id = some f
  fb : f.base = t.base
  lk : f.linked = true ∨ f.synced = []
  mn : t.min ≤ f.base + f.synced.length
  vis : f.synced ≠ [] → t.min < f.base + f.synced.length
  ss : f.sealedS = true → f.pending = [] ∧ f.sealedP = false

theorem FR.run (h : FR d P t f) : A.FRun d P t f := ⟨h.base, h.tf, ⟨h.fb, h.lk, h.mn, h.vis, h.ss⟩⟩

theorem FR.of_run (h : A.FRun d P t f) : FR d P t f :=
  ⟨h.base, h.tf, h.ft.base, h.ft.lk, h.ft.mn, h.ft.vis, h.ft.ss⟩

theorem finvRunB_iff (d : Disk) : finvRunB d = true ↔ ∃ P t f, FR d P t f :=
  (A.finvRunB_iff d).trans
    ⟨fun ⟨P, t, f, h⟩ => ⟨P, t, f, FR.of_run h⟩, fun ⟨P, t, f, h⟩ => ⟨P, t, f, h.run⟩⟩

end RaftWal.Fault.C
