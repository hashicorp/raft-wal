/-
  Proofs/ConcProps.lean — properties of Model/Conc.lean for EVERY schedule of any number of readers, the writer's
  queued state changes and Close, read off `Inv`; exact counts and no-panic need no assumption on file ids.
-/
import RaftWal.Proofs.ConcInv
namespace RaftWal.Conc

/-- the repaired code: readers test for the empty state -/
def fixed : Cfg := { readersCheckEmpty := true }

/-- initial systems we quantify over: distinct file ids, and every file a mutation adds is fresh (segment ids are
    never reused — C13) -/
structure InitWF (files : List FileId) (muts : List Mutation) : Prop where
  nodup : (files ++ (muts.map (·.add)).flatten).Nodup

/-- everything reachable from an initial system under any schedule -/
def Reachable (files wants : List FileId) (muts : List Mutation) (s : Sys) : Prop :=
  ∃ sched : List Tid, s = run fixed (init files wants muts) sched

theorem Reachable.inv {files wants : List FileId} {muts : List Mutation} (hwf : InitWF files muts) {s : Sys}
    (h : Reachable files wants muts s) : Inv s := by
  obtain ⟨sched, rfl⟩ := h
  exact foldl_induction (step fixed) (inv_step fixed) sched (inv_init files wants muts hwf.nodup)

theorem Reachable.cinv {files wants : List FileId} {muts : List Mutation} {s : Sys}
    (h : Reachable files wants muts s) : CInv s := by
  obtain ⟨sched, rfl⟩ := h
  exact foldl_induction (step fixed) (cinv_step fixed) sched (cinv_init files wants muts)

theorem isOpen_false_iff (s : Sys) (f : FileId) : s.isOpen f = false ↔ f ∈ s.closedFiles := by
  simp [Sys.isOpen]

/-- it was dropped below `cur` and never comes back -/
theorem Inv.closed_not_cur {s : Sys} (h : Inv s) (f : FileId) (hf : f ∈ s.closedFiles) :
    f ∉ (s.obj s.cur).files := by
  intro hcur
  obtain ⟨k, hk1, hk2, hk3⟩ := h.cl_sound f hf
  have hlt := h.toOInv.succ_lt_of_fin_ne (k := k) (by rw [hk1]; nofun)
  have := h.cur_last
  exact hk3 (h.convex k (k + 1) s.cur f (Nat.le_succ k) (by omega) hk2 hcur)

theorem Inv.cur_open {s : Sys} (h : Inv s) : ∀ f ∈ (s.obj s.cur).files, s.isOpen f = true := by
  intro f hf
  cases ho : s.isOpen f
  · exact absurd hf (h.closed_not_cur f ((isOpen_false_iff s f).1 ho))
  · rfl

theorem readRes_errFile {cfg : Cfg} {s : Sys} {r : Reader} {sid : Nat} (hres : readRes cfg s r sid = .errFile) :
    s.isOpen r.want = false := by
  cases ho : s.isOpen r.want
  · rfl
  · unfold readRes at hres
    rw [ho, if_pos rfl] at hres
    exact absurd hres (ite_ne (ite_ne nofun nofun) (ite_ne nofun nofun))

theorem Inv.all_closed {s : Sys} (h : Inv s) (hc : s.cpc = .done) (hw : s.wpc = .idle)
    (hr : ∀ r ∈ s.readers, ∃ res, r.pc = .done res) :
    ∀ sid, sid < s.objs.length → ∀ f ∈ (s.obj sid).files, s.isOpen f = false := by
  have hcl := h.cur_last
  have h' : PInv s .idle .done := hw ▸ hc ▸ h.toPInv
  -- nobody holds anything, so no finalizer is still waiting
  have hhold : ∀ k, holders s k = 0 := by
    intro k
    have : rHolders s.readers k = 0 := by
      rw [rHolders, List.length_eq_zero_iff, List.filter_eq_nil_iff]
      intro r hrm
      obtain ⟨res, hres⟩ := hr r hrm
      rw [hres]; exact Bool.false_ne_true
    rw [holders_eq, this, hc, hw]; rfl
  have htaken : ∀ k, k + 1 < s.objs.length → (s.obj k).fin = .taken := by
    intro k hk
    cases hf : (s.obj k).fin with
    | unset => exact absurd hf (h'.no_unset nofun nofun k hk)
    | set c =>
      have := (h.fin_set k c hf).2
      rw [h.rc k, hhold k] at this
      cases this
    | taken => rfl
  have hemp : (s.obj s.cur).files = [] := h'.c_empty rfl
  -- going up from `sid`, the file is dropped somewhere before the empty state
  have key : ∀ d k f, k + d = s.cur → f ∈ (s.obj k).files → f ∈ s.closedFiles := by
    intro d
    induction d with
    | zero =>
      intro k f hk hf
      rw [show k = s.cur from hk, hemp] at hf
      cases hf
    | succ d ih =>
      intro k f hk hf
      by_cases hn : f ∈ (s.obj (k + 1)).files
      · exact ih (k + 1) f ((Nat.add_right_comm k 1 d).trans hk) hn
      · exact h.cl_compl k (htaken k (by omega)) f ⟨hf, hn⟩
  intro sid hsid f hf
  rw [isOpen_false_iff]
  exact key (s.cur - sid) sid f (Nat.add_sub_cancel' (Nat.le_of_lt_succ (Nat.lt_of_lt_of_eq hsid hcl.symm))) hf

/-- **C14 no panic**: in no execution does a reader dereference the empty state Close stores -/
theorem no_panic (files wants : List FileId) (muts : List Mutation) (s : Sys) (h : Reachable files wants muts s) :
    ∀ r ∈ s.readers, r.pc ≠ .done .panic ∧ ∀ sid, r.pc ≠ .finished sid .panic := by
  obtain ⟨sched, rfl⟩ := h
  exact foldl_induction (step fixed) (noPanic_step rfl) sched (noPanic_init files wants muts)

/-- the pinned code (no empty-state test) does panic: a reader parked after its closed check, Close, reader resumed -/
theorem panic_witness_unfixed :
    ∃ sched, ∃ r ∈ (run { readersCheckEmpty := false } (init [1] [1] []) sched).readers, r.pc = .done .panic := by
  refine ⟨[.reader 0, .closer, .closer, .closer, .closer, .reader 0, .reader 0, .reader 0, .reader 0], ?_⟩
  decide

/-- **C06/C14 no handle is closed twice**: never a finalizer for a file another finalizer already closed -/
theorem no_double_close (files wants : List FileId) (muts : List Mutation) (hwf : InitWF files muts) (s : Sys)
    (h : Reachable files wants muts s) : s.doubleClose = false := by
  exact (h.inv hwf).no_dc

-- `hc` is idle in this and the next two statements: after Close has published, the current state is the empty one
/-- **C06 files of the current state are open**: until Close swaps in the empty state, every file the current
    state references is open -/
theorem current_files_open (files wants : List FileId) (muts : List Mutation) (hwf : InitWF files muts) (s : Sys)
    (h : Reachable files wants muts s) (hc : closePublished s = false) :
    ∀ f ∈ (s.obj s.cur).files, s.isOpen f = true := by
  exact (h.inv hwf).cur_open

/-- **C06 error only if removed**: a read fails with a file error (an error other than not-found, not during Close)
    only for a file that a state change has dropped from the current state -/
theorem error_only_if_removed (files wants : List FileId) (muts : List Mutation) (hwf : InitWF files muts) (s : Sys)
    (h : Reachable files wants muts s) (i : Nat) (r : Reader) (hr : s.readers[i]? = some r) (sid : Nat)
    (hpc : r.pc = .acquired sid) (hc : closePublished s = false)
    (hres : ((stepReader fixed s i).readers[i]?.map (·.pc)) = some (.finished sid .errFile)) :
    r.want ∉ (s.obj s.cur).files := by
  rw [stepReader_acquired fixed s i r hr sid hpc] at hres
  injection hres with hres
  injection hres with _ hres
  exact (h.inv hwf).closed_not_cur _ ((isOpen_false_iff s _).1 (readRes_errFile hres))

/-- **C06 intact if it stays**: a read of an entry whose file is in the snapshot the reader holds and still in the
    current state (and Close has not swapped the state) succeeds -/
theorem intact_if_stays (files wants : List FileId) (muts : List Mutation) (hwf : InitWF files muts) (s : Sys)
    (h : Reachable files wants muts s) (i : Nat) (r : Reader) (hr : s.readers[i]? = some r) (sid : Nat)
    (hpc : r.pc = .acquired sid) (hin : r.want ∈ (s.obj sid).files) (hempty : (s.obj sid).empty = false)
    (hcur : r.want ∈ (s.obj s.cur).files) (hc : closePublished s = false) :
    ((stepReader fixed s i).readers[i]?.map (·.pc)) = some (.finished sid .ok) := by
  rw [stepReader_acquired fixed s i r hr sid hpc, readRes, hempty, (h.inv hwf).cur_open _ hcur,
    List.contains_iff_mem.2 hin]
  rfl

-- `hs` is idle: an object that does not exist has count 0
/-- **C06 reference counts are exact**: the count of a state object equals the number of threads currently holding a
    reference to it -/
theorem refcount_exact (files wants : List FileId) (muts : List Mutation) (s : Sys)
    (h : Reachable files wants muts s) (sid : Nat) (hs : sid < s.objs.length) :
    (s.obj sid).refCount = holders s sid := by
  exact h.cinv.rc sid

/-- **C14 Close is final**: once Close has set the flag, a call that starts afterwards returns ErrClosed -/
theorem closed_is_final (s : Sys) (i : Nat) (r : Reader) (hr : s.readers[i]? = some r) (hpc : r.pc = .start)
    (hcl : s.closed = true) : ((stepReader fixed s i).readers[i]?.map (·.pc)) = some (.done .errClosed) := by
  exact stepReader_start_closed fixed s i r hr hpc hcl

-- `hclosed` is idle: `cpc = .done` says more
/-- **C14 handles released after readers**: when Close has finished, the writer is idle and every reader has
    finished, every file any state ever referenced has been closed -/
theorem close_releases_all (files wants : List FileId) (muts : List Mutation) (hwf : InitWF files muts) (s : Sys)
    (h : Reachable files wants muts s) (hc : s.cpc = .done) (hw : s.wpc = .idle)
    (hr : ∀ r ∈ s.readers, ∃ res, r.pc = .done res) (hclosed : s.closed = true) :
    ∀ sid, sid < s.objs.length → ∀ f ∈ (s.obj sid).files, s.isOpen f = false := by
  exact (h.inv hwf).all_closed hc hw hr

end RaftWal.Conc
