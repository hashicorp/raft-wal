/-
  Proofs/ConcInv.lean — the global invariant: exact counts (`CInv`), the shape of the objects (`OInv`), where the
  writer and Close stand (`PInv`); it holds initially when file ids are distinct and is kept by every step.
-/
import RaftWal.Proofs.ConcRefcount
import RaftWal.Proofs.ConcObjects
namespace RaftWal.Conc

attribute [local irreducible] Sys.release  -- as in ConcRefcount

def wActive (w : WPc) : Bool :=
  match w with
  | .idle => false
  | _ => true

theorem wHolds_of_idle {w : WPc} (h : wActive w = false) (k : Nat) : wHolds w k = 0 := by
  cases w <;> first | rfl | cases h

/-- has Close already replaced the state pointer? -/
def closePublished (s : Sys) : Bool :=
  match s.cpc with
  | .published _ | .finSet _ | .done => true
  | _ => false

def CPc.pub : CPc → Bool
  | .published _ | .finSet _ | .done => true
  | _ => false

def CPc.started : CPc → Bool
  | .idle => false
  | _ => true

/-- Close has taken the lock -/
def CPc.took : CPc → Bool
  | .idle | .flagged => false
  | _ => true

theorem CPc.started_of_took {c : CPc} (h : c.took = true) : c.started = true := by
  cases c <;> first | rfl | cases h

/-- mutations whose `add` files are not yet part of any state object -/
def pendingOf (w : WPc) (q : List Mutation) : List Mutation :=
  match w with
  | .published _ | .finSet _ => q.tail
  | _ => q

def addsOf (ms : List Mutation) : List FileId := (ms.map (·.add)).flatten

/-- a state change holds `cur` until it has published the successor, then the object before `cur` -/
def phaseOk (s : Sys) : WPc → Prop
  | .held x => x = s.cur
  | .published x => x + 1 = s.cur ∧ (s.obj x).fin = .unset
  | .finSet x => x + 1 = s.cur
  | _ => True

def WPc.pubAt : WPc → Nat → Prop
  | .published x, k => x = k
  | _, _ => False

/-- Control: flag, lock, where the two lock-taking threads stand, freshness of queued files.  The pcs are parameters
    (`Inv` puts `s.wpc`, `s.cpc`): once a step has told which constructor a pc is, every clause computes, and
    clauses on which the old and the new pc agree carry over as they are. -/
structure PInv (s : Sys) (w : WPc) (c : CPc) : Prop where
  closed_eq : s.closed = c.started
  lock_eq : s.lock = (wActive w || wActive c.asW)
  excl : c.took = true → wActive w = false
  w_ok : phaseOk s w
  c_ok : phaseOk s c.asW
  c_empty : c.pub = true → (s.obj s.cur).files = []
  /-- only the object that has just been replaced is without a finalizer, until it is attached -/
  fin_unset : ∀ k, k + 1 < s.objs.length → (s.obj k).fin = .unset → w.pubAt k ∨ c.asW.pubAt k
  padds_nodup : (addsOf (pendingOf w s.wqueue)).Nodup
  fresh : ∀ k, ∀ f ∈ (s.obj k).files, f ∉ addsOf (pendingOf w s.wqueue)

/-- the part of the invariant that needs distinct file ids -/
structure SInv (s : Sys) : Prop extends OInv s, PInv s s.wpc s.cpc

structure Inv (s : Sys) : Prop extends CInv s, SInv s

theorem PInv.c_out {s : Sys} {w : WPc} {c : CPc} (h : PInv s w c) (hw : wActive w = true) :
    c.asW = .idle ∧ c.pub = false := by
  cases c <;> first | exact ⟨rfl, rfl⟩ | exact Bool.noConfusion ((h.excl rfl).symm.trans hw)

theorem PInv.w_idle {s : Sys} {w : WPc} {c : CPc} (h : PInv s w c) (hc : c.took = true) : w = .idle := by
  have := h.excl hc
  cases w <;> first | rfl | cases this

theorem PInv.no_unset {s : Sys} {w : WPc} {c : CPc} (h : PInv s w c) (hw : ∀ k, ¬ w.pubAt k)
    (hc : ∀ k, ¬ c.asW.pubAt k) (k : Nat) (hk : k + 1 < s.objs.length) : (s.obj k).fin ≠ .unset :=
  fun hf => (h.fin_unset k hk hf).elim (hw k) (hc k)

theorem phaseOk_frame {s s' : Sys} (hcur : s'.cur = s.cur)
    (hfin : ∀ k, (s.obj k).fin = .unset → (s'.obj k).fin = .unset) : ∀ p, phaseOk s p → phaseOk s' p
  | .held _, h => h.trans hcur.symm
  | .published x, h => ⟨h.1.trans hcur.symm, hfin x h.2⟩
  | .finSet _, h => h.trans hcur.symm
  | .idle, _ => trivial
  | .locked, _ => trivial

theorem PInv.frame {s s' : Sys} {w w' : WPc} {c c' : CPc} (h : PInv s w c) (hcur : s'.cur = s.cur)
    (hlen : s'.objs.length = s.objs.length) (hcl : s'.closed = s.closed) (hl : s'.lock = s.lock)
    (hq : s'.wqueue = s.wqueue) (hw : w' = w) (hc : c' = c) (hfiles : ∀ k, (s'.obj k).files = (s.obj k).files)
    (hfin : ∀ k, (s'.obj k).fin = .unset ↔ (s.obj k).fin = .unset) : PInv s' w' c' := hw ▸ hc ▸ {
  closed_eq := hcl.trans h.closed_eq
  lock_eq := hl.trans h.lock_eq
  excl := h.excl
  w_ok := phaseOk_frame hcur (fun k => (hfin k).2) _ h.w_ok
  c_ok := phaseOk_frame hcur (fun k => (hfin k).2) _ h.c_ok
  c_empty hp := by rw [hcur, hfiles]; exact h.c_empty hp
  fin_unset k hk hf := h.fin_unset k (hlen ▸ hk) ((hfin k).1 hf)
  padds_nodup := hq ▸ h.padds_nodup
  fresh k f := by rw [hfiles, hq]; exact h.fresh k f }

theorem inv_init (files wants : List FileId) (muts : List Mutation)
    (hnd : (files ++ addsOf muts).Nodup) : Inv (init files wants muts) := by
  have hobj := init_obj files wants muts
  rw [List.nodup_append] at hnd
  refine { toCInv := cinv_init files wants muts, toOInv := ?_, toPInv := ?_ }
  · constructor
    case cur_last => rfl
    case fin_cur => rfl
    case fin_set => intro k c hk; rw [hobj] at hk; split at hk <;> cases hk
    case cl_sound => nofun
    case cl_compl => intro k hk; rw [hobj] at hk; split at hk <;> cases hk
    case no_dc => rfl
    case convex =>
      intro i m j f him hmj hi hj
      rw [hobj] at hi hj ⊢
      split at hj
      · next hj0 => rwa [if_pos (Nat.le_zero.1 (hj0 ▸ hmj))]
      · cases hj
  · constructor
    case closed_eq => rfl
    case lock_eq => rfl
    case excl => exact fun _ => rfl
    case w_ok => trivial
    case c_ok => trivial
    case c_empty => nofun
    case fin_unset => exact fun k hk => absurd hk (Nat.not_lt.2 (Nat.le_add_left 1 k))
    case padds_nodup => exact hnd.2.1
    case fresh =>
      intro k f hf hp
      rw [hobj] at hf
      split at hf
      · exact hnd.2.2 f hf f hp rfl
      · cases hf

theorem addsOf_cons (m : Mutation) (ms : List Mutation) : addsOf (m :: ms) = m.add ++ addsOf ms :=
  List.flatten_cons

theorem publish_pos {s : Sys} (h : OInv s) (o : Obj) (hfin : o.fin = .unset) {sid : Nat} (hsid : sid = s.cur)
    (hno : ∀ k, k + 1 < s.objs.length → (s.obj k).fin ≠ .unset) (s' : Sys)
    (hs' : s' = { s with objs := s.objs ++ [o], cur := s.objs.length }) :
    phaseOk s' (.published sid) ∧ ∀ k, k + 1 < s'.objs.length → (s'.obj k).fin = .unset → sid = k := by
  subst hs'
  have hf' := append_proj (·.fin) (s := s) (s' := { s with objs := s.objs ++ [o], cur := s.objs.length }) rfl hfin
  refine ⟨⟨hsid ▸ h.cur_last, by rw [hf', hsid]; exact h.fin_cur⟩, ?_⟩
  intro k hk hf
  rw [hf'] at hf
  refine Decidable.by_contra fun hne => hno k ?_ hf
  have := h.cur_last
  simp only [List.length_append, List.length_singleton] at hk
  omega

theorem sinv_stepWriter {s : Sys} (h : Inv s) : SInv (stepWriter s) := by
  refine stepWriter_cases (P := SInv) s h.toSInv ?_ ?_ ?_ ?_ ?_ ?_
  · intro hw
    exact { toOInv := h.toOInv.congr
            toPInv := { h.toPInv with
              padds_nodup := by rw [hw]; exact List.nodup_nil
              fresh := fun _ _ _ => by rw [hw]; exact List.not_mem_nil } }
  · intro hw hcl
    have h' : PInv s .idle s.cpc := hw ▸ h.toPInv
    exact { toOInv := h.toOInv.congr
            toPInv := { h' with
              lock_eq := rfl
              excl := fun ht => Bool.noConfusion ((h'.closed_eq.symm.trans hcl).symm.trans (CPc.started_of_took ht)) } }
  · intro hw
    have h' : PInv s .locked s.cpc := hw ▸ h.toPInv
    have h₂ : PInv { s with wpc := .held s.cur } (.held s.cur) s.cpc := { h' with w_ok := rfl }
    exact { toOInv := (h.toOInv.incRc s.cur).congr
            toPInv := h₂.frame rfl (setObj_length ..) rfl rfl rfl rfl rfl (incRc_files s s.cur)
              (incRc_fin_unset s s.cur) }
  · intro sid m rest hw hq
    have h' : PInv s (.held sid) s.cpc := hw ▸ h.toPInv
    have hsid : sid = s.cur := h'.w_ok
    obtain ⟨hci, hcp⟩ := h'.c_out rfl
    have hnd : (m.add ++ addsOf rest).Nodup := addsOf_cons m rest ▸ hq ▸ h'.padds_nodup
    rw [List.nodup_append] at hnd
    have hfr : ∀ k, ∀ f ∈ (s.obj k).files, f ∉ m.add ++ addsOf rest := addsOf_cons m rest ▸ hq ▸ h'.fresh
    -- a file of the successor is kept from the replaced object or added by the mutation
    have hofl : ∀ f ∈ (m.apply (s.obj sid)).files, f ∈ (s.obj s.cur).files ∨ f ∈ m.add := by
      intro f hf
      rcases List.mem_append.1 hf with hf | hf
      · exact .inl (hsid ▸ List.contains_iff_mem.1 (List.mem_filter.1 hf).2)
      · exact .inr hf
    have ho : OInv { s with objs := s.objs ++ [m.apply (s.obj sid)], cur := s.objs.length, wpc := .published sid } :=
      h.toOInv.append rfl rfl rfl rfl rfl fun f hf =>
        (hofl f hf).imp_right fun ha k hk => hfr k f hk (List.mem_append_left _ ha)
    obtain ⟨hok, hun⟩ := publish_pos h.toOInv (m.apply (s.obj sid)) rfl hsid (h'.no_unset nofun (hci ▸ nofun)) _ rfl
    refine { toOInv := ho, toPInv := { h' with
      w_ok := hok, c_ok := hci ▸ trivial, c_empty := fun hp => Bool.noConfusion (hcp.symm.trans hp),
      fin_unset := fun k hk hf => .inl (hun k hk hf), padds_nodup := hq ▸ hnd.2.1, fresh := ?_ } }
    intro k f hf
    rw [hq]
    rw [obj_append rfl] at hf
    split at hf
    · rcases hofl f hf with hf | hf
      · exact fun hm => hfr _ f hf (List.mem_append_right _ hm)
      · exact fun hm => hnd.2.2 f hf f hm rfl
    · exact fun hm => hfr k f hf (List.mem_append_right _ hm)
  · intro sid hw
    generalize hcd : (s.obj sid).files.filter (fun f => ¬ (s.obj s.cur).files.contains f) = c
    have h' : PInv s (.published sid) s.cpc := hw ▸ h.toPInv
    obtain ⟨hsid, hunset⟩ := h'.w_ok
    obtain ⟨hci, hcp⟩ := h'.c_out rfl
    have hlt : sid < s.objs.length := by have := h.cur_last; omega
    have hfiles := setObj_proj (·.files) s sid { s.obj sid with fin := .set c } rfl
    refine { toPInv := ?_, toOInv := (h.toOInv.setFin sid c hsid hunset
      (h.one_le_of_w (by rw [hw]; exact if_pos rfl))
      fun f => by rw [dropped, hsid, ← hcd]; simp).congr }
    exact { h' with
      w_ok := hsid, c_ok := hci ▸ trivial, c_empty := fun hp => Bool.noConfusion (hcp.symm.trans hp),
      fin_unset := fun k hk hf =>
        have ⟨hne, hf⟩ := setObj_fin_unset s _ k hlt hf nofun
        absurd ((h'.fin_unset k (setObj_length .. ▸ hk) hf).resolve_right (hci ▸ nofun)) hne,
      fresh := fun k f hf => h'.fresh k f (hfiles k ▸ hf) }
  · intro sid hw
    have h' : PInv s (.finSet sid) s.cpc := hw ▸ h.toPInv
    obtain ⟨hci, hcp⟩ := h'.c_out rfl
    have h₂ : PInv { s with wpc := .idle, lock := false, wqueue := s.wqueue.tail } .idle s.cpc := { h' with
      lock_eq := by rw [hci]; rfl, excl := fun _ => rfl, w_ok := trivial }
    exact { toOInv := (h.toOInv.release sid).congr
            toPInv := h₂.frame (release_cur s sid) (release_length s sid) (release_closed s sid) rfl rfl rfl
              (release_cpc s sid) (release_files s sid) (release_fin_unset s sid) }

theorem sinv_stepCloser {s : Sys} (h : Inv s) : SInv (stepCloser s) := by
  refine stepCloser_cases (P := SInv) s h.toSInv ?_ ?_ ?_ ?_ ?_ ?_ ?_
  · intro hc hcl
    have h' : PInv s s.wpc .idle := hc ▸ h.toPInv
    exact Bool.noConfusion (h'.closed_eq.symm.trans hcl)
  · intro hc _
    have h' : PInv s s.wpc .idle := hc ▸ h.toPInv
    exact { toOInv := h.toOInv.congr, toPInv := { h' with closed_eq := rfl } }
  · intro hc hl
    have h' : PInv s s.wpc .flagged := hc ▸ h.toPInv
    have hwa : wActive s.wpc = false := (Bool.or_false _).symm.trans (h'.lock_eq.symm.trans hl)
    exact { toOInv := h.toOInv.congr
            toPInv := { h' with lock_eq := by rw [hwa]; rfl, excl := fun _ => hwa } }
  · intro hc
    have h' : PInv s s.wpc .locked := hc ▸ h.toPInv
    have h₂ : PInv { s with cpc := .held s.cur } s.wpc (.held s.cur) := { h' with c_ok := rfl }
    exact { toOInv := (h.toOInv.incRc s.cur).congr
            toPInv := h₂.frame rfl (setObj_length ..) rfl rfl rfl rfl rfl (incRc_files s s.cur)
              (incRc_fin_unset s s.cur) }
  · intro sid hc
    have h' : PInv s s.wpc (.held sid) := hc ▸ h.toPInv
    have hwi : s.wpc = .idle := h'.w_idle rfl
    have hsid : sid = s.cur := h'.c_ok
    have ho : OInv { s with objs := s.objs ++ [{ empty := true }], cur := s.objs.length, cpc := .published sid } :=
      h.toOInv.append rfl rfl rfl rfl rfl fun f hf => absurd hf List.not_mem_nil
    obtain ⟨hok, hun⟩ := publish_pos h.toOInv { empty := true } rfl hsid (h'.no_unset (hwi ▸ nofun) nofun) _ rfl
    refine { toOInv := ho, toPInv := { h' with
      w_ok := hwi ▸ trivial, c_ok := hok,
      c_empty := fun _ => by rw [obj_append rfl, if_pos rfl],
      fin_unset := fun k hk hf => .inr (hun k hk hf), fresh := ?_ } }
    intro k f hf
    rw [obj_append rfl] at hf
    split at hf
    · exact absurd hf List.not_mem_nil
    · exact h'.fresh k f hf
  · intro sid hc
    have h' : PInv s s.wpc (.published sid) := hc ▸ h.toPInv
    have hwi : s.wpc = .idle := h'.w_idle rfl
    obtain ⟨hsid, hunset⟩ := h'.c_ok
    have hemp : (s.obj s.cur).files = [] := h'.c_empty rfl
    have hlt : sid < s.objs.length := by have := h.cur_last; omega
    have hfiles := setObj_proj (·.files) s sid { s.obj sid with fin := .set (s.obj sid).files } rfl
    refine { toPInv := ?_, toOInv := (h.toOInv.setFin sid (s.obj sid).files hsid hunset
      (h.one_le_of_c (by rw [hc]; exact if_pos rfl))
      fun f => by rw [dropped, hsid, hemp]; simp).congr }
    exact { h' with
      w_ok := hwi ▸ trivial, c_ok := hsid, c_empty := fun _ => (hfiles _).trans hemp,
      fin_unset := fun k hk hf =>
        have ⟨hne, hf⟩ := setObj_fin_unset s _ k hlt hf nofun
        absurd ((h'.fin_unset k (setObj_length .. ▸ hk) hf).resolve_left (hwi ▸ nofun)) hne,
      fresh := fun k f hf => h'.fresh k f (hfiles k ▸ hf) }
  · intro sid hc
    have h' : PInv s s.wpc (.finSet sid) := hc ▸ h.toPInv
    have hwa : wActive s.wpc = false := h'.excl rfl
    have h₂ : PInv { s with cpc := .done, lock := false } s.wpc .done := { h' with
      lock_eq := by rw [hwa]; rfl, c_ok := trivial }
    exact { toOInv := (h.toOInv.release sid).congr
            toPInv := h₂.frame (release_cur s sid) (release_length s sid) (release_closed s sid) rfl
              (release_wqueue s sid) (release_wpc s sid) rfl (release_files s sid) (release_fin_unset s sid) }

theorem sinv_stepReader (cfg : Cfg) {s : Sys} (h : Inv s) (i : Nat) : SInv (stepReader cfg s i) := by
  refine stepReader_cases (P := SInv) cfg s i h.toSInv ?_ ?_ ?_
  · exact fun r pc' _ _ =>
      { toOInv := h.toOInv.congr, toPInv := { h.toPInv with } }
  · exact fun r sid _ _ =>
      { toOInv := (h.toOInv.incRc sid).congr
        toPInv := h.toPInv.frame rfl (setObj_length ..) rfl rfl rfl rfl rfl (incRc_files s sid)
          (incRc_fin_unset s sid) }
  · exact fun r sid res _ _ =>
      { toOInv := (h.toOInv.release sid).congr
        toPInv := h.toPInv.frame (release_cur s sid) (release_length s sid) (release_closed s sid)
          (release_lock s sid) (release_wqueue s sid) (release_wpc s sid) (release_cpc s sid) (release_files s sid)
          (release_fin_unset s sid) }

theorem inv_step (cfg : Cfg) (s : Sys) (t : Tid) (h : Inv s) : Inv (step cfg s t) where
  toCInv := cinv_step cfg s t h.toCInv
  toSInv := by
    cases t with
    | reader i => exact sinv_stepReader cfg h i
    | writer => exact sinv_stepWriter h
    | closer => exact sinv_stepCloser h

end RaftWal.Conc
