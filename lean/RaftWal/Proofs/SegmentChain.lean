/-
  Proofs/SegmentChain.lean — byte-level crash chains for the segment model (L1, property C02): every chain of
  acknowledged appends, process restarts and torn appends (power loss with an arbitrary subset of the 8-byte chunks
  of the in-flight write on disk, followed by tail recovery), starting from a fresh segment (`chain_atomic`).

  Sealing.  An append attempted on a segment an earlier event sealed returns `ErrSealed` in the code and is an error
  of `chainRun`.  `chain_atomic_gen` needs no condition on `sizeLimit` and has that as a third outcome
  (`ChainSealedStop`; e.g. a torn sealing append recovered as absent followed by further appends); `chain_atomic`
  excludes it by `ChainWF.fits`.  A torn sealing append recovered as absent leaves the file longer than `sizeLimit`;
  the invariant does not constrain the file length.

  Not modelled: a power loss DURING recovery's own zeroing of the stale tail (`clearStale` is one atomic step of
  `recoverTail` in Model/Segment.lean; see Proofs/SegmentChainRec.lean), I/O errors (C10), the WAL level (rotation,
  meta store: Model/Crash.lean).
-/
import RaftWal.Proofs.SegmentChainTorn
namespace RaftWal
open Spec (Acc Batch addEntry addBatch)

/-- one step of the life of a tail segment -/
inductive ChainEv
  /-- acknowledged append of the (non-empty) batch `b` -/
  | append  (b : List Bytes)
  /-- process restart: the in-memory writer is lost, `recoverTail` runs on the file as it is -/
  | restart
  /-- append of `b` in flight, power loss with chunk `j` of the written range on disk iff `mask j`, then `recoverTail` -/
  | torn    (b : List Bytes) (mask : Nat → Bool)

/-- the index the next entry gets — the value `appendEntry` insists on; it equals
    `info.base + bs.flatten.length` for the ghost batches `bs` (`ChainInv.next`) -/
def chainNext (info : SegInfo) (w : Writer) : Nat := info.base + w.offsets.length

def chainStep (info : SegInfo) (s : Writer × Bytes) : ChainEv → Except SegErr (Writer × Bytes)
  | .append b =>
    match s.1.append s.2 (indexBatch (chainNext info s.1) b) .none with
    | (some e, _, _) => .error e
    | (none, w', file') => .ok (w', file')
  | .restart => recoverTail info s.2
  | .torn b mask =>
    match s.1.append s.2 (indexBatch (chainNext info s.1) b) .none with
    | (some e, _, _) => .error e
    | (none, w', file') =>
      recoverTail info (tearImage s.2 file' s.1.writeOffset (w'.writeOffset - s.1.writeOffset) mask)

def chainRun (info : SegInfo) (s : Writer × Bytes) : List ChainEv → Except SegErr (Writer × Bytes)
  | [] => .ok s
  | e :: evs =>
    match chainStep info s e with
    | .error err => .error err
    | .ok s' => chainRun info s' evs

/-- the batches the file may hold after the events: every `append b` contributes `b`, every `torn b m` contributes
    `b` or nothing, `restart` contributes nothing -/
def chainSpec : List ChainEv → List (List Bytes) → Prop
  | [], bs => bs = []
  | .append b :: evs, bs => ∃ bs', bs = b :: bs' ∧ chainSpec evs bs'
  | .restart :: evs, bs => chainSpec evs bs
  | .torn b _ :: evs, bs => chainSpec evs bs ∨ ∃ bs', bs = b :: bs' ∧ chainSpec evs bs'

def ChainEv.batches : ChainEv → List (List Bytes)
  | .append b => [b]
  | .restart => []
  | .torn b _ => [b]

def chainBatches (evs : List ChainEv) : List (List Bytes) := evs.flatMap ChainEv.batches

/-- side conditions of a chain, in the style of `RunWF`: batches non-empty, payloads within `maxEntrySize` (the
    writer refuses larger ones), header fields 64-bit, the uint32 arithmetic does not wrap even if every torn
    batch is recovered whole -/
structure ChainSizes (info : SegInfo) (evs : List ChainEv) : Prop where
  nonempty   : ∀ b ∈ chainBatches evs, b ≠ []
  payload_le : ∀ b ∈ chainBatches evs, ∀ p ∈ b, p.length ≤ maxEntrySize
  base_lt    : info.base < 2^64
  id_lt      : info.id < 2^64
  codec_lt   : info.codec < 2^64
  limit_lt   : info.sizeLimit < 2^32
  size_lt    : runBytesBound (chainBatches evs) < 2^32

/-- `ChainSizes` and: the preallocated file is large enough for all batch events but the last one never to seal
    (the last one may) -/
structure ChainWF (info : SegInfo) (evs : List ChainEv) : Prop where
  nonempty   : ∀ b ∈ chainBatches evs, b ≠ []
  payload_le : ∀ b ∈ chainBatches evs, ∀ p ∈ b, p.length ≤ maxEntrySize
  base_lt    : info.base < 2^64
  id_lt      : info.id < 2^64
  codec_lt   : info.codec < 2^64
  limit_lt   : info.sizeLimit < 2^32
  size_lt    : runBytesBound (chainBatches evs) < 2^32
  fits       : runBytesBound (chainBatches evs).dropLast ≤ info.sizeLimit

/-- the CRC-32C residual of one torn append: `RegionCollision` of its power-loss image, spelled out -/
def TornCollision (info : SegInfo) (s : Writer × Bytes) (b : List Bytes) (mask : Nat → Bool) : Prop :=
  ∃ w' file', s.1.append s.2 (indexBatch (chainNext info s.1) b) .none = (none, w', file') ∧
    let img := tearImage s.2 file' s.1.writeOffset (w'.writeOffset - s.1.writeOffset) mask
    batchRegion img s.1.writeOffset w'.writeOffset ≠ batchRegion file' s.1.writeOffset w'.writeOffset ∧
    crc32c (batchRegion img s.1.writeOffset w'.writeOffset) = crc32c (batchRegion file' s.1.writeOffset w'.writeOffset)

def ChainCollision (info : SegInfo) (evs : List ChainEv) : Prop :=
  ∃ pre b mask post s, evs = pre ++ ChainEv.torn b mask :: post
    ∧ chainRun info (freshSegment info) pre = .ok s ∧ TornCollision info s b mask

structure ChainResult (info : SegInfo) (evs : List ChainEv) (w : Writer) (file : Bytes) (bs : List (List Bytes)) : Prop where
  run      : chainRun info (freshSegment info) evs = .ok (w, file)
  /-- `bs`: every acknowledged batch, every torn batch whole or not at all -/
  spec     : chainSpec evs bs
  inv      : ChainInv info w file bs
  /-- the writer IS the one a run of completed appends of `bs` on the fresh segment ends with (all fields); the
      files agree up to the write offset -/
  asFresh  : ∃ w0 file0, (freshSegment info).1.appendAll (freshSegment info).2 info.base bs = some (w0, file0)
               ∧ w = w0 ∧ w.obs = w0.obs ∧ file.take w.writeOffset = file0.take w0.writeOffset
  readable : info.min = info.base → ∀ (k : Nat) (hk : k < bs.flatten.length) (bufSize : Nat), 8 ≤ bufSize →
               w.getLog file (info.base + k) bufSize = .ok (bs.flatten[k]'hk)
  nothingAbove : ∀ (idx bufSize : Nat), info.base + bs.flatten.length ≤ idx →
               (0 < idx → w.getLog file idx bufSize = .error .notFound) ∧ ∃ e, w.getLog file idx bufSize = .error e
  /-- no stale bytes survive -/
  clean    : ∀ x ∈ file.drop w.writeOffset, x = 0
  /-- the segment is sealed only if the submitted batches, index frame included, did not fit below `sizeLimit` -/
  unsealed : runBytesBound (chainBatches evs) ≤ info.sizeLimit → w.indexStart = 0

/-- the chain attempts an append (acknowledged or torn) on a segment an earlier event of the chain sealed — the
    code answers `ErrSealed`, the WAL rotates to a new segment —: up to there the chain ran with the full
    conclusion -/
def ChainSealedStop (info : SegInfo) (evs : List ChainEv) : Prop :=
  ∃ pre e post w file bs, evs = pre ++ e :: post ∧ e.batches ≠ []
    ∧ ChainResult info pre w file bs ∧ 0 < w.indexStart
    ∧ chainRun info (freshSegment info) evs = .error .sealed

def chain_atomic_stmt : Prop :=
  ∀ (info : SegInfo) (evs : List ChainEv), ChainWF info evs →
    ChainCollision info evs ∨ ∃ w file bs, ChainResult info evs w file bs

theorem foldlM_append_ok {σ ε α : Type} {f : σ → α → Except ε σ} {s s1 : σ} {l1 : List α} (l2 : List α)
    (h : l1.foldlM f s = .ok s1) : (l1 ++ l2).foldlM f s = l2.foldlM f s1 := by
  rw [List.foldlM_append, h]; rfl

theorem foldlM_append_error {σ ε α : Type} {f : σ → α → Except ε σ} {s : σ} {err : ε} {l1 : List α} (l2 : List α)
    (h : l1.foldlM f s = .error err) : (l1 ++ l2).foldlM f s = .error err := by
  rw [List.foldlM_append, h]; rfl

theorem foldlM_snoc_ok {σ ε α : Type} {f : σ → α → Except ε σ} {s s1 : σ} {l : List α} (a : α)
    (h : l.foldlM f s = .ok s1) : (l ++ [a]).foldlM f s = f s1 a := by
  rw [foldlM_append_ok _ h, List.foldlM_cons]
  cases f s1 a <;> rfl

theorem snoc_induction {α : Type} {motive : List α → Prop} (nil : motive [])
    (snoc : ∀ l a, motive l → motive (l ++ [a])) (l : List α) : motive l := by
  rw [← l.reverse_reverse]
  generalize l.reverse = m
  induction m with
  | nil => exact nil
  | cons a m ih => rw [List.reverse_cons]; exact snoc _ _ ih

theorem chainRun_eq_foldlM (info : SegInfo) (s : Writer × Bytes) (evs : List ChainEv) :
    chainRun info s evs = evs.foldlM (chainStep info) s := by
  induction evs generalizing s with
  | nil => rfl
  | cons e evs ih =>
    rw [chainRun, List.foldlM_cons]
    cases chainStep info s e with
    | error err => rfl
    | ok s' => exact ih s'

theorem chainRun_cons_ok {info : SegInfo} {s r : Writer × Bytes} {e : ChainEv} {l : List ChainEv} :
    chainRun info s (e :: l) = .ok r ↔ ∃ s', chainStep info s e = .ok s' ∧ chainRun info s' l = .ok r := by
  rw [chainRun]
  cases chainStep info s e with
  | error err => exact ⟨fun h => (nomatch h), fun ⟨_, h, _⟩ => (nomatch h)⟩
  | ok s' => exact ⟨fun h => ⟨s', rfl, h⟩, fun ⟨_, h, hr⟩ => Except.ok.inj h ▸ hr⟩

theorem chainRun_snoc (info : SegInfo) (s s1 : Writer × Bytes) (l : List ChainEv) (e : ChainEv)
    (h : chainRun info s l = .ok s1) : chainRun info s (l ++ [e]) = chainStep info s1 e := by
  rw [chainRun_eq_foldlM] at h ⊢; exact foldlM_snoc_ok e h

theorem chainRun_append_error (info : SegInfo) (s : Writer × Bytes) (l1 l2 : List ChainEv) (err : SegErr)
    (h : chainRun info s l1 = .error err) : chainRun info s (l1 ++ l2) = .error err := by
  rw [chainRun_eq_foldlM] at h ⊢; exact foldlM_append_error l2 h

theorem chainSpec_append (l1 l2 : List ChainEv) (bs1 bs2 : List (List Bytes)) (h1 : chainSpec l1 bs1)
    (h2 : chainSpec l2 bs2) : chainSpec (l1 ++ l2) (bs1 ++ bs2) := by
  induction l1 generalizing bs1 with
  | nil => rw [chainSpec] at h1; subst h1; exact h2
  | cons e l1 ih =>
    cases e with
    | append c =>
      obtain ⟨bs', rfl, h'⟩ := h1
      exact ⟨bs' ++ bs2, rfl, ih bs' h'⟩
    | restart => exact ih bs1 h1
    | torn c m =>
      rcases h1 with h | ⟨bs', rfl, h'⟩
      · exact Or.inl (ih bs1 h)
      · exact Or.inr ⟨bs' ++ bs2, rfl, ih bs' h'⟩

theorem chainSpec_snoc_append (evs : List ChainEv) (bs : List (List Bytes)) (b : List Bytes) (h : chainSpec evs bs) :
    chainSpec (evs ++ [.append b]) (bs ++ [b]) :=
  chainSpec_append evs _ bs _ h ⟨[], rfl, rfl⟩

theorem chainSpec_snoc_restart (evs : List ChainEv) (bs : List (List Bytes)) (h : chainSpec evs bs) :
    chainSpec (evs ++ [.restart]) bs :=
  bs.append_nil ▸ chainSpec_append evs [.restart] bs [] h rfl

theorem chainSpec_snoc_torn_absent (evs : List ChainEv) (bs : List (List Bytes)) (b : List Bytes) (m : Nat → Bool)
    (h : chainSpec evs bs) : chainSpec (evs ++ [.torn b m]) bs :=
  bs.append_nil ▸ chainSpec_append evs [.torn b m] bs [] h (Or.inl rfl)

theorem chainSpec_snoc_torn_whole (evs : List ChainEv) (bs : List (List Bytes)) (b : List Bytes) (m : Nat → Bool)
    (h : chainSpec evs bs) : chainSpec (evs ++ [.torn b m]) (bs ++ [b]) :=
  chainSpec_append evs _ bs _ h (Or.inr ⟨[], rfl, rfl⟩)

theorem chainSpec_snoc_batch {evs : List ChainEv} {e : ChainEv} {b : List Bytes} (he : e.batches = [b])
    {bs : List (List Bytes)} (h : chainSpec evs bs) : chainSpec (evs ++ [e]) (bs ++ [b]) := by
  cases e with
  | restart => cases he
  | append c => cases he; exact chainSpec_snoc_append evs bs b h
  | torn c m => cases he; exact chainSpec_snoc_torn_whole evs bs b m h

theorem chainBatches_cons (e : ChainEv) (evs : List ChainEv) : chainBatches (e :: evs) = e.batches ++ chainBatches evs := by
  simp [chainBatches]

theorem chainBatches_snoc (evs : List ChainEv) (e : ChainEv) : chainBatches (evs ++ [e]) = chainBatches evs ++ e.batches := by
  simp [chainBatches]

theorem chainBatches_append (l1 l2 : List ChainEv) : chainBatches (l1 ++ l2) = chainBatches l1 ++ chainBatches l2 := by
  simp [chainBatches]

theorem chainSpec_sublist (evs : List ChainEv) (bs : List (List Bytes)) (h : chainSpec evs bs) :
    bs.Sublist (chainBatches evs) := by
  induction evs generalizing bs with
  | nil => rw [chainSpec] at h; subst h; exact .slnil
  | cons e evs ih =>
    rw [chainBatches_cons]
    cases e with
    | append c =>
      obtain ⟨bs', rfl, h'⟩ := h
      exact (ih bs' h').cons_cons c
    | restart => exact ih bs h
    | torn c m =>
      rcases h with h | ⟨bs', rfl, h'⟩
      · exact (ih bs h).cons c
      · exact (ih bs' h').cons_cons c

theorem chainSpec_acked (evs : List ChainEv) (bs : List (List Bytes)) (h : chainSpec evs bs) (b : List Bytes)
    (hb : ChainEv.append b ∈ evs) : b ∈ bs := by
  induction evs generalizing bs with
  | nil => cases hb
  | cons e evs ih =>
    cases e with
    | append c =>
      obtain ⟨bs', rfl, h'⟩ := h
      rcases List.mem_cons.mp hb with hb | hb
      · cases hb; exact List.mem_cons_self
      · exact List.mem_cons_of_mem _ (ih bs' h' hb)
    | restart => exact ih bs h ((List.mem_cons.mp hb).resolve_left (fun h => by cases h))
    | torn c m =>
      have hb' := (List.mem_cons.mp hb).resolve_left (fun h => by cases h)
      rcases h with h | ⟨bs', rfl, h'⟩
      · exact ih bs h hb'
      · exact List.mem_cons_of_mem _ (ih bs' h' hb')

theorem need_cnt_sublist {l1 l2 : List (List Bytes)} (h : l1.Sublist l2) : need l1 ≤ need l2 ∧ cnt l1 ≤ cnt l2 := by
  induction h with
  | slnil => exact ⟨Nat.le_refl _, Nat.le_refl _⟩
  | cons a _ ih => rw [need_cons, cnt_cons]; omega
  | cons_cons a _ ih => rw [need_cons, cnt_cons, need_cons, cnt_cons]; omega

theorem runBytesBound_mono {l1 l2 : List (List Bytes)} (hn : need l1 ≤ need l2) (hc : cnt l1 ≤ cnt l2) :
    runBytesBound l1 ≤ runBytesBound l2 := by
  rw [runBytesBound_eq, runBytesBound_eq]; omega

theorem runBytesBound_sublist {l1 l2 : List (List Bytes)} (h : l1.Sublist l2) : runBytesBound l1 ≤ runBytesBound l2 :=
  runBytesBound_mono (need_cnt_sublist h).1 (need_cnt_sublist h).2

theorem ChainWF.sizes {info : SegInfo} {evs : List ChainEv} (h : ChainWF info evs) : ChainSizes info evs :=
  ⟨h.nonempty, h.payload_le, h.base_lt, h.id_lt, h.codec_lt, h.limit_lt, h.size_lt⟩

theorem ChainSizes.runWF_sublist {info : SegInfo} {evs : List ChainEv} {bs : List (List Bytes)}
    (h : ChainSizes info evs) (hs : bs.Sublist (chainBatches evs)) :
    RunWF info bs ∧ ∀ b ∈ bs, ∀ p ∈ b, p.length ≤ maxEntrySize :=
  ⟨⟨fun x hx => h.nonempty x (hs.subset hx), h.base_lt, h.id_lt, h.codec_lt, h.limit_lt,
    Nat.lt_of_le_of_lt (runBytesBound_sublist hs) h.size_lt⟩, fun x hx => h.payload_le x (hs.subset hx)⟩

theorem ChainSizes.of_append {info : SegInfo} {l1 l2 : List ChainEv} (h : ChainSizes info (l1 ++ l2)) :
    ChainSizes info l1 := by
  have hs : (chainBatches l1).Sublist (chainBatches (l1 ++ l2)) := by
    rw [chainBatches_append]; exact List.sublist_append_left _ _
  exact ⟨fun b hb => h.nonempty b (hs.subset hb), fun b hb => h.payload_le b (hs.subset hb), h.base_lt, h.id_lt,
    h.codec_lt, h.limit_lt, Nat.lt_of_le_of_lt (runBytesBound_sublist hs) h.size_lt⟩

theorem ChainSizes.prefix {info : SegInfo} {evs : List ChainEv} {e : ChainEv} (h : ChainSizes info (evs ++ [e])) :
    ChainSizes info evs := h.of_append

theorem ChainWF.prefix_fits {info : SegInfo} {evs pre post : List ChainEv} {e : ChainEv} (h : ChainWF info evs)
    (h1 : evs = pre ++ e :: post) (h2 : e.batches ≠ []) : runBytesBound (chainBatches pre) ≤ info.sizeLimit := by
  have hne : e.batches ++ chainBatches post ≠ [] := fun h0 => h2 (List.append_eq_nil_iff.mp h0).1
  have hf := h.fits
  rw [h1, chainBatches_append, chainBatches_cons, List.dropLast_append_of_ne_nil hne] at hf
  exact Nat.le_trans (runBytesBound_sublist (List.sublist_append_left _ _)) hf

theorem chain_batch_setup {info : SegInfo} {evs : List ChainEv} {e : ChainEv} {b : List Bytes}
    (he : e.batches = [b]) (hwf : ChainSizes info (evs ++ [e]))
    {bs : List (List Bytes)} (hspec : chainSpec evs bs) :
    RunWF info (bs ++ [b]) ∧ (∀ p ∈ b, p.length ≤ maxEntrySize) ∧ b ≠ []
    ∧ (runBytesBound (chainBatches (evs ++ [e])) ≤ info.sizeLimit →
        runBytesBound (bs ++ [b]) ≤ info.sizeLimit ∧ runBytesBound (chainBatches evs) ≤ info.sizeLimit) := by
  have hcb : chainBatches (evs ++ [e]) = chainBatches evs ++ [b] := by rw [chainBatches_snoc, he]
  have hs : (bs ++ [b]).Sublist (chainBatches (evs ++ [e])) := by
    rw [hcb]; exact (chainSpec_sublist evs bs hspec).append (List.Sublist.refl _)
  have hbm : b ∈ chainBatches (evs ++ [e]) := hs.subset (List.mem_append_right _ List.mem_cons_self)
  refine ⟨(hwf.runWF_sublist hs).1, hwf.payload_le b hbm, hwf.nonempty b hbm, fun hf => ⟨?_, ?_⟩⟩
  · exact Nat.le_trans (runBytesBound_sublist hs) hf
  · rw [hcb] at hf
    exact Nat.le_trans (runBytesBound_sublist (List.sublist_append_left _ _)) hf

theorem chainStep_append_inv (info : SegInfo) (bs : List (List Bytes)) (b : List Bytes)
    (hwf : RunWF info (bs ++ [b])) (hmax : ∀ p ∈ b, p.length ≤ maxEntrySize)
    (w : Writer) (file : Bytes) (hI : ChainInv info w file bs) (hidx : w.indexStart = 0) :
    ∃ w' file', chainStep info (w, file) (.append b) = .ok (w', file')
      ∧ w.append file (indexBatch (info.base + bs.flatten.length) b) .none = (none, w', file')
      ∧ ChainInv info w' file' (bs ++ [b]) := by
  obtain ⟨w', file', happ⟩ := chain_append_ok info bs b hwf hmax w file hI hidx
  refine ⟨w', file', ?_, happ, chainInv_append info bs b hwf w file hI w' file' happ⟩
  simp only [chainStep, chainNext, hI.next, happ]

theorem chainStep_restart_inv (info : SegInfo) (hb : info.base < 2^64) (hi : info.id < 2^64) (hc : info.codec < 2^64)
    (bs : List (List Bytes)) (w : Writer) (file : Bytes) (hI : ChainInv info w file bs) :
    chainStep info (w, file) .restart = .ok (w, file) :=
  recover_inv info hb hi hc bs w file hI

/-- what a torn append of `b` from an invariant state for `bs` ends in (`step`: the event's result): the residual
    `coll`, or the batch absent — the state before the append, the file lengthened by zeros at most —, or the batch
    whole — the state after the completed append -/
def TornOutcome (info : SegInfo) (coll : Prop) (step : Except SegErr (Writer × Bytes)) (bs : List (List Bytes))
    (b : List Bytes) (w : Writer) (file : Bytes) : Prop :=
  coll
  ∨ (∃ k, step = .ok (w, file ++ zeros k) ∧ ChainInv info w (file ++ zeros k) bs)
  ∨ (∃ w' file', step = .ok (w', file')
        ∧ w.append file (indexBatch (info.base + bs.flatten.length) b) .none = (none, w', file')
        ∧ ChainInv info w' file' (bs ++ [b]))

theorem chainStep_torn_inv (info : SegInfo) (bs : List (List Bytes)) (b : List Bytes) (mask : Nat → Bool)
    (hwf : RunWF info (bs ++ [b])) (hmax : ∀ p ∈ b, p.length ≤ maxEntrySize)
    (w : Writer) (file : Bytes) (hI : ChainInv info w file bs) (hidx : w.indexStart = 0) :
    TornOutcome info (TornCollision info (w, file) b mask) (chainStep info (w, file) (.torn b mask)) bs b w file := by
  obtain ⟨w', file', happ⟩ := chain_append_ok info bs b hwf hmax w file hI hidx
  have hstep : chainStep info (w, file) (.torn b mask)
      = recoverTail info (tearImage file file' w.writeOffset (w'.writeOffset - w.writeOffset) mask) := by
    simp only [chainStep, chainNext, hI.next, happ]
  have hcoll : RegionCollision (tearImage file file' w.writeOffset (w'.writeOffset - w.writeOffset) mask) file'
      w.writeOffset w'.writeOffset → TornCollision info (w, file) b mask :=
    fun hc => ⟨w', file', by simp only [chainNext, hI.next]; exact happ, hc⟩
  rcases chain_torn_cases info bs b hwf w file hI w' file' happ mask with h | ⟨h, hc | hc⟩ | ⟨_, _, _, hc⟩
  · exact Or.inr (Or.inl ⟨_, by rw [hstep]; exact h, chainInv_append_zeros hI _⟩)
  · exact Or.inr (Or.inr ⟨w', file', by rw [hstep, h, hc], happ, chainInv_append info bs b hwf w file hI w' file' happ⟩)
  · exact Or.inl (hcoll hc)
  · exact Or.inl (hcoll hc)

theorem chainStep_sealed (info : SegInfo) (w : Writer) (file : Bytes) (e : ChainEv) (b : List Bytes)
    (he : e.batches = [b]) (hb : b ≠ []) (hidx : 0 < w.indexStart) :
    chainStep info (w, file) e = .error .sealed := by
  cases e with
  | restart => cases he
  | append c => cases he; simp only [chainStep, append_sealed _ _ _ _ hidx hb]
  | torn c m => cases he; simp only [chainStep, append_sealed _ _ _ _ hidx hb]

/-- what the induction carries, apart from the run (the chains of Proofs/SegmentChainRec.lean run differently and
    carry the same) -/
structure ChainGhost (info : SegInfo) (evs : List ChainEv) (w : Writer) (file : Bytes) (bs : List (List Bytes)) : Prop where
  spec     : chainSpec evs bs
  inv      : ChainInv info w file bs
  asFresh  : ∃ file0, (freshSegment info).1.appendAll (freshSegment info).2 info.base bs = some (w, file0)
  unsealed : runBytesBound (chainBatches evs) ≤ info.sizeLimit → w.indexStart = 0

theorem ChainGhost.snoc_restart {info evs w file bs} (h : ChainGhost info evs w file bs) :
    ChainGhost info (evs ++ [.restart]) w file bs :=
  ⟨chainSpec_snoc_restart evs bs h.spec, h.inv, h.asFresh, fun hf => h.unsealed (by
    rwa [chainBatches_snoc, ChainEv.batches, List.append_nil] at hf)⟩

theorem ChainGhost.snoc_absent {info evs w file bs} (h : ChainGhost info evs w file bs) (b : List Bytes)
    (mask : Nat → Bool) (k : Nat) (hidx : w.indexStart = 0) :
    ChainGhost info (evs ++ [.torn b mask]) w (file ++ zeros k) bs :=
  ⟨chainSpec_snoc_torn_absent evs bs b mask h.spec, chainInv_append_zeros h.inv k, h.asFresh, fun _ => hidx⟩

theorem ChainGhost.snoc_whole {info evs w file bs} (h : ChainGhost info evs w file bs) {e : ChainEv} {b : List Bytes}
    (he : e.batches = [b]) (hwf : ChainSizes info (evs ++ [e])) {w' : Writer} {file' : Bytes}
    (happ : w.append file (indexBatch (info.base + bs.flatten.length) b) .none = (none, w', file')) :
    ChainGhost info (evs ++ [e]) w' file' (bs ++ [b]) := by
  obtain ⟨hrwf, _, _, hfit⟩ := chain_batch_setup he hwf h.spec
  obtain ⟨file0, hfresh⟩ := h.asFresh
  obtain ⟨file0', happ0⟩ := append_none_indep w file file0 _ w' file' happ
  exact ⟨chainSpec_snoc_batch he h.spec, chainInv_append info bs b hrwf w file h.inv w' file' happ,
    ⟨file0', appendAll_append _ _ _ bs w file0 b w' file0' hfresh happ0⟩,
    fun hf => chain_append_noseal info bs b hrwf (hfit hf).1 w file h.inv w' file' happ⟩

/-- a torn event, short of the residual: the chain goes on with the batch absent or whole -/
theorem ChainGhost.snoc_torn {info evs w file bs} (h : ChainGhost info evs w file bs) {b : List Bytes} {mask : Nat → Bool}
    (hwf : ChainSizes info (evs ++ [.torn b mask])) (hidx : w.indexStart = 0) {coll : Prop}
    {step : Except SegErr (Writer × Bytes)} (ho : TornOutcome info coll step bs b w file) :
    coll ∨ ∃ w' file' bs', step = .ok (w', file') ∧ ChainGhost info (evs ++ [.torn b mask]) w' file' bs' := by
  rcases ho with hcol | ⟨k, hst, _⟩ | ⟨w', file', hst, happ, _⟩
  · exact Or.inl hcol
  · exact Or.inr ⟨w, _, bs, hst, h.snoc_absent b mask k hidx⟩
  · exact Or.inr ⟨w', file', _, hst, h.snoc_whole rfl hwf happ⟩

theorem ChainGhost.result {info evs w file bs} (h : ChainGhost info evs w file bs) (hwf : ChainSizes info evs) :
    (∃ w0 file0, (freshSegment info).1.appendAll (freshSegment info).2 info.base bs = some (w0, file0)
        ∧ w = w0 ∧ w.obs = w0.obs ∧ file.take w.writeOffset = file0.take w0.writeOffset)
    ∧ (info.min = info.base → ∀ (k : Nat) (hk : k < bs.flatten.length) (bufSize : Nat), 8 ≤ bufSize →
        w.getLog file (info.base + k) bufSize = .ok (bs.flatten[k]'hk))
    ∧ (∀ (idx bufSize : Nat), info.base + bs.flatten.length ≤ idx →
        (0 < idx → w.getLog file idx bufSize = .error .notFound) ∧ ∃ e, w.getLog file idx bufSize = .error e) := by
  obtain ⟨file0, hfresh⟩ := h.asFresh
  obtain ⟨hrwf, hmax⟩ := hwf.runWF_sublist (chainSpec_sublist evs bs h.spec)
  have e2 := (chainInv_of_run info bs hrwf w file0 hfresh).inv.bytes
  rw [h.inv.inv.bytes] at e2
  exact ⟨⟨w, file0, hfresh, rfl, rfl, List.append_cancel_right e2⟩,
    fun hmin k hk bufSize hbuf => chain_getLog info hmin bs w file h.inv file rfl hmax k hk bufSize hbuf,
    fun idx bufSize hidx => chain_getLog_above info bs w file h.inv file idx hidx bufSize⟩

structure ChainOK (info : SegInfo) (evs : List ChainEv) (w : Writer) (file : Bytes) (bs : List (List Bytes)) : Prop where
  run      : chainRun info (freshSegment info) evs = .ok (w, file)
  spec     : chainSpec evs bs
  inv      : ChainInv info w file bs
  asFresh  : ∃ file0, (freshSegment info).1.appendAll (freshSegment info).2 info.base bs = some (w, file0)
  unsealed : runBytesBound (chainBatches evs) ≤ info.sizeLimit → w.indexStart = 0

theorem ChainOK.ghost {info evs w file bs} (h : ChainOK info evs w file bs) : ChainGhost info evs w file bs :=
  ⟨h.spec, h.inv, h.asFresh, h.unsealed⟩

theorem ChainOK.snoc {info evs w file bs} (h : ChainOK info evs w file bs) {e : ChainEv} {w' : Writer} {file' : Bytes}
    {bs' : List (List Bytes)} (hst : chainStep info (w, file) e = .ok (w', file'))
    (g : ChainGhost info (evs ++ [e]) w' file' bs') : ChainOK info (evs ++ [e]) w' file' bs' :=
  ⟨by rw [chainRun_snoc info _ _ evs _ h.run, hst], g.spec, g.inv, g.asFresh, g.unsealed⟩

theorem chainOK_nil (info : SegInfo) : ChainOK info [] (freshSegment info).1 (freshSegment info).2 [] :=
  ⟨rfl, rfl, chainInv_fresh info, ⟨_, rfl⟩, fun _ => rfl⟩

theorem chainOK_batch_setup {info : SegInfo} {evs : List ChainEv} {e : ChainEv} {b : List Bytes}
    (he : e.batches = [b]) (hwf : ChainSizes info (evs ++ [e]))
    {w : Writer} {file : Bytes} {bs : List (List Bytes)} (h : ChainOK info evs w file bs) :
    RunWF info (bs ++ [b]) ∧ (∀ p ∈ b, p.length ≤ maxEntrySize) ∧ b ≠ []
    ∧ (runBytesBound (chainBatches (evs ++ [e])) ≤ info.sizeLimit →
        runBytesBound (bs ++ [b]) ≤ info.sizeLimit ∧ runBytesBound (chainBatches evs) ≤ info.sizeLimit) :=
  chain_batch_setup he hwf h.spec

theorem chainResult_of_ok (info : SegInfo) (evs : List ChainEv) (hwf : ChainSizes info evs)
    (w : Writer) (file : Bytes) (bs : List (List Bytes)) (h : ChainOK info evs w file bs) :
    ChainResult info evs w file bs :=
  have r := h.ghost.result hwf
  ⟨h.run, h.spec, h.inv, r.1, r.2.1, r.2.2, h.inv.inv.zeros, h.unsealed⟩

theorem collision_snoc {info : SegInfo} {evs : List ChainEv} (e : ChainEv) (h : ChainCollision info evs) :
    ChainCollision info (evs ++ [e]) := by
  obtain ⟨pre, b, mask, post, s, h1, h2, h3⟩ := h
  exact ⟨pre, b, mask, post ++ [e], s, by rw [h1]; simp, h2, h3⟩

theorem sealedStop_snoc {info : SegInfo} {evs : List ChainEv} (e : ChainEv) (h : ChainSealedStop info evs) :
    ChainSealedStop info (evs ++ [e]) := by
  obtain ⟨pre, e0, post, w, file, bs, h1, h2, h3, h4, h5⟩ := h
  exact ⟨pre, e0, post ++ [e], w, file, bs, by rw [h1]; simp, h2, h3, h4, chainRun_append_error info _ evs [e] _ h5⟩

theorem ChainOK.sealedStop {info evs w file bs} (h : ChainOK info evs w file bs) {e : ChainEv} {b : List Bytes}
    (he : e.batches = [b]) (hb : b ≠ []) (hidx : ¬ w.indexStart = 0) (hwf : ChainSizes info (evs ++ [e])) :
    ChainSealedStop info (evs ++ [e]) :=
  ⟨evs, e, [], w, file, bs, rfl, by rw [he]; exact List.cons_ne_nil _ _, chainResult_of_ok info evs hwf.prefix w file bs h,
    Nat.pos_of_ne_zero hidx,
    by rw [chainRun_snoc info _ _ evs _ h.run, chainStep_sealed info w file e b he hb (Nat.pos_of_ne_zero hidx)]⟩

theorem chain_step (info : SegInfo) (evs : List ChainEv) (e : ChainEv) (hwf : ChainSizes info (evs ++ [e]))
    (w : Writer) (file : Bytes) (bs : List (List Bytes)) (h : ChainOK info evs w file bs) :
    ChainCollision info (evs ++ [e]) ∨ (∃ w' file' bs', ChainOK info (evs ++ [e]) w' file' bs')
      ∨ ChainSealedStop info (evs ++ [e]) := by
  cases e with
  | restart =>
    exact Or.inr (Or.inl ⟨w, file, bs, h.snoc
      (chainStep_restart_inv info hwf.base_lt hwf.id_lt hwf.codec_lt bs w file h.inv) h.ghost.snoc_restart⟩)
  | append b =>
    obtain ⟨hrwf, hmax, hbne, _⟩ := chain_batch_setup (b := b) rfl hwf h.spec
    by_cases hidx : w.indexStart = 0
    · obtain ⟨w', file', hst, happ, _⟩ := chainStep_append_inv info bs b hrwf hmax w file h.inv hidx
      exact Or.inr (Or.inl ⟨w', file', _, h.snoc hst (h.ghost.snoc_whole rfl hwf happ)⟩)
    · exact Or.inr (Or.inr (h.sealedStop rfl hbne hidx hwf))
  | torn b mask =>
    obtain ⟨hrwf, hmax, hbne, _⟩ := chain_batch_setup (b := b) rfl hwf h.spec
    by_cases hidx : w.indexStart = 0
    · rcases h.ghost.snoc_torn hwf hidx (chainStep_torn_inv info bs b mask hrwf hmax w file h.inv hidx) with
        hcol | ⟨w', file', bs', hst, g⟩
      · exact Or.inl ⟨evs, b, mask, [], (w, file), rfl, h.run, hcol⟩
      · exact Or.inr (Or.inl ⟨w', file', bs', h.snoc hst g⟩)
    · exact Or.inr (Or.inr (h.sealedStop rfl hbne hidx hwf))

/-- **C02 (L1) crash chains, no condition on `sizeLimit`**: as `chain_atomic`, with the third outcome that the chain
    runs like that up to a sealed state and then attempts an append, which the code refuses with `ErrSealed`. -/
theorem chain_atomic_gen (info : SegInfo) (evs : List ChainEv) (hwf : ChainSizes info evs) :
    ChainCollision info evs ∨ (∃ w file bs, ChainResult info evs w file bs) ∨ ChainSealedStop info evs := by
  have hind : ChainCollision info evs ∨ (∃ w file bs, ChainOK info evs w file bs) ∨ ChainSealedStop info evs := by
    induction evs using snoc_induction with
    | nil => exact Or.inr (Or.inl ⟨_, _, _, chainOK_nil info⟩)
    | snoc evs e ih =>
      rcases ih hwf.prefix with hc | ⟨w, file, bs, hok⟩ | hs
      · exact Or.inl (collision_snoc e hc)
      · exact chain_step info evs e hwf w file bs hok
      · exact Or.inr (Or.inr (sealedStop_snoc e hs))
  rcases hind with h | ⟨w, file, bs, h⟩ | h
  · exact Or.inl h
  · exact Or.inr (Or.inl ⟨w, file, bs, chainResult_of_ok info evs hwf w file bs h⟩)
  · exact Or.inr (Or.inr h)

/-- **C02 (L1) crash chains.** Every chain of acknowledged appends, restarts and torn appends on a
    fresh segment (sizes within `ChainWF`: only the last batch event may seal) either meets a CRC-32C collision at
    one of its torn events, or runs to a state that is exactly the state after a run of completed appends of some
    `bs` allowed by `chainSpec` — same writer, same bytes up to the write offset, zeros behind, every entry of `bs`
    readable with its payload, nothing else readable. -/
theorem chain_atomic (info : SegInfo) (evs : List ChainEv) (hwf : ChainWF info evs) :
    ChainCollision info evs ∨ ∃ w file bs, ChainResult info evs w file bs := by
  rcases chain_atomic_gen info evs hwf.sizes with h | h | ⟨pre, e, post, w, file, bs, h1, h2, h3, h4, _⟩
  · exact Or.inl h
  · exact Or.inr h
  · exact absurd (h3.unsealed (hwf.prefix_fits h1 h2)) (Nat.ne_of_gt h4)

theorem chain_atomic_full : chain_atomic_stmt := chain_atomic

theorem chain_atomic_obs (info : SegInfo) (evs : List ChainEv) (hwf : ChainWF info evs) (hmin : info.min = info.base) :
    ChainCollision info evs
    ∨ ∃ w file bs w0 file0, chainRun info (freshSegment info) evs = .ok (w, file) ∧ chainSpec evs bs
        ∧ (freshSegment info).1.appendAll (freshSegment info).2 info.base bs = some (w0, file0) ∧ w.obs = w0.obs
        ∧ (∀ (k : Nat) (hk : k < bs.flatten.length) (bufSize : Nat), 8 ≤ bufSize →
              w.getLog file (info.base + k) bufSize = .ok (bs.flatten[k]'hk))
        ∧ (∀ (idx bufSize : Nat), info.base + bs.flatten.length ≤ idx → ∃ e, w.getLog file idx bufSize = .error e)
        ∧ (∀ x ∈ file.drop w.writeOffset, x = 0) := by
  rcases chain_atomic info evs hwf with h | ⟨w, file, bs, h⟩
  · exact Or.inl h
  · obtain ⟨w0, file0, h1, _, h3, _⟩ := h.asFresh
    exact Or.inr ⟨w, file, bs, w0, file0, h.run, h.spec, h1, h3, h.readable hmin,
      fun idx bufSize hi => (h.nothingAbove idx bufSize hi).2, h.clean⟩

/-- **C01 at byte level, for chains**: whatever tears and restarts a chain contains, every batch whose append was
    acknowledged is in the recovered file (or a torn image collided under CRC-32C); nothing is fabricated: every
    batch the file holds was submitted (acknowledged or in flight) along the chain -/
theorem chain_acked_survive (info : SegInfo) (evs : List ChainEv) (hwf : ChainWF info evs) :
    ChainCollision info evs ∨ ∃ w file bs, ChainResult info evs w file bs ∧ (∀ b, ChainEv.append b ∈ evs → b ∈ bs)
      ∧ (∀ b ∈ bs, b ∈ chainBatches evs) := by
  rcases chain_atomic info evs hwf with h | ⟨w, file, bs, h⟩
  · exact .inl h
  · exact .inr ⟨w, file, bs, h, chainSpec_acked evs bs h.spec, fun _ hb => (chainSpec_sublist evs bs h.spec).subset hb⟩

/-- **C03 at byte level, for chains**: recovery never fails along a chain (the run is `.ok`), and the state it leaves
    accepts the next append: the chain extended by one more acknowledged append runs too -/
theorem chain_recovery_total (info : SegInfo) (evs : List ChainEv) (b : List Bytes) (hwf : ChainWF info (evs ++ [.append b])) :
    ChainCollision info (evs ++ [.append b]) ∨
      ∃ w file bs, chainRun info (freshSegment info) (evs ++ [.append b]) = .ok (w, file) ∧ b ∈ bs
        ∧ ChainResult info (evs ++ [.append b]) w file bs := by
  rcases chain_atomic info _ hwf with h | ⟨w, file, bs, h⟩
  · exact .inl h
  · exact .inr ⟨w, file, bs, h.run, chainSpec_acked _ bs h.spec b (by simp), h⟩

/-! ## concrete chains

  Segment `base = 5`, 232 bytes preallocated.  Seven events: an acknowledged append of two entries; a torn append
  of which only the entry-header chunk lands (recovered as absent, its stale bytes are zeroed); a restart; a torn
  append of two entries all of whose chunks land (recovered whole); a torn append whose payload chunk is lost
  (absent); an acknowledged append of a 100-byte entry, which does not fit below `sizeLimit` with the index frame
  and therefore SEALS the segment (the file grows to 280 bytes); a restart of the sealed segment. -/

def chainExInfo : SegInfo :=
  { id := 7, base := 5, min := 5, max := 0, codec := 1, indexStart := 0, sizeLimit := 232, sealed := false }

def chainExEvs : List ChainEv :=
  [ .append [[1, 2, 3], [4, 5, 6, 7, 8, 9, 10, 11, 12]],
    .torn [[13, 14]] (fun j => j == 0),
    .restart,
    .torn [[15, 16, 17, 18, 19, 20, 21, 22, 23], [24]] (fun _ => true),
    .torn [[25]] (fun j => j != 1),
    .append [List.replicate 100 42],
    .restart ]

theorem chainEx_wf : ChainWF chainExInfo chainExEvs where
  nonempty := by decide
  payload_le := by decide
  base_lt := by decide
  id_lt := by decide
  codec_lt := by decide
  limit_lt := by decide
  size_lt := by decide
  fits := by decide

example : ChainWF chainExInfo chainExEvs := chainEx_wf

/-- info: Except.ok ({ offsets := [32, 48, 80, 104, 128], writeOffset := 280, commitIdx := 9, indexStart := 248 }, 280) -/
#guard_msgs in
#eval (chainRun chainExInfo (freshSegment chainExInfo) chainExEvs).map (fun p => (p.1.obs, p.2.length))

/-- the same chain with the sealing append torn (chunk 3 lost: recovered as absent, the file stays 280 bytes long)
    and followed by a restart and one more append: outside `ChainWF.fits`, inside `ChainSizes`
    (`chain_atomic_gen` applies) -/
def chainExEvs2 : List ChainEv :=
  chainExEvs.take 5 ++ [.torn [List.replicate 100 42] (fun j => j != 3), .restart, .append [[1]]]

example : ChainSizes chainExInfo chainExEvs2 where
  nonempty := by decide
  payload_le := by decide
  base_lt := by decide
  id_lt := by decide
  codec_lt := by decide
  limit_lt := by decide
  size_lt := by decide

/-- info: Except.ok ({ offsets := [32, 48, 80, 104, 128], writeOffset := 152, commitIdx := 9, indexStart := 0 }, 280) -/
#guard_msgs in
#eval (chainRun chainExInfo (freshSegment chainExInfo) chainExEvs2).map (fun p => (p.1.obs, p.2.length))

/-- info: Except.error (RaftWal.SegErr.sealed) -/
#guard_msgs in
#eval (chainRun chainExInfo (freshSegment chainExInfo) (chainExEvs ++ [.append [[1]]])).map (fun p => (p.1.obs, p.2.length))

end RaftWal
