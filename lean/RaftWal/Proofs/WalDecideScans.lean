/-
  Proofs/WalDecideScans.lean — the model's truncation scans and StoreLogs guards are the ones obtained by plugging
  the predicates translated from wal.go (Generated/WalDecide.lean) into copies of the model functions.
  The walk lemmas take a pointwise "inline condition ↔ predicate = true" hypothesis (Proofs/WalDecide.lean discharges
  it), so no generated body is unfolded here.  Once the scans agree, a copy and the model function are the same term
  up to the names of their auxiliary matchers, and `rfl` says so; the functions they call are kept opaque meanwhile,
  or the unifier evaluates `createNext` on the state in front of it before it looks at the matchers.
-/
import RaftWal.Proofs.WalDecide
namespace RaftWal

/-- copy of `Wal.truncateHead`; the scan asks `stops` -/
def Wal.truncateHeadVia (stops : Bool → Nat → Nat → Nat → Nat → Nat → Bool) (w : Wal) (newMin : Nat) : Wal × Option Err :=
  let tci := w.tailCommitIdx
  let oldLast := w.lastIndex
  let n := headRemoved w.firstIndex oldLast newMin
  let rec walk : List (SegS × Rdr) → List (SegS × Rdr) → List Nat → (Option (SegS × Rdr) × List (SegS × Rdr) × List Nat)
    | [], _, del => (none, [], del)
    | (s, r) :: rest, remaining, del =>
      if stops s.sealed s.base s.min s.max (lastIndexOf remaining tci) newMin then (some (s, r), rest, del)
      else walk rest remaining.tail (del ++ [s.id])
  let (head, rest, del) := walk w.segs w.segs []
  let w := { w with ctr := { w.ctr with headTrunc := u64 (w.ctr.headTrunc + n) } }
  match head with
  | some (h, r) =>
    ({ w with segs := ({ h with min := newMin }, r) :: rest }.removeFiles del, none)
  | none =>
    let w1 := { w with segs := [] }
    match w1.createNext (u64 (oldLast + 1)) with
    | none => (w, some .other)
    | some w2 => (w2.removeFiles del, none)


theorem truncateHead_walk_eq_of_pointwise (stops : Bool → Nat → Nat → Nat → Nat → Nat → Bool) (newMin tci : Nat)
    (hp : ∀ (s : SegS) (stateLast : Nat),
      ((¬ s.sealed ∧ stateLast ≥ newMin) ∨ (s.sealed ∧ s.max ≥ newMin)) ↔
        stops s.sealed s.base s.min s.max stateLast newMin = true) :
    Wal.truncateHead.walk newMin tci = Wal.truncateHeadVia.walk stops newMin tci := by
  funext segs remaining del
  induction segs generalizing remaining del with
  | nil => rfl
  | cons x rest ih =>
    obtain ⟨s, r⟩ := x
    unfold Wal.truncateHead.walk Wal.truncateHeadVia.walk
    by_cases h : stops s.sealed s.base s.min s.max (lastIndexOf remaining tci) newMin = true
    · rw [if_pos ((hp s _).mpr h), if_pos h]
    · rw [if_neg (fun hc => h ((hp s _).mp hc)), if_neg h]
      exact ih _ _

attribute [local irreducible] Wal.createNext in
/-- **`Wal.truncateHead` is the copy with the condition translated from `truncateHeadLocked`** -/
theorem truncateHead_eq_via (w : Wal) (n : Nat) :
    w.truncateHead n = w.truncateHeadVia Generated.truncateHeadStopsAt n := by
  rw [Wal.truncateHead, Wal.truncateHeadVia,
    truncateHead_walk_eq_of_pointwise _ n w.tailCommitIdx (fun s sl => truncateHead_stop_eq_source s sl n)]
  rfl

/-- copy of `Wal.truncateTail`; the reverse scan asks `keeps` -/
def Wal.truncateTailVia (keeps : Nat → Nat → Nat → Nat → Bool) (w : Wal) (newMax : Nat) : Wal × Option Err :=
  let tci := w.tailCommitIdx
  let n := if w.lastIndex > newMax then w.lastIndex - newMax else 0
  let rec walk : List (SegS × Rdr) → List Nat → (List (SegS × Rdr) × List Nat)
    | [], del => ([], del)
    | (s, r) :: restRev, del =>
      if keeps s.base s.min s.max newMax then ((s, r) :: restRev, del)
      else walk restRev (del ++ [s.id])
  let (keptRev, del) := walk w.segs.reverse []
  let bump (w : Wal) : Wal := { w with ctr := { w.ctr with tailTrunc := u64 (w.ctr.tailTrunc + n) } }
  match keptRev with
  | [] =>
    let w1 := { w with segs := [] }
    match w1.createNext 0 with
    | none => (bump w, some .other)
    | some w2 => ((bump w2).removeFiles del, none)
  | (t, r) :: before =>
    let (t', files, ok) :=
      if t.sealed then (t, w.files, true)
      else match w.file? t.id with
        | none => (t, w.files, false)
        | some f =>
          if f.indexStart > 0 then ({ t with sealed := true, indexStart := f.indexStart }, w.files, true)
          else if f.entries.length = 0 then (t, w.files, false)
          else
            let hdr := if f.wsize = 0 then fileHeaderLen else 0
            let is := f.wsize + (hdr + frameHeaderLen)
            let f' := { f with indexStart := is, wsize := f.wsize + (hdr + indexFrameSize f.entries.length + frameHeaderLen) }
            ({ t with sealed := true, indexStart := is }, updFile w.files f', true)
    let _ := tci
    if ¬ ok then (w, some .other)
    else
      let w1 := { w with segs := (before.reverse ++ [({ t' with max := newMax }, r)]), files := files }
      match w1.createNext 0 with
      | none => (bump w, some .other)
      | some w2 => ((bump w2).removeFiles del, none)

theorem truncateTail_walk_eq_of_pointwise (keeps : Nat → Nat → Nat → Nat → Bool) (newMax : Nat)
    (hp : ∀ (s : SegS), (s.base ≤ newMax) ↔ keeps s.base s.min s.max newMax = true) :
    Wal.truncateTail.walk newMax = Wal.truncateTailVia.walk keeps newMax := by
  funext segs del
  induction segs generalizing del with
  | nil => rfl
  | cons x rest ih =>
    obtain ⟨s, r⟩ := x
    unfold Wal.truncateTail.walk Wal.truncateTailVia.walk
    by_cases h : keeps s.base s.min s.max newMax = true
    · rw [if_pos ((hp s).mpr h), if_pos h]
    · rw [if_neg (fun hc => h ((hp s).mp hc)), if_neg h]
      exact ih _

attribute [local irreducible] Wal.createNext in
/-- **`Wal.truncateTail` is the copy with the condition translated from `truncateTailLocked`** -/
theorem truncateTail_eq_via (w : Wal) (n : Nat) :
    w.truncateTail n = w.truncateTailVia Generated.truncateTailKeeps n := by
  rw [Wal.truncateTail, Wal.truncateTailVia,
    truncateTail_walk_eq_of_pointwise _ n (fun s => truncateTail_keep_eq_source s n)]
  rfl

/-- copy of `Wal.storeLogs`; the re-base guard asks `rebases`, the monotonicity loop asks `refuses` -/
def Wal.storeLogsVia (rebases : Nat → Nat → Nat → Bool) (refuses : Nat → Nat → Bool) (w : Wal) (logs : List Log) :
    Wal × Option Err :=
  if w.closed then (w, some .closed) else
  match logs with
  | [] => (w, none)
  | first :: _ =>
  let lastIdx := w.lastIndex
  let tailBase := (w.tailSeg.map (·.1.base)).getD 0
  let w? := if rebases lastIdx first.index tailBase then w.resetBase first.index else some w
  match w? with
  | none => (w, some .other)
  | some w =>
    let rec chk : Nat → List Log → Bool
      | _, [] => true
      | last, l :: ls => (if refuses last l.index then false else
                           if (encode l).isNone then false else chk l.index ls)
    if ¬ chk lastIdx logs then (w, some .other)
    else match w.tailSeg with
      | none => (w, some .other)
      | some (t, _) => match w.file? t.id with
        | none => (w, some .other)
        | some f => match appendFile f t.sizeLimit logs with
          | .error e => (w, some e)
          | .ok f' =>
            let nBytes := (logs.map encLen).sum
            let w := { w with files := updFile w.files f'
                            , ctr := { w.ctr with appends := w.ctr.appends + 1, entriesW := w.ctr.entriesW + logs.length
                                                , bytesW := w.ctr.bytesW + nBytes } }
            let w := if f'.indexStart > 0 then w.rotate f'.indexStart else w
            (w, none)

/-- the pairs (index before, index) the monotonicity loop looks at, starting from `last`: on each of them the
    predicate says what the model's inline condition says -/
def ChkAgree (refuses : Nat → Nat → Bool) : Nat → List Log → Prop
  | _, [] => True
  | last, l :: ls => ((last > 0 ∧ l.index ≠ last + 1) ↔ refuses last l.index = true) ∧ ChkAgree refuses l.index ls

theorem storeLogs_chk_eq_of_agree (refuses : Nat → Nat → Bool) (last : Nat) (logs : List Log)
    (h : ChkAgree refuses last logs) :
    Wal.storeLogs.chk last logs = Wal.storeLogsVia.chk refuses last logs := by
  induction logs generalizing last with
  | nil => simp [Wal.storeLogs.chk, Wal.storeLogsVia.chk]
  | cons l ls ih =>
    obtain ⟨h1, h2⟩ := h
    unfold Wal.storeLogs.chk Wal.storeLogsVia.chk
    by_cases hr : refuses last l.index = true
    · rw [if_pos (h1.mpr hr), if_pos hr]
    · rw [if_neg (fun hc => hr (h1.mp hc)), if_neg hr, ih _ h2]

attribute [local irreducible] Wal.resetBase Wal.rotate appendFile in
theorem storeLogs_eq_via_of_agree (rebases : Nat → Nat → Nat → Bool) (refuses : Nat → Nat → Bool) (w : Wal) (logs : List Log)
    (hb : ∀ lastIdx firstNew tailBase, (lastIdx = 0 ∧ firstNew ≠ tailBase) ↔ rebases lastIdx firstNew tailBase = true)
    (hr : ChkAgree refuses w.lastIndex logs) :
    w.storeLogs logs = w.storeLogsVia rebases refuses logs := by
  cases logs with
  | nil => rfl
  | cons first rest =>
    have hguard : (if w.lastIndex = 0 ∧ first.index ≠ (w.tailSeg.map (·.1.base)).getD 0 then w.resetBase first.index
          else some w) =
        if rebases w.lastIndex first.index ((w.tailSeg.map (·.1.base)).getD 0) = true then w.resetBase first.index
          else some w := by
      by_cases hc : rebases w.lastIndex first.index ((w.tailSeg.map (·.1.base)).getD 0) = true
      · rw [if_pos ((hb _ _ _).mpr hc), if_pos hc]
      · rw [if_neg (fun h => hc ((hb _ _ _).mp h)), if_neg hc]
    unfold Wal.storeLogs Wal.storeLogsVia
    simp only [storeLogs_chk_eq_of_agree refuses w.lastIndex (first :: rest) hr, hguard]
    rfl

/-- `lastIdx + 1` must not wrap for any index that is followed by another one -/
theorem chkAgree_source (last : Nat) (logs : List Log)
    (h0 : last + 1 < 2^64) (h : ∀ l ∈ logs.dropLast, l.index + 1 < 2^64) :
    ChkAgree Generated.storeRefusesIndex last logs := by
  induction logs generalizing last with
  | nil => trivial
  | cons l ls ih =>
    refine ⟨store_refuses_eq_source last l.index h0, ?_⟩
    cases ls with
    | nil => trivial
    | cons l' ls' =>
      apply ih
      · exact h l (by simp [List.dropLast])
      · intro x hx
        exact h x (by simp [List.dropLast]; exact Or.inr hx)

/-- **`Wal.storeLogs` is the copy with the guards translated from `StoreLogs`**, as long as the `lastIdx + 1` of the
    monotonicity check does not wrap: the log's last index and every entry of the batch but the last are below
    2^64 − 1 -/
theorem storeLogs_eq_via (w : Wal) (logs : List Log)
    (h0 : w.lastIndex + 1 < 2^64) (h : ∀ l ∈ logs.dropLast, l.index + 1 < 2^64) :
    w.storeLogs logs = w.storeLogsVia Generated.storeRebases Generated.storeRefusesIndex logs :=
  storeLogs_eq_via_of_agree _ _ w logs store_rebase_eq_source (chkAgree_source _ _ h0 h)

/-- the hypothesis of `store_refuses_eq_source` is the weakest one -/
theorem store_refuses_agree_iff (lastIdx : Nat) :
    (∀ idx, (lastIdx > 0 ∧ idx ≠ lastIdx + 1) ↔ Generated.storeRefusesIndex lastIdx idx = true) ↔ lastIdx + 1 < 2^64 := by
  refine ⟨fun h => ?_, fun h idx => store_refuses_eq_source lastIdx idx h⟩
  -- past the wrap the code refuses `lastIdx + 1` itself (it is not `u64 (lastIdx + 1)`), the model never does
  rcases Nat.lt_or_ge (lastIdx + 1) (2^64) with hlt | hn
  · exact hlt
  · have hwrap : u64 (lastIdx + 1) < lastIdx + 1 := Nat.lt_of_lt_of_le (Nat.mod_lt _ (by decide)) hn
    have hcode := (storeRefusesIndex_iff lastIdx (lastIdx + 1)).mpr ⟨by omega, Nat.ne_of_gt hwrap⟩
    exact absurd rfl ((h (lastIdx + 1)).mpr hcode).2

namespace ScansCex

def t0 : WTime := { v2 := false, sec := 0, nsec := 0, offMin := 0, offSec := 0 }
def mk (i : Nat) : Log := { index := i, term := 1, typ := 0, data := [], ext := [], time := some t0 }
def seg : SegS := { id := 0, base := 2^64 - 1, min := 2^64 - 1, max := 0, indexStart := 0, sealed := false, codec := 1,
                    sizeLimit := 2^20 }
def cfg : WalCfg := { segmentSize := 2^20, codecId := 1, newSegCodec := 1 }

/-- a log whose only entry has index 2^64 − 1 (open tail file, nothing else) -/
def wFull : Wal :=
  { cfg := cfg, nextID := 1, segs := [(seg, .writer (2^64 - 1))],
    files := [{ id := 0, base := 2^64 - 1, codec := 1, entries := [mk (2^64 - 1)], wsize := 100, indexStart := 0 }],
    stable := [], ctr := {}, closed := false }

/-- an empty log whose tail is based at 2^64 − 1 -/
def wEmpty : Wal :=
  { wFull with files := [{ id := 0, base := 2^64 - 1, codec := 1, entries := [], wsize := 0, indexStart := 0 }] }

/-- `wFull` with the tail file already carrying an index frame (not a state the sequential model reaches) -/
def wSealedFile : Wal :=
  { wFull with files := [{ id := 0, base := 2^64 - 1, codec := 1, entries := [mk (2^64 - 1)], wsize := 100, indexStart := 60 }] }

theorem wFull_lastIndex : wFull.lastIndex = 2^64 - 1 := by decide
theorem wEmpty_lastIndex : wEmpty.lastIndex = 0 := by decide

/-- `h0` is tight: at `lastIndex = 2^64 − 1` the model takes index 2^64 (plain `+ 1`), the code's check asks for 0 -/
theorem storeLogs_ne_via_at_wrap :
    (wFull.storeLogs [mk (2^64)]).2 = none ∧
    (wFull.storeLogsVia Generated.storeRebases Generated.storeRefusesIndex [mk (2^64)]).2 = some .other := by
  constructor <;> decide

/-- the bound on the batch is tight: 2^64 − 1 followed by 2^64 inside one batch (log empty, so `h0` holds) -/
theorem storeLogs_ne_via_in_batch :
    (wEmpty.storeLogs [mk (2^64 - 1), mk (2^64)]).2 = none ∧
    (wEmpty.storeLogsVia Generated.storeRebases Generated.storeRefusesIndex [mk (2^64 - 1), mk (2^64)]).2 = some .other := by
  constructor <;> decide

/-- with uint64 indexes only: after 2^64 − 1 the code's check lets index 0 through (the model's does not); on a state
    whose tail file is sealed the difference shows in the error returned -/
theorem storeLogs_ne_via_uint64 :
    (wSealedFile.storeLogs [mk 0]).2 = some .other ∧
    (wSealedFile.storeLogsVia Generated.storeRebases Generated.storeRefusesIndex [mk 0]).2 = some .sealed := by
  constructor <;> decide

theorem storeLogs_eq_via_needs_hypothesis :
    ¬ ∀ (w : Wal) (logs : List Log),
        w.storeLogs logs = w.storeLogsVia Generated.storeRebases Generated.storeRefusesIndex logs := by
  intro h
  have h1 := congrArg Prod.snd (h wFull [mk (2^64)])
  rw [storeLogs_ne_via_at_wrap.1, storeLogs_ne_via_at_wrap.2] at h1
  cases h1

theorem storeLogs_eq_via_needs_hypothesis_uint64 :
    ¬ ∀ (w : Wal) (logs : List Log), w.lastIndex < 2^64 → (∀ l ∈ logs, l.index < 2^64) →
        w.storeLogs logs = w.storeLogsVia Generated.storeRebases Generated.storeRefusesIndex logs := by
  intro h
  have h1 := congrArg Prod.snd (h wSealedFile [mk 0] (by decide) (by decide))
  rw [storeLogs_ne_via_uint64.1, storeLogs_ne_via_uint64.2] at h1
  cases h1

end ScansCex

def Wal.applyDelVia (w : Wal) : DelAction → Wal × Option Err
  | .nothing => (w, none)
  | .head n => w.truncateHeadVia Generated.truncateHeadStopsAt n
  | .tail n => w.truncateTailVia Generated.truncateTailKeeps n
  | .refuse => (w, some .other)

theorem applyDel_eq_via (w : Wal) (a : DelAction) : w.applyDel a = w.applyDelVia a := by
  cases a <;> simp [Wal.applyDel, Wal.applyDelVia, truncateHead_eq_via, truncateTail_eq_via]

/-- **`Wal.deleteRange` on an open log with uint64 arguments = the decision translated from `DeleteRange`, carried out
    by the truncations with the scan conditions translated from `truncateHeadLocked` / `truncateTailLocked`** -/
theorem deleteRange_via_source (w : Wal) (min max : Nat) (hc : w.closed = false)
    (hmin : min < 2^64) (hmax : max < 2^64) (hf : w.firstIndex < 2^64) (hl : w.lastIndex < 2^64) :
    w.deleteRange min max = w.applyDelVia (Generated.deleteRangeDecide min max w.firstIndex w.lastIndex) := by
  rw [deleteRange_eq_decision w min max hc, delDecision_eq_source w min max hmin hmax hf hl, applyDel_eq_via]

end RaftWal

section
open RaftWal
#print axioms truncateHead_eq_via
#print axioms truncateTail_eq_via
#print axioms storeLogs_eq_via_of_agree
#print axioms storeLogs_eq_via
#print axioms ScansCex.storeLogs_eq_via_needs_hypothesis
#print axioms ScansCex.storeLogs_eq_via_needs_hypothesis_uint64
#print axioms ScansCex.storeLogs_ne_via_in_batch
#print axioms store_refuses_agree_iff
#print axioms deleteRange_via_source
end
