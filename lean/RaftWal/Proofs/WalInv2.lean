/-
  Proofs/WalInv2.lean — further invariants of the sequential WAL model over all runs:
  C13 (directory = live segments, segment IDs never reused), C08 (StableStore is a map isolated from
  the log), C20 (counters equal the true totals).

  Proof: one combined invariant `Inv2` = the simulation relation `Sim` of C05 (reused as is) ∧ the directory
  invariant `DirEq` (stronger than `DirExact`: the (id, base) lists of directory and segment map are *equal*, not
  just permutations of each other) ∧ counters = true totals (the two uint64 truncation counters modulo 2^64)
  ∧ stable map = reference map ∧ `closed` flag = reference flag.  The directory/ids part is independent of the
  simulation relation: it holds from *any* state (`xstep_ext_dir`).
-/
import RaftWal.Proofs.WalInv2Totals
import RaftWal.Proofs.WalStep
import RaftWal.Proofs.Bytes
namespace RaftWal

theorem specTotalsStep_fst (s : Spec.SLog) (t : Totals) (op : Op) :
    (specTotalsStep s t (.log op)).1 = (s.step op).1 := by
  cases op <;> rfl

/-- one step of the reference StableStore (the function folded by `specStable`) -/
def stableStep (st : SMap × Bool) (op : XOp) : SMap × Bool :=
  match op with
  | .log .close => (st.1, true)
  | .log .reopen => (st.1, false)
  | .set k v => if st.2 then st else (st.1.set k v, st.2)
  | .setu k v => if st.2 then st else (st.1.set k (some (putLE 8 v)), st.2)
  | _ => st

theorem stableStep_log (s : Spec.SLog) (m : SMap) (op : Op) :
    stableStep (m, s.closed) (.log op) = (m, (s.step op).1.closed) := by
  cases op with
  | store logs => exact Prod.ext rfl (Spec.SLog.store_closed s logs).symm
  | del mn mx => exact Prod.ext rfl (Spec.SLog.delete_closed s mn mx).symm
  | get i => rfl
  | first => rfl
  | last => rfl
  | close => rfl
  | reopen => rfl

theorem Sim.frame {w : Wal} {s : Spec.SLog} (h : Sim w s) (c : Counters) (st : List (Bytes × Bytes)) :
    Sim { w with ctr := c, stable := st } s :=
  h.of_eq rfl rfl rfl rfl h.closed_eq rfl rfl

structure Inv2 (w : Wal) (s : Spec.SLog) (t : Totals) (st : SMap × Bool) : Prop where
  sim : Sim w s
  dir : DirEq w
  ctr : w.ctr.totals = t.wrap
  stable : w.stable = st.1
  closed : w.closed = st.2

theorem inv2_set {w : Wal} {s : Spec.SLog} {t : Totals} {st : SMap × Bool} (h : Inv2 w s t st)
    (k : Bytes) (v : Option Bytes) :
    Inv2 (w.setStable k v).1 s (specTotalsStep s t (.set k v)).2 (stableStep st (.set k v)) := by
  obtain ⟨m, c⟩ := st
  have hwc : w.closed = c := h.closed
  have ht : (specTotalsStep s t (.set k v)).2 = if c then t else { t with sets := t.sets + 1 } := by
    show (if s.closed then t else _) = _
    rw [h.sim.closed_eq, hwc]
  rw [ht]
  cases c with
  | true =>
    rw [setStable_closed hwc]
    exact h
  | false =>
    rw [setStable_open hwc]
    exact ⟨h.sim.frame _ _, h.dir, congrArg (fun x : Totals => { x with sets := x.sets + 1 }) h.ctr,
      congrArg (SMap.set · k v) h.stable, hwc⟩

theorem inv2_get {w : Wal} {s : Spec.SLog} {t : Totals} {st : SMap × Bool} (h : Inv2 w s t st) (k : Bytes) :
    Inv2 (w.getStable k).1 s (specTotalsStep s t (.getk k)).2 st := by
  obtain ⟨m, c⟩ := st
  have hwc : w.closed = c := h.closed
  have ht : (specTotalsStep s t (.getk k)).2 = if c then t else { t with gets := t.gets + 1 } := by
    show (if s.closed then t else _) = _
    rw [h.sim.closed_eq, hwc]
  rw [ht]
  cases c with
  | true =>
    rw [getStable_closed hwc]
    exact h
  | false =>
    rw [getStable_open hwc]
    exact ⟨h.sim.frame _ _, h.dir, congrArg (fun x : Totals => { x with gets := x.gets + 1 }) h.ctr, h.stable, hwc⟩

theorem inv2_step {w : Wal} {s : Spec.SLog} {t : Totals} {st : SMap × Bool} (h : Inv2 w s t st)
    (op : XOp) (hop : op.inRange) :
    Inv2 (w.xstep op).1 (specTotalsStep s t op).1 (specTotalsStep s t op).2 (stableStep st op) := by
  cases op with
  | log op =>
    have hs := (step_sim h.sim op hop).2
    obtain ⟨m, c⟩ := st
    rw [← show s.closed = c from h.sim.closed_eq.trans h.closed, stableStep_log]
    exact ⟨by rw [specTotalsStep_fst]; exact hs, (xstep_ext_dir w (.log op)).2 h.dir, ctr_log h.sim h.ctr op hop,
      (step_tr w op).stable.trans h.stable, hs.closed_eq.symm⟩
  | set k v => exact inv2_set h k v
  | setu k v => exact inv2_set h k (some (putLE 8 v))
  | getk k => exact inv2_get h k
  | getu k =>
    rw [show (w.xstep (.getu k)).1 = (w.getStable k).1 from getUint64_fst w k]
    exact inv2_get h k

theorem inv2_run : ∀ (ops : List XOp) (w : Wal) (s : Spec.SLog) (t : Totals) (st : SMap × Bool),
    Inv2 w s t st → (∀ op ∈ ops, op.inRange) →
    Inv2 (w.xrunState ops)
      (ops.foldl (fun (a : Spec.SLog × Totals) op => specTotalsStep a.1 a.2 op) (s, t)).1
      (ops.foldl (fun (a : Spec.SLog × Totals) op => specTotalsStep a.1 a.2 op) (s, t)).2
      (ops.foldl stableStep st) := by
  intro ops
  induction ops with
  | nil => intro w s t st h _; exact h
  | cons op ops ih =>
    intro w s t st h hops
    have h1 := inv2_step h op (hops op (by simp))
    exact ih _ _ _ _ h1 (fun o ho => hops o (List.mem_cons_of_mem _ ho))

theorem inv2_init (cfg : WalCfg) (hcfg : cfg.newSegCodec = cfg.codecId) (w0 : Wal) (h0 : Wal.init cfg = some w0) :
    Inv2 w0 { first := 0, entries := [] } {} ([], false) := by
  obtain ⟨d, c, st⟩ := init_dir h0
  have hs := init_sim cfg hcfg w0 h0
  refine ⟨hs, d, by rw [c]; rfl, st, ?_⟩
  rw [← hs.closed_eq]

theorem inv2_of_run (cfg : WalCfg) (hcfg : cfg.newSegCodec = cfg.codecId) (w0 : Wal) (h0 : Wal.init cfg = some w0)
    (ops : List XOp) (hops : ∀ op ∈ ops, op.inRange) :
    Inv2 (w0.xrunState ops) (specTotals ops).1 (specTotals ops).2 (ops.foldl stableStep ([], false)) :=
  inv2_run ops w0 _ _ _ (inv2_init cfg hcfg w0 h0) hops


/-- **C13 dir_exact**: after every call of every run the directory is exactly the live segments -/
theorem dirExact_run (cfg : WalCfg) (hcfg : cfg.newSegCodec = cfg.codecId) (w0 : Wal) (h0 : Wal.init cfg = some w0)
    (ops : List XOp) (hops : ∀ op ∈ ops, op.inRange) : DirExact (w0.xrunState ops) :=
  (inv2_of_run cfg hcfg w0 h0 ops hops).dir.exact

/-- C13 from *any* state (no assumption on the state, the configuration or the arguments): a call never lowers
    `nextID`, and every segment present afterwards was there before (same id and base) or has a fresh id -/
theorem ids_fresh_step (w : Wal) (op : XOp) :
    let w' := (w.xstep op).1
    w.nextID ≤ w'.nextID ∧
    ∀ s ∈ w'.segs, (∃ s0 ∈ w.segs, s0.1.id = s.1.id ∧ s0.1.base = s.1.base) ∨ w.nextID ≤ s.1.id := by
  intro w'
  obtain ⟨h1, h2⟩ := (xstep_ext_dir w op).1
  refine ⟨h1, ?_⟩
  intro s hs
  rcases h2 (skey s) (List.mem_map.mpr ⟨s, hs, rfl⟩) with h | h
  · left
    obtain ⟨s0, hs0, e⟩ := List.mem_map.mp h
    simp only [skey, Prod.mk.injEq] at e
    exact ⟨s0, hs0, e.1, e.2⟩
  · exact Or.inr h

set_option linter.unusedVariables false in
/-- **C13 ids never reused**: a call never lowers `nextID`, and every segment it creates gets an id that was not
    below the old `nextID` — so no two segments created during the lifetime of a directory share an id.
    (None of the hypotheses is needed: see `ids_fresh_step`.) -/
theorem ids_fresh_run (cfg : WalCfg) (hcfg : cfg.newSegCodec = cfg.codecId) (w0 : Wal) (h0 : Wal.init cfg = some w0)
    (ops : List XOp) (hops : ∀ op ∈ ops, op.inRange) (op : XOp) (hop : op.inRange) :
    let w := w0.xrunState ops
    let w' := (w.xstep op).1
    w.nextID ≤ w'.nextID ∧
    ∀ s ∈ w'.segs, (∃ s0 ∈ w.segs, s0.1.id = s.1.id ∧ s0.1.base = s.1.base) ∨ w.nextID ≤ s.1.id :=
  ids_fresh_step (w0.xrunState ops) op

def specStable (ops : List XOp) : SMap × Bool :=   -- (map, closed)
  ops.foldl (fun (st : SMap × Bool) op => match op with
    | .log .close => (st.1, true)
    | .log .reopen => (st.1, false)
    | .set k v => if st.2 then st else (st.1.set k v, st.2)
    | .setu k v => if st.2 then st else (st.1.set k (some (putLE 8 v)), st.2)
    | _ => st) ([], false)

theorem specStable_eq (ops : List XOp) : specStable ops = ops.foldl stableStep ([], false) := rfl

/-- **C08 stable_get_set / isolation**: along any run mixing log calls and StableStore calls, the WAL's stable
    map is the reference map built from the Set calls alone (log calls never touch it; calls on a closed WAL
    change nothing) -/
theorem stable_refines (cfg : WalCfg) (hcfg : cfg.newSegCodec = cfg.codecId) (w0 : Wal) (h0 : Wal.init cfg = some w0)
    (ops : List XOp) (hops : ∀ op ∈ ops, op.inRange) :
    (w0.xrunState ops).stable = (specStable ops).1 ∧ (w0.xrunState ops).closed = (specStable ops).2 := by
  have h := inv2_of_run cfg hcfg w0 h0 ops hops
  rw [specStable_eq]
  exact ⟨h.stable, h.closed⟩

theorem smap_find_set (m : SMap) (k : Bytes) (v : Option Bytes) :
    (m.set k v).find? (·.1 = k) = v.map (fun x => (k, x)) := by
  have hrest : (m.filter (·.1 ≠ k)).find? (·.1 = k) = none := by
    rw [List.find?_eq_none]
    intro x hx
    have := (List.mem_filter.mp hx).2
    simpa using this
  unfold SMap.set
  cases v with
  | none => simp
  | some v =>
    simp only [List.find?_append, hrest, Option.map_some]
    simp

theorem smap_get_set (m : SMap) (k : Bytes) (v : Option Bytes) : (m.set k v).get k = v := by
  unfold SMap.get
  rw [smap_find_set]
  cases v <;> rfl

theorem smap_get_set_other (m : SMap) (k k' : Bytes) (v : Option Bytes) (h : k' ≠ k) : (m.set k v).get k' = m.get k' := by
  have hrest : (m.filter (·.1 ≠ k)).find? (·.1 = k') = m.find? (·.1 = k') := by
    rw [List.find?_filter]
    congr 1
    funext x
    by_cases hx : x.1 = k'
    · simp [hx, h]
    · simp [hx]
  unfold SMap.get SMap.set
  cases v with
  | none => simp only [hrest]
  | some v =>
    simp only [List.find?_append, hrest]
    have : List.find? (fun x : Bytes × Bytes => decide (x.1 = k')) [(k, v)] = none := by
      have hk : ¬ k = k' := fun e => h e.symm
      simp [hk]
    rw [this]
    simp

/-- `GetUint64 ∘ SetUint64 = id` on 64-bit values (8 bytes little endian), unset keys read 0 -/
theorem u64_roundtrip (w : Wal) (k : Bytes) (v : Nat) (hv : v < 2^64) (hopen : w.closed = false) :
    ((w.setUint64 k v).1.getUint64 k).2 = .ok v := by
  have h256 : (256 : Nat) ^ 8 = 2 ^ 64 := by decide
  rw [Wal.setUint64, setStable_open hopen, Wal.getUint64,
    getStable_open (w := { w with ctr := _, stable := SMap.set w.stable k (some (putLE 8 v)) }) hopen]
  dsimp only
  rw [smap_get_set]
  simp only [putLE_length, getLE_putLE 8 v (h256 ▸ hv)]
  rfl

theorem getUint64_unset_zero (w : Wal) (k : Bytes) (hopen : w.closed = false) (h : w.stable.find? (·.1 = k) = none) :
    (w.getUint64 k).2 = .ok 0 := by
  rw [Wal.getUint64, getStable_open hopen, SMap.get, h]
  rfl

theorem stable_ops_leave_log (w : Wal) (k : Bytes) (v : Option Bytes) :
    let w' := (w.setStable k v).1
    w'.segs = w.segs ∧ w'.files = w.files ∧ w'.nextID = w.nextID ∧ w'.closed = w.closed := by
  intro w'
  obtain ⟨c, st, e⟩ := setStable_frame w k v
  rw [show w' = _ from e]
  exact ⟨rfl, rfl, rfl, rfl⟩

/-- **C20 counters_exact**, unconditional form: the head/tail truncation counters, which are uint64 in the code (`u64`
    in `truncateHead`/`truncateTail`), equal the number of entries actually removed modulo 2^64 -/
theorem counters_exact_mod (cfg : WalCfg) (hcfg : cfg.newSegCodec = cfg.codecId) (w0 : Wal) (h0 : Wal.init cfg = some w0)
    (ops : List XOp) (hops : ∀ op ∈ ops, op.inRange) :
    (w0.xrunState ops).ctr.totals =
      { (specTotals ops).2 with head := u64 (specTotals ops).2.head, tail := u64 (specTotals ops).2.tail } :=
  (inv2_of_run cfg hcfg w0 h0 ops hops).ctr

/-- **C20 counters_exact**: after any run the WAL's counters equal the true totals computed from the reference
    log alone: appends/entries/encoded bytes written, reads and bytes read, stable gets/sets, and head/tail
    truncation counts equal to the number of entries actually removed.

    Without `hhead`/`htail` the equation is false for runs that remove 2^64 or more entries at one end
    (`counters_exact_unbounded_false`, Proofs/WalInv2Counter.lean): the reference totals are unbounded naturals, the
    model's truncation counters wrap like the uint64 of the code. -/
theorem counters_exact (cfg : WalCfg) (hcfg : cfg.newSegCodec = cfg.codecId) (w0 : Wal) (h0 : Wal.init cfg = some w0)
    (ops : List XOp) (hops : ∀ op ∈ ops, op.inRange)
    (hhead : (specTotals ops).2.head < 2^64) (htail : (specTotals ops).2.tail < 2^64) :
    (w0.xrunState ops).ctr.totals = (specTotals ops).2 := by
  rw [counters_exact_mod cfg hcfg w0 h0 ops hops, u64_of_lt hhead, u64_of_lt htail]

end RaftWal
