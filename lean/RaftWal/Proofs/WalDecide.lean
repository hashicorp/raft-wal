/-
  Proofs/WalDecide.lean — the decisions wal.go takes (translated from the source on every run into
  Generated/WalDecide.lean) are the decisions the model takes, for all arguments.
  The comparisons never look at the shape of a generated body: they unfold it, turn its `Bool` tests into propositions
  (the `simp only` sets hold more lemmas than the present bodies need: `!`, `&&`, `||` in any arrangement) and leave
  linear arithmetic to `omega`; so a rewrite of a condition in wal.go that keeps its meaning still checks, one that
  changes the decision for some arguments does not.
-/
import RaftWal.Generated.WalDecide
import RaftWal.Model.Wal
namespace RaftWal

/-- the decision `Wal.deleteRange` (the model) takes on an open log -/
def Wal.delDecision (w : Wal) (min max : Nat) : DelAction :=
  if min > max then .nothing
  else if max < w.firstIndex ∨ min > w.lastIndex then .nothing
  else if min ≤ w.firstIndex then .head (u64 ((Nat.min max w.lastIndex) + 1))
  else if max ≥ w.lastIndex then .tail (min - 1)
  else .refuse

def Wal.applyDel (w : Wal) : DelAction → Wal × Option Err
  | .nothing => (w, none)
  | .head n => w.truncateHead n
  | .tail n => w.truncateTail n
  | .refuse => (w, some .other)

theorem deleteRange_eq_decision (w : Wal) (min max : Nat) (hc : w.closed = false) :
    w.deleteRange min max = w.applyDel (w.delDecision min max) := by
  unfold Wal.deleteRange Wal.delDecision
  rw [hc]
  simp only [Bool.false_eq_true, if_false, apply_ite w.applyDel]
  rfl

def delDecide (min max first last : Nat) : DelAction :=
  if min > max then .nothing
  else if max < first ∨ min > last then .nothing
  else if min ≤ first then .head (u64 ((Nat.min max last) + 1))
  else if max ≥ last then .tail (min - 1)
  else .refuse

theorem Wal.delDecision_eq (w : Wal) (min max : Nat) :
    w.delDecision min max = delDecide min max w.firstIndex w.lastIndex := rfl

/-- the path condition of `delDecide` for each result: the range is empty or misses the log; it starts at or below
    the first index; it starts inside the log and reaches the last index; it is a strict middle -/
def DelCase (mn mx first last : Nat) : DelAction → Prop
  | .nothing => mn > mx ∨ mx < first ∨ mn > last
  | .head n => (¬ mn > mx ∧ ¬ (mx < first ∨ mn > last) ∧ mn ≤ first) ∧ n = u64 (min mx last + 1)
  | .tail n => (¬ mn > mx ∧ ¬ (mx < first ∨ mn > last) ∧ ¬ mn ≤ first ∧ mx ≥ last) ∧ n = mn - 1
  | .refuse => ¬ mn > mx ∧ ¬ (mx < first ∨ mn > last) ∧ ¬ mn ≤ first ∧ ¬ mx ≥ last

theorem delDecide_case (mn mx first last : Nat) : DelCase mn mx first last (delDecide mn mx first last) := by
  unfold delDecide
  by_cases h1 : mn > mx
  · rw [if_pos h1]
    exact Or.inl h1
  rw [if_neg h1]
  by_cases h2 : mx < first ∨ mn > last
  · rw [if_pos h2]
    exact Or.inr h2
  rw [if_neg h2]
  by_cases h3 : mn ≤ first
  · rw [if_pos h3]
    exact ⟨⟨h1, h2, h3⟩, rfl⟩
  rw [if_neg h3]
  by_cases h4 : mx ≥ last
  · rw [if_pos h4]
    exact ⟨⟨h1, h2, h3, h4⟩, rfl⟩
  rw [if_neg h4]
  exact ⟨h1, h2, h3, h4⟩

theorem delDecide_of_case {mn mx first last : Nat} {d : DelAction} (h : DelCase mn mx first last d) :
    delDecide mn mx first last = d := by
  unfold delDecide
  cases d with
  | nothing =>
    by_cases h1 : mn > mx
    · rw [if_pos h1]
    · rw [if_neg h1, if_pos (h.resolve_left h1)]
  | head n =>
    obtain ⟨⟨h1, h2, h3⟩, rfl⟩ := h
    rw [if_neg h1, if_neg h2, if_pos h3]
  | tail n =>
    obtain ⟨⟨h1, h2, h3, h4⟩, rfl⟩ := h
    rw [if_neg h1, if_neg h2, if_neg h3, if_pos h4]
  | refuse =>
    obtain ⟨h1, h2, h3, h4⟩ := h
    rw [if_neg h1, if_neg h2, if_neg h3, if_neg h4]

theorem eq_delDecide_iff {mn mx first last : Nat} {d : DelAction} :
    d = delDecide mn mx first last ↔ DelCase mn mx first last d :=
  ⟨fun h => h ▸ delDecide_case mn mx first last, fun h => (delDecide_of_case h).symm⟩

theorem ite_eq_iff_imp {α : Sort _} {c : Prop} [Decidable c] {x y b : α} :
    (if c then x else y) = b ↔ (c → x = b) ∧ (¬ c → y = b) := by
  by_cases h : c
  · rw [if_pos h]
    exact ⟨fun e => ⟨fun _ => e, fun n => absurd h n⟩, fun e => e.1 h⟩
  · rw [if_neg h]
    exact ⟨fun e => ⟨fun p => absurd p h, fun _ => e⟩, fun e => e.2 h⟩

theorem u64sub_of_le {a b : Nat} (h : b ≤ a) (ha : a < 2^64) : u64sub a b = a - b := by
  unfold u64sub
  rw [Nat.mod_eq_of_lt (Nat.lt_of_le_of_lt h ha), Nat.sub_add_comm h, Nat.add_mod_right]
  exact Nat.mod_eq_of_lt (Nat.lt_of_le_of_lt (Nat.sub_le a b) ha)

/-- **the decision is the one wal.go takes**: `DeleteRange`'s early return, its classification switch, the clamping of
    `max` and the `max+1` / `min-1` it passes on, read from the source (`min` a uint64, so that the code's `min-1`
    is the model's when it is used, i.e. for `min ≥ 1`; `max+1` wraps on both sides) -/
theorem deleteRangeDecide_eq (min max first last : Nat) (hmin : min < 2^64) :
    Generated.deleteRangeDecide min max first last = delDecide min max first last := by
  unfold Generated.deleteRangeDecide
  -- the tree of `if`s becomes: under each path condition, the result at that leaf is the model's (`DelCase`)
  simp only [ite_eq_iff_imp, eq_delDecide_iff, DelCase, Bool.or_eq_true, Bool.and_eq_true, decide_eq_true_eq,
    Bool.not_eq_true', decide_eq_false_iff_not, Bool.not_eq_eq_eq_not, Bool.not_true]
  repeat' (apply And.intro <;> intro _)
  repeat' split
  -- path conditions and classification are linear arithmetic; the two wrapping results are compared under the wrap
  -- (`omega` can go through `% 2^64` itself, but is slow at it)
  all_goals first
    | exact ⟨by omega, congrArg u64 (by omega)⟩
    | exact ⟨by omega, u64sub_of_le (by omega) (by omega)⟩
    | omega

theorem delDecision_eq_source (w : Wal) (min max : Nat) (hmin : min < 2^64) (hmax : max < 2^64)
    (hf : w.firstIndex < 2^64) (hl : w.lastIndex < 2^64) :
    w.delDecision min max = Generated.deleteRangeDecide min max w.firstIndex w.lastIndex :=
  (deleteRangeDecide_eq min max _ _ hmin).symm

theorem truncateHead_stop_eq_source (s : SegS) (stateLast newMin : Nat) :
    ((¬ s.sealed ∧ stateLast ≥ newMin) ∨ (s.sealed ∧ s.max ≥ newMin)) ↔
      Generated.truncateHeadStopsAt s.sealed s.base s.min s.max stateLast newMin = true := by
  unfold Generated.truncateHeadStopsAt
  cases s.sealed <;>
    simp only [Bool.or_eq_true, Bool.and_eq_true, decide_eq_true_eq, Bool.not_eq_true', decide_eq_false_iff_not, Bool.not_true,
      Bool.not_false, Bool.false_eq_true, Bool.true_eq_false, not_false_eq_true, not_true_eq_false, true_and, false_and, and_true,
      and_false, or_false, false_or, ge_iff_le, gt_iff_lt, reduceCtorEq] <;> omega

theorem truncateTail_keep_eq_source (s : SegS) (newMax : Nat) :
    (s.base ≤ newMax) ↔ Generated.truncateTailKeeps s.base s.min s.max newMax = true := by
  unfold Generated.truncateTailKeeps
  simp only [Bool.or_eq_true, Bool.and_eq_true, decide_eq_true_eq, Bool.not_eq_true', decide_eq_false_iff_not]
  all_goals omega

theorem store_rebase_eq_source (lastIdx firstNew tailBase : Nat) :
    (lastIdx = 0 ∧ firstNew ≠ tailBase) ↔ Generated.storeRebases lastIdx firstNew tailBase = true := by
  unfold Generated.storeRebases
  simp only [Bool.or_eq_true, Bool.and_eq_true, decide_eq_true_eq, Bool.not_eq_true', decide_eq_false_iff_not]
  all_goals omega

theorem storeRefusesIndex_iff (lastIdx idx : Nat) :
    Generated.storeRefusesIndex lastIdx idx = true ↔ lastIdx > 0 ∧ idx ≠ u64 (lastIdx + 1) := by
  unfold Generated.storeRefusesIndex u64
  simp only [Bool.or_eq_true, Bool.and_eq_true, decide_eq_true_eq, Bool.not_eq_true', decide_eq_false_iff_not]
  all_goals omega

theorem store_refuses_eq_source (lastIdx idx : Nat) (h : lastIdx + 1 < 2^64) :
    (lastIdx > 0 ∧ idx ≠ lastIdx + 1) ↔ Generated.storeRefusesIndex lastIdx idx = true := by
  rw [storeRefusesIndex_iff, u64, Nat.mod_eq_of_lt h]

/-- at the wrap-around the code's check differs from the contiguous-log reading: after index 2^64 − 1 it asks for
    index 0 (this is why C05 is stated for indexes below 2^64 − 1) -/
theorem store_refuses_wraps : Generated.storeRefusesIndex (2^64 - 1) 0 = false := by decide

end RaftWal
