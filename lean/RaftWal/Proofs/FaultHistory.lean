/-
  Proofs/FaultHistory.lean — the history theorems (`epoch_inv_stmt`, `epoch_view_stmt`, `epoch_restart_stmt`) derived
  from the per-call and restart statements; `replay` / `Resolves` lemmas.
-/
import RaftWal.Proofs.FaultStates
namespace RaftWal.Fault.E
open RaftWal.Crash

/-! ### `replay` -/

@[simp] theorem replay_nil (l : List (Nat × Entry)) : replay l [] = l := rfl

theorem replay_cons (l : List (Nat × Entry)) (op : Op) (b : Bool) (h : Hist) :
    replay l ((op, b) :: h) = replay (if b then specApply l op else l) h := by
  cases b <;> rfl

theorem replay_append (l : List (Nat × Entry)) (h1 h2 : Hist) : replay l (h1 ++ h2) = replay (replay l h1) h2 := by
  induction h1 generalizing l with
  | nil => rfl
  | cons a h1 ih =>
    obtain ⟨op, b⟩ := a
    cases b
    · exact ih l
    · exact ih (specApply l op)

theorem replay_snoc (l : List (Nat × Entry)) (h : Hist) (op : Op) (b : Bool) :
    replay l (h ++ [(op, b)]) = if b then specApply (replay l h) op else replay l h := by
  rw [replay_append]
  cases b <;> rfl

/-! ### `Resolves` -/

theorem resolves_refl (h : Hist) : Resolves h h := by
  induction h with
  | nil => trivial
  | cons a h ih =>
    obtain ⟨op, b⟩ := a
    exact ⟨rfl, id, ih⟩

theorem resolves_append {h1 c1 h2 c2 : Hist} (r1 : Resolves h1 c1) (r2 : Resolves h2 c2) :
    Resolves (h1 ++ h2) (c1 ++ c2) := by
  induction h1 generalizing c1 with
  | nil =>
    cases c1 with
    | nil => exact r2
    | cons _ _ => exact r1.elim
  | cons a h1 ih =>
    obtain ⟨op, ok⟩ := a
    cases c1 with
    | nil => exact r1.elim
    | cons b c1 =>
      obtain ⟨op', b'⟩ := b
      exact ⟨r1.1, r1.2.1, ih r1.2.2⟩

theorem resolves_single (op : Op) {ok b : Bool} (h : ok = true → b = true) : Resolves [(op, ok)] [(op, b)] :=
  ⟨rfl, h, trivial⟩

theorem resolves_snoc {h c : Hist} (r : Resolves h c) (op : Op) {ok b : Bool} (hb : ok = true → b = true) :
    Resolves (h ++ [(op, ok)]) (c ++ [(op, b)]) :=
  resolves_append r (resolves_single op hb)

theorem resolves_length {h c : Hist} (r : Resolves h c) : h.length = c.length := by
  induction h generalizing c with
  | nil =>
    cases c with
    | nil => rfl
    | cons _ _ => exact r.elim
  | cons a h ih =>
    obtain ⟨op, ok⟩ := a
    cases c with
    | nil => exact r.elim
    | cons b c =>
      obtain ⟨op', b'⟩ := b
      simp only [List.length_cons]
      rw [ih r.2.2]

/-! ### the history theorems from the per-call and restart ones -/

theorem epoch_inv_of' (h2 : finv_call_stmt) : epoch_inv_stmt := by
  intro p0 h p hp he
  induction he with
  | start => exact fresh_inv p0 hp
  | call h p op pl _ hok ih => exact h2 p ih op hok pl

theorem epoch_view_of' (h2 : finv_call_stmt) (h3 : call_view_stmt) : epoch_view_stmt := by
  intro p0 h p hp he
  induction he with
  | start => rfl
  | call h p op pl he hok ih =>
    rw [h3 p (epoch_inv_of' h2 p0 h p hp he).1 op hok pl, replay_snoc, ih]

/-- a resolution of the history gives the log the disk stands for -/
theorem epoch_disklog_of (h2 : finv_call_stmt) (h3 : call_view_stmt) (h4 : call_disklog_stmt) :
    ∀ p0 h p, Fresh p0 → Epoch p0 h p → ∃ c, Resolves h c ∧ absLog p.disk = replay (view p0) c := by
  intro p0 h p hp he
  induction he with
  | start => exact ⟨[], trivial, (fresh_view p0 hp).symm⟩
  | call h p op pl he hok ih =>
    obtain ⟨c, hr, hc⟩ := ih
    have hi := epoch_inv_of' h2 p0 h p hp he
    have hv := epoch_view_of' h2 h3 p0 h p hp he
    rcases h4 p hi.1 op hok pl with hd | ⟨hb, hd⟩ | hd
    · exact ⟨_, resolves_refl _, hd.trans (epoch_view_of' h2 h3 p0 _ _ hp (Epoch.call h p op pl he hok))⟩
    · refine ⟨h ++ [(op, true)], resolves_snoc (resolves_refl h) op (fun _ => rfl), ?_⟩
      rw [hd, replay_snoc, hv]; rfl
    · refine ⟨c ++ [(op, (runOp p op pl).2)], resolves_snoc hr op id, ?_⟩
      rw [hd, replay_snoc, hc]

theorem epoch_restart_of' (h2 : finv_call_stmt) (h3 : call_view_stmt) (h4 : call_disklog_stmt)
    (h5 : restart_total_stmt) (h6 : restart_view_stmt) : epoch_restart_stmt := by
  intro p0 h p hp he
  obtain ⟨c, hr, hc⟩ := epoch_disklog_of h2 h3 h4 p0 h p hp he
  have hi := epoch_inv_of' h2 p0 h p hp he
  obtain ⟨p', hre, hf⟩ := h5 p hi
  exact ⟨p', hre, hf, c, hr, by rw [h6 p hi p' hre, hc]⟩

end RaftWal.Fault.E
