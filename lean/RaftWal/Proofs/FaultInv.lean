/-
  Proofs/FaultInv.lean — the invariant of a running process (`finvRunB`) as a proposition, `A.FRun d P t f`; what readers
  see and what the disk stands for in such a state; the further conjunct of `FInvS` for a running process
  (`SealNonempty`) and the stopped state (`stop_of_base`); what the per-call statements ask of one outcome (`CallSpec`).
-/
import RaftWal.Proofs.FaultDisk

namespace RaftWal.Fault.A
open RaftWal.Crash

/-- the tail's file of a running process between calls -/
structure FTail (t : Seg) (f : File) : Prop where
  base : f.base = t.base
  lk : f.linked = true ∨ f.synced = []
  mn : t.min ≤ f.base + f.synced.length
  vis : f.synced ≠ [] → t.min < f.base + f.synced.length
  ss : f.sealedS = true → f.pending = [] ∧ f.sealedP = false

/-- The invariant in the form every lemma of the fault development uses: about `d` itself, with its sealed segments `P`,
    its tail `t` and the tail's file `f` named.  The same invariant has three more forms, which exist because statements
    that are kept mention them: `B.FRun d` (`finvRunB` conjunct by conjunct; read only where a head truncation that keeps
    a segment re-establishes the invariant), `B.FR` (only its field `run` is read) and `C.FR` (Proofs/FaultStates.lean,
    read by nothing).  Likewise the result of a call is `CallSpec`/`CallFrom` below; `C.Outcome` says the same. -/
structure FRun (d : Disk) (P : List Seg) (t : Seg) (f : File) : Prop where
  base : Base d P t
  tf : d.file? t.id = some f
  ft : FTail t f

theorem FRun.last {d : Disk} {P : List Seg} {t : Seg} {f : File} (h : FRun d P t f) : d.md.segs.getLast? = some t := by
  rw [h.base.segs]; exact List.getLast?_concat

end RaftWal.Fault.A

namespace RaftWal.Fault.B
open RaftWal.Crash RaftWal.Fault.A

/-! ### `finvRunB`, conjunct by conjunct -/

structure FRun (d : Disk) : Prop where
  qs : QuiescentS (cl d)
  nodupF : (fids d).Nodup
  fidlt : ∀ f ∈ d.files, f.id < d.md.nextID
  hl : ∀ f ∈ d.files, f.hsynced = true → f.linked = true
  pclean : ∀ f ∈ d.files, (∃ t, d.md.segs.getLast? = some t ∧ t.id = f.id) ∨ named d.md.segs f.id = false ∨
    (f.pending = [] ∧ f.sealedP = false)
  tail : ∃ t f, d.md.segs.getLast? = some t ∧ d.file? t.id = some f ∧
    (f.sealedS = true → f.pending = [] ∧ f.sealedP = false)

theorem not_or_eq_true {a b : Bool} : (!a || b) = true ↔ (a = true → b = true) := by
  cases a <;> simp

theorem finvRunB_iff (d : Disk) : finvRunB d = true ↔ FRun d := by
  unfold finvRunB
  simp only [↓not_or_eq_true, Bool.and_eq_true, quiescentSB_iff, nodupB_iff, List.all_eq_true, decide_eq_true_eq,
    Bool.or_eq_true, or_assoc, Option.any_eq_true, beq_iff_eq, Bool.not_eq_true', List.isEmpty_iff]
  constructor
  · rintro ⟨⟨⟨⟨⟨h1, h2⟩, h3⟩, h4⟩, h5⟩, h6⟩
    refine ⟨h1, h2, h3, h4, h5, ?_⟩
    split at h6
    · cases h6
    · split at h6
      · cases h6
      · exact ⟨_, _, ‹_›, ‹_›, by
          simpa only [not_or_eq_true, Bool.and_eq_true, List.isEmpty_iff, Bool.not_eq_true'] using h6⟩
  · rintro ⟨h1, h2, h3, h4, h5, t, f, ht, hf, h6⟩
    refine ⟨⟨⟨⟨⟨h1, h2⟩, h3⟩, h4⟩, h5⟩, ?_⟩
    simp only [ht, hf, not_or_eq_true, Bool.and_eq_true, List.isEmpty_iff, Bool.not_eq_true']
    exact h6

/-! ### the invariant with the segments and the tail's file named -/

/-- from the clean disk back to the disk itself -/
theorem FRun.unpack {d : Disk} (h : FRun d) : ∃ P t f, A.FRun d P t f := by
  obtain ⟨P, t, g, hq⟩ := (quiescentS_iff _).1 h.qs
  obtain ⟨t', f, ht', hf, hss⟩ := h.tail
  have hb := hq.base
  have hsegs : d.md.segs = P ++ [t] := by rw [← cl_md d]; exact hb.segs
  have e : t' = t := by rw [hsegs] at ht'; simpa using ht'.symm
  subst e
  have hg : g = cleanF f := by
    have := hq.tf
    rw [cl_file? ht', named_of_mem (List.mem_of_getLast? ht'), hf] at this
    simpa using this.symm
  subst hg
  refine ⟨P, t', f, ⟨hsegs, ?_, hb.chain, hb.nodupS, ?_, h.nodupF, ?_, hb.tsl, hb.tbm, hb.tb1, (HL_iff h.nodupF).2 h.hl⟩,
    hf, ⟨hq.qt.base, hq.qt.lk, hq.qt.mn, hq.vis, hss⟩⟩
  · intro s hs
    obtain ⟨g, hg, hsf⟩ := hb.sealed s hs
    rw [cl_file? ht', named_of_mem (by rw [hsegs]; simp [hs]), if_pos rfl, if_neg (hb.tid_ne s hs)] at hg
    exact ⟨g, hg, hsf⟩
  · have := hb.idlt
    rwa [cl_md] at this
  · intro j hj
    obtain ⟨g, hg, rfl⟩ := List.mem_map.1 hj
    exact h.fidlt g hg

/-- what an `A.FRun` state gives back: the conjuncts, and the clean disk with its segments named -/
structure FR (d : Disk) (P : List Seg) (t : Seg) (f : File) : Prop where
  run : FRun d
  qs : QS (cl d) P t (cleanF f)
  segs : d.md.segs = P ++ [t]
  tf : d.file? t.id = some f
  tss : f.sealedS = true → f.pending = [] ∧ f.sealedP = false
  pfile : ∀ s ∈ P, ∃ g, d.file? s.id = some g ∧ (cl d).file? s.id = some g ∧ g.pending = [] ∧ g.sealedP = false

end RaftWal.Fault.B

namespace RaftWal.Fault.A
open RaftWal.Crash RaftWal.Fault.B

/-! ### steps that keep `Base` -/

/-- a change of the tail's file that keeps its identity, handle flag and link -/
theorem base_updT {d : Disk} {P : List Seg} {t : Seg} (hb : Base d P t) (g : File → File)
    (hg : ∀ f, (g f).id = f.id) (hh : ∀ f, (g f).hsynced = f.hsynced) (hl : ∀ f, (g f).linked = f.linked) :
    Base (updT d t.id g) P t ∧ logP (updT d t.id g) P = logP d P := by
  have hn : (fids (updT d t.id g)).Nodup := by rw [updT_fids d t.id g hg]; exact hb.nodupF
  refine hb.step rfl ?_ hn (by rw [updT_fids d t.id g hg]; exact hb.fidlt) ((HL_iff hn).2 ?_)
  · intro s hs
    exact keeps_of_eq (by rw [updT_file? d t.id g hg, if_neg (hb.tid_ne s hs)])
  · intro f' hf'
    obtain ⟨f, hf, rfl⟩ := List.mem_map.1 hf'
    have := (HL_iff hb.nodupF).1 hb.hl f hf
    split
    · rw [hh, hl]; exact this
    · exact this

/-- files that no sealed segment names go -/
theorem base_filter {d : Disk} {P : List Seg} {t : Seg} (hb : Base d P t) (q : Nat → Bool)
    (hq : ∀ s ∈ P, q s.id = true) :
    Base { d with files := d.files.filter (fun f => q f.id) } P t ∧
      logP { d with files := d.files.filter (fun f => q f.id) } P = logP d P := by
  have hsub : (fids { d with files := d.files.filter (fun f => q f.id) }).Sublist (fids d) :=
    List.Sublist.map _ List.filter_sublist
  have hn := hb.nodupF.sublist hsub
  refine hb.step rfl ?_ hn (fun j hj => hb.fidlt j (hsub.subset hj)) ((HL_iff hn).2 ?_)
  · intro s hs
    exact keeps_of_eq (by rw [file?_eq_look, look_filter_id, hq s hs, if_pos rfl, file?_eq_look])
  · intro f hf
    exact (HL_iff hb.nodupF).1 hb.hl f (List.mem_filter.1 hf).1

/-! ### from `A.FRun` to the clean disk and the conjuncts -/

/-- the cleaned disk of an `FRun` state is quiescent in the strengthened sense -/
theorem FRun.clean {d : Disk} {P : List Seg} {t : Seg} {f : File} (h : FRun d P t f) :
    QS (cl d) P t (cleanF f) ∧ logP (cl d) P = logP d P := by
  have hl := h.last
  have hb := h.base
  have h1 : Base (strip d) P t ∧ logP (strip d) P = logP d P :=
    base_filter hb (named d.md.segs) (fun s hs => named_of_mem (by rw [hb.segs]; simp [hs]))
  have h2 := base_updT h1.1 cleanF cleanF_id (fun _ => rfl) (fun _ => rfl)
  rw [← cleanTail_eq (d := strip d) hl] at h2
  refine ⟨⟨h2.1, ?_, ⟨h.ft.base, rfl, rfl, hb.tbm, hb.tb1, hb.tsl, rfl, h.ft.lk, h.ft.mn⟩, h.ft.vis, ?_⟩, h2.2.trans h1.2⟩
  · rw [cl_file? hl, named_of_mem (List.mem_of_getLast? hl), if_pos rfl, if_pos rfl, h.tf]
    rfl
  · intro j hj
    have hj' : (cl d).file? j ≠ none := fun hc => (file?_none_iff _ _).1 hc hj
    rw [cl_file? hl] at hj'
    rw [← hb.segs, ← named_iff]
    cases hn : named d.md.segs j with
    | true => rfl
    | false => rw [hn] at hj'; exact absurd rfl hj'

theorem FRun.qsS {d : Disk} {P : List Seg} {t : Seg} {f : File} (h : FRun d P t f) : QuiescentS (cl d) :=
  (quiescentS_iff _).2 ⟨P, t, cleanF f, h.clean.1⟩

theorem FRun.toFR {d : Disk} {P : List Seg} {t : Seg} {f : File} (h : FRun d P t f) : FR d P t f := by
  have hb := h.base
  have hnamed : ∀ s ∈ P, named d.md.segs s.id = true :=
    fun s hs => named_of_mem (by rw [hb.segs]; simp [hs])
  refine ⟨⟨h.qsS, hb.nodupF, fun g hg => hb.fidlt g.id (List.mem_map.2 ⟨g, hg, rfl⟩), (HL_iff hb.nodupF).1 hb.hl, ?_,
    t, f, h.last, h.tf, h.ft.ss⟩, h.clean.1, hb.segs, h.tf, h.ft.ss, ?_⟩
  · intro g hg
    by_cases e1 : t.id = g.id
    · exact Or.inl ⟨t, h.last, e1⟩
    · cases hn : named d.md.segs g.id with
      | false => exact Or.inr (Or.inl rfl)
      | true =>
        refine Or.inr (Or.inr ?_)
        rw [named_iff, hb.segs] at hn
        obtain ⟨s, hs, e⟩ := List.mem_map.1 hn
        simp only [List.mem_append, List.mem_cons, List.not_mem_nil, or_false] at hs
        rcases hs with hs | rfl
        · obtain ⟨g', hg', hsf⟩ := hb.sealed s hs
          have := file?_of_mem hb.nodupF hg
          rw [← e, hg'] at this
          cases this
          exact ⟨hsf.pend, hsf.sp⟩
        · exact absurd e e1
  · intro s hs
    obtain ⟨g, hg, hsf⟩ := hb.sealed s hs
    refine ⟨g, hg, ?_, hsf.pend, hsf.sp⟩
    rw [cl_file? h.last, hnamed s hs, if_pos rfl, if_neg (hb.tid_ne s hs)]
    exact hg

theorem FRun.of_finv {d : Disk} (h : finvRunB d = true) : ∃ P t f, FRun d P t f :=
  ((B.finvRunB_iff d).1 h).unpack

theorem FRun.finv {d : Disk} {P : List Seg} {t : Seg} {f : File} (h : FRun d P t f) : finvRunB d = true :=
  (B.finvRunB_iff d).2 h.toFR.run

theorem finvRunB_iff (d : Disk) : finvRunB d = true ↔ ∃ P t f, FRun d P t f :=
  ⟨FRun.of_finv, fun ⟨_, _, _, h⟩ => h.finv⟩

/-! ### what readers see and what the disk stands for -/

theorem view_run (d : Disk) : view { disk := d } = absLog (vdisk d) := rfl

theorem view_stop (d : Disk) (segs0 : List Seg) :
    view { disk := d, frozen := some segs0 } = logP (vdisk d) segs0 := rfl

theorem vfile_content (f : File) : (vfile f).content = f.synced := by simp [vfile, File.content]

section
variable {d : Disk} {P : List Seg} {t : Seg} {f : File}

theorem FRun.logP_vdisk (h : FRun d P t f) : logP (vdisk d) P = logP d P := by
  unfold logP
  apply flatMap_congr'
  intro s hs
  obtain ⟨g, hg, hsf⟩ := h.base.sealed s hs
  have hv : (vdisk d).file? s.id = some (vfile g) := by rw [vdisk_file?, hg]; rfl
  rw [segEntries_some hv, segEntries_some hg]
  exact visF_congr (f := g) (f' := vfile g) s rfl (by rw [vfile_content]; simp [File.content, hsf.pend])

theorem FRun.vdisk_tf (h : FRun d P t f) : (vdisk d).file? t.id = some (vfile f) := by
  rw [vdisk_file?, h.tf]; rfl

/-- what readers see -/
theorem FRun.view_eq (h : FRun d P t f) : absLog (vdisk d) = logP d P ++ visU t.min f.base f.synced := by
  have hv := h.vdisk_tf
  rw [absLog_eq, vdisk_md, h.base.segs, logP_append, logP_single, h.logP_vdisk, segEntries_some hv,
    visF_unsealed h.base.tsl, vfile_content]
  rfl

/-- what the disk stands for -/
theorem FRun.log_eq (h : FRun d P t f) : absLog d = logP d P ++ visU t.min f.base (f.synced ++ f.pending) := by
  rw [absLog_eq, h.base.segs, logP_append, logP_single, segEntries_some h.tf, visF_unsealed h.base.tsl]
  rfl

/-- readers see the log of the clean disk -/
theorem FRun.log_cl (h : FRun d P t f) : absLog (cl d) = absLog (vdisk d) := by
  rw [h.clean.1.log_eq, h.clean.2, h.view_eq]; rfl

/-- entries beyond the writer's offset follow what readers see -/
theorem FRun.view_append (h : FRun d P t f) (es : List Entry) :
    logP d P ++ visU t.min f.base (f.synced ++ es) = absLog (vdisk d) ++ idxFrom (f.base + f.synced.length) es := by
  rw [h.view_eq, visU_append, visU_all es h.ft.mn, List.append_assoc]

/-- the disk stands for what readers see plus whatever a failed call left beyond the writer's offset -/
theorem FRun.log_eq_view (h : FRun d P t f) :
    absLog d = absLog (vdisk d) ++ idxFrom (f.base + f.synced.length) f.pending := by
  rw [h.log_eq, h.view_append]

/-- readers see nothing: no sealed segment, an empty tail file -/
theorem FRun.empty (h : FRun d P t f) (he : absLog (vdisk d) = []) : P = [] ∧ f.synced = [] :=
  h.clean.1.toQO.empty (by rw [h.log_cl]; exact he)

/-- where the entries of a legal StoreLogs land when the tail is not replaced -/
theorem FRun.first_eq (h : FRun d P t f) {first : Nat} {es : List Entry} {sl : Bool}
    (hok : OkV (absLog (vdisk d)) (.store first es sl))
    (hno : ¬ ((absLog (vdisk d)).isEmpty ∧ t.base ≠ first)) : first = f.base + f.synced.length := by
  rw [← h.log_cl] at hok hno
  exact store_first (sl := sl) h.clean.1.toQO hok hno

/-! ### the further conjunct of `FInvS`, for a running process -/

/-- a tail file that carries a seal is not empty -/
def SealNonempty (f : File) : Prop := (f.sealedS = true ∨ f.sealedP = true) → f.synced ++ f.pending ≠ []

theorem sealNonempty_of_noseal {f : File} (h1 : f.sealedS = false) (h2 : f.sealedP = false) : SealNonempty f := by
  intro h
  rw [h1, h2] at h
  simp at h

theorem sealNonempty_of_synced {f : File} (h : f.synced ≠ []) : SealNonempty f :=
  fun _ hc => h (List.append_eq_nil_iff.1 hc).1

theorem sealNonempty_of_pending {f : File} (h : f.pending ≠ []) : SealNonempty f :=
  fun _ hc => h (List.append_eq_nil_iff.1 hc).2

theorem fextraRunB_eq {d : Disk} {t : Seg} {f : File} (hl : d.md.segs.getLast? = some t) (hf : d.file? t.id = some f) :
    fextraRunB d = (!(f.sealedS || f.sealedP) || !(f.synced ++ f.pending).isEmpty) := by
  unfold fextraRunB
  rw [hl]
  simp only [hf]

theorem fextraRun_iff (h : FRun d P t f) : fextraB { disk := d } = true ↔ SealNonempty f := by
  show fextraRunB d = true ↔ SealNonempty f
  rw [fextraRunB_eq h.last h.tf, not_or_eq_true]
  simp [SealNonempty]

end

/-! ### the stopped state a failing Create leaves -/

/-- the commit `m` of a segment list `Q ++ [nt]` with a new tail went through, the tail's file could not be created: the
    process stops; its readers see what they saw; `Base` says what `fextraStopB` asks of the committed list -/
theorem stop_of_base {d : Disk} {P : List Seg} {t : Seg} {f : File} {m : Meta} {Q : List Seg} {nt : Seg}
    (h : FRun d P t f) (hb : Base (d.apply (.commit m)) Q nt) (hn : m.nextID = d.md.nextID + 1)
    (hst : m.stable = d.md.stable) (hid : nt.id = d.md.nextID) (hmn : nt.min = nt.base) :
    FInv ⟨d.apply (.commit m), some d.md.segs⟩ ∧ view ⟨d.apply (.commit m), some d.md.segs⟩ = absLog (vdisk d) ∧
      absLog (d.apply (.commit m)) = logP d Q ∧ fextraB ⟨d.apply (.commit m), some d.md.segs⟩ = true := by
  have hsegs : m.segs = Q ++ [nt] := hb.segs
  have hlast : (Q ++ [nt]).getLast? = some nt := List.getLast?_concat
  have hnone : (d.apply (.commit m)).file? nt.id = none := by rw [hid]; exact h.base.fresh_none
  refine ⟨?_, (view_stop _ _).trans (logP_files rfl _), ?_, ?_⟩
  · show finvStopB (d.apply (.commit m)) d.md.segs = true
    unfold finvStopB
    simp only [apply_commit_md, apply_commit_files, hn, hst, Nat.add_sub_cancel, h.finv, hsegs, hlast, hid, hb.tsl,
      apply_commit_file?, h.base.fresh_none]
    simp
  · rw [absLog_eq, apply_commit_md, hsegs, logP_append, logP_single, segEntries_none hnone, List.append_nil]
    exact logP_files rfl _
  · show fextraStopB (d.apply (.commit m)) = true
    unfold fextraStopB
    rw [hb.segs, hlast]
    simp only [List.dropLast_concat, Bool.and_eq_true, List.all_eq_true, fileOK_false_iff, nodupB_iff,
      decide_eq_true_eq]
    exact ⟨⟨⟨⟨⟨hb.sealed, hb.chain⟩, hb.nodupS⟩, hb.idlt⟩, hmn⟩, hb.tb1⟩

/-! ### what the per-call statements ask of one outcome -/

/-- the per-call statements of `FaultStmt.lean` for one outcome `r` (the process afterwards, whether the call returned
    nil), in terms of what readers saw (`V`) and what the disk stood for (`D`) when the call began, what the call makes of
    the one (`N`) and of the other (`N'`), and `X`, under which the further conjuncts hold afterwards -/
structure CallSpec (V D N N' : Log) (X : Prop) (r : Proc × Bool) : Prop where
  inv : FInv r.1
  vw : view r.1 = if r.2 then N else V
  dlog : absLog r.1.disk = view r.1 ∨ (r.2 = false ∧ absLog r.1.disk = N) ∨ absLog r.1.disk = if r.2 then N' else D
  extra : X → fextraB r.1 = true

/-- `r` as the outcome of the call `op` of process `p` -/
abbrev CallFrom (p : Proc) (op : Op) (r : Proc × Bool) : Prop :=
  CallSpec (view p) (absLog p.disk) (specApply (view p) op) (specApply (absLog p.disk) op) (fextraB p = true) r

/-- the call `op` of process `p` under the plan `pl` -/
abbrev CallOK (p : Proc) (op : Op) (pl : Plan) : Prop := CallFrom p op (runOp p op pl)

/-- the call returns an error and changes nothing -/
theorem callSpec_same (p : Proc) (hi : FInv p) (N N' : Log) :
    CallSpec (view p) (absLog p.disk) N N' (fextraB p = true) (p, false) :=
  ⟨hi, rfl, Or.inr (Or.inr rfl), id⟩

/-- a stopped process refuses the call -/
theorem callOK_frozen {p : Proc} (hi : FInv p) (hs : p.frozen.isSome = true) {op : Op} (hop : ∀ k v, op ≠ .set k v)
    (pl : Plan) : CallOK p op pl := by
  unfold CallOK
  rw [runOp_frozen hs hop]
  exact callSpec_same p hi _ _

/-- the process `q` is in a state of the (strengthened) invariant, its readers see `L`, and its disk stands for `L` -/
def Good (q : Proc) (L : Log) : Prop := FInv q ∧ view q = L ∧ absLog q.disk = L ∧ fextraB q = true

/-- a call that returned nil and left such a state is as the per-call statements ask -/
theorem Good.ok {q : Proc} {L : Log} (h : Good q L) (V D N' : Log) (X : Prop) : CallSpec V D L N' X (q, true) :=
  ⟨h.1, h.2.1, Or.inl (h.2.2.1.trans h.2.1.symm), fun _ => h.2.2.2⟩

theorem FRun.good {d : Disk} {P : List Seg} {t : Seg} {f : File} (h : FRun d P t f) (hp : f.pending = [])
    (hx : SealNonempty f) : Good { disk := d } (absLog (vdisk d)) :=
  ⟨h.finv, rfl, by rw [h.log_eq_view, hp]; simp, (fextraRun_iff h).2 hx⟩

end RaftWal.Fault.A
