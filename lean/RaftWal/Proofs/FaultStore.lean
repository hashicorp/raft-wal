/-
  Proofs/FaultStore.lean — StoreLogs under any fault plan: the call cut into its phases (base-index reset, append,
  deferred deletion, background rotation), each from an `FRun` state; `store_spec`.
-/
import RaftWal.Proofs.FaultSteps

namespace RaftWal.Fault.A
open RaftWal.Crash RaftWal.Fault.B

/-! ### the phases of StoreLogs -/

/-- the background rotation: its errors are logged; a failing Create stops the process -/
def rotPhase (d3 : Disk) (k3 : Plan) : Proc × Bool :=
  let (d4, f4, _) := runActs d3 (rotateActs (vdisk d3)) k3
  match f4 with
  | some a => if isCreate a then ({ disk := d4, frozen := some d3.md.segs }, true) else ({ disk := d4 }, true)
  | none => ({ disk := d4 }, true)

/-- after write and fsync: the deferred deletion, then the result, or the rotation -/
def afterWrite (r : Disk × Option Act × Plan) (seals : Bool) (del : List Act) : Proc × Bool :=
  let (d2, f2, k2) := r
  let (d3, _, k3) := runActs d2 del k2
  if f2.isSome then ({ disk := d3 }, false)
  else if seals then rotPhase d3 k3
  else ({ disk := d3 }, true)

/-- Append (a sealed tail writer refuses), deferred deletion, rotation -/
def appendPhase (d1 : Disk) (es : List Entry) (seals : Bool) (del : List Act) (k1 : Plan) : Proc × Bool :=
  let v1 := vdisk d1
  match v1.md.segs.getLast? with
  | none => ({ disk := d1 }, false)
  | some t =>
    if tailSealedMem v1 then ({ disk := d1 }, false)
    else afterWrite (runActs d1 [.write t.id es seals, .fsync t.id] k1) seals del

/-- StoreLogs in a running process, given the actions `r` of the base-index reset -/
def storeFrom (d : Disk) (r : List Act × List Act) (es : List Entry) (seals : Bool) (pl : Plan) : Proc × Bool :=
  let (a1, del) := r
  let (d1, f1, k1) := runActs d a1 pl
  match f1 with
  | some a => if isCreate a then ({ disk := d1, frozen := some d.md.segs }, false) else ({ disk := d1 }, false)
  | none => appendPhase d1 es seals del k1

theorem runOp_store (d : Disk) (first : Nat) (es : List Entry) (seals : Bool) (pl : Plan) :
    runOp { disk := d } (.store first es seals) pl = storeFrom d (resetActs (vdisk d) first) es seals pl := by
  rfl

section
variable {d : Disk} {P : List Seg} {t : Seg} {f : File}

/-! ### the rotation -/

theorem rotateActs_vdisk (h : FRun d P t f) (hp : f.pending = []) :
    rotateActs (vdisk d) = newTailActs d.md (P ++ [sealSeg t f.lastIdx]) (f.lastIdx + 1) := by
  have h3 : (P ++ [t]).getLast? = some t := List.getLast?_concat
  have hv := h.vdisk_tf
  have hli : (vfile f).lastIdx = f.lastIdx := by simp [File.lastIdx, File.content, vfile, hp]
  unfold rotateActs sealSeg
  simp only [vdisk_md, h.base.segs, h3, hv, newTailActs, hli]
  rw [setSeg_tail (t' := { t with sealed := true, max := f.lastIdx }) h.base.tid_ne rfl]

theorem rotPhase_spec (h : FRun d P t f) (hss : f.sealedS = true) (hne : f.synced ≠ [])
    (k3 : Plan) : ∃ q, rotPhase d k3 = (q, true) ∧ Good q (absLog (vdisk d)) := by
  obtain ⟨hp, hsp⟩ := h.ft.ss hss
  obtain ⟨h3, _⟩ := rotate_create
    (h.toRec (L := fun l => l = absLog (vdisk d)) (sealNonempty_of_synced hne) rfl (by rw [h.log_eq_view, hp]; exact List.append_nil _))
    h.tf hss
  unfold rotPhase
  rw [rotateActs_vdisk h hp, ← List.append_nil (newTailActs _ _ _)]
  rcases newTail_run h (P' := P ++ [sealSeg t f.lastIdx]) (b := f.lastIdx + 1) h3 [] k3 with
    ⟨k, hr⟩ | ⟨k, hr, q1, q2, q3, q4⟩ | ⟨k, hr, h5, v5, l5⟩
  · simp only [hr, isCreate, Bool.false_eq_true, ↓reduceIte]
    exact ⟨_, rfl, h.good hp (sealNonempty_of_synced hne)⟩
  · simp only [hr, isCreate, ↓reduceIte]
    exact ⟨_, rfl, q1, q2, q3, q4⟩
  · simp only [hr, runActs_nil]
    exact ⟨_, rfl, h5.finv, v5, l5, (fextraRun_iff h5).2 (sealNonempty_of_noseal rfl rfl)⟩

/-! ### the append -/

/-- `r` as the outcome of the append of `es` from the state `d` with tail file `f` -/
abbrev AppendFrom (d : Disk) (f : File) (es : List Entry) (N' : Log) (r : Proc × Bool) : Prop :=
  CallSpec (absLog (vdisk d)) (absLog d) (absLog (vdisk d) ++ idxFrom (f.base + f.synced.length) es) N' (SealNonempty f) r

variable {es : List Entry} {seals : Bool} {ids : List Nat}

/-- write or fsync failed, leaving `x` beyond the writer's offset: readers see what they saw -/
theorem afterWrite_fail (h : FRun d P t f) (hids : ∀ s ∈ P ++ [t], s.id ∉ ids) {d2 : Disk} {x : List Entry} {b : Bool}
    (h2 : FRun d2 P t (setPend x b f)) (hl : logP d2 P = logP d P) (hx : x = f.pending ∨ x = [] ∨ x = es)
    (hx2 : SealNonempty f → SealNonempty (setPend x b f)) (a : Act) (k2 : Plan) (N' : Log) :
    AppendFrom d f es N' (afterWrite (d2, some a, k2) seals (ids.map .delete)) := by
  obtain ⟨d3, k3, hr3, h3, hl3⟩ := h2.deletes hids k2
  unfold afterWrite
  simp only [hr3, Option.isSome_some, ↓reduceIte]
  have hv : absLog (vdisk d3) = absLog (vdisk d) := by
    rw [h3.view_eq, h.view_eq, hl3, hl]
    rfl
  refine ⟨h3.finv, hv, ?_, fun hX => (fextraRun_iff h3).2 (hx2 hX)⟩
  show absLog d3 = absLog (vdisk d3) ∨ _ ∧ absLog d3 = _ ∨ absLog d3 = absLog d
  rw [h3.log_eq_view, hv, h.log_eq_view]
  show _ ++ idxFrom (f.base + f.synced.length) x = _ ∨ _ ∧ _ ++ idxFrom (f.base + f.synced.length) x = _ ∨
    _ ++ idxFrom (f.base + f.synced.length) x = _
  rcases hx with hx | hx | hx
  · exact Or.inr (Or.inr (by rw [hx]))
  · exact Or.inl (by rw [hx, idxFrom_nil, List.append_nil])
  · exact Or.inr (Or.inl ⟨rfl, by rw [hx]⟩)

/-- write and fsync went through -/
theorem afterWrite_ok (h : FRun d P t f) (hss : f.sealedS = false) (hes : es ≠ [])
    (hids : ∀ s ∈ P ++ [t], s.id ∉ ids) (k2 : Plan) (N' : Log) :
    AppendFrom d f es N'
      (afterWrite ((updT d t.id (setPend es seals)).apply (.fsync t.id), none, k2) seals (ids.map .delete)) := by
  obtain ⟨hw, hlw⟩ := h.putPend hss es seals
  obtain ⟨f2, h2, hl2, g1, g2, g3, g4, g5⟩ := hw.fsyncT
  obtain ⟨d3, k3, hr3, h3, hl3⟩ := h2.deletes hids k2
  have hs2 : f2.synced = f.synced ++ es := g2
  have hb2 : f2.base = f.base := g1
  have hne2 : f2.synced ≠ [] := by
    rw [hs2]; intro hc; exact hes (List.append_eq_nil_iff.1 hc).2
  have hv : absLog (vdisk d3) = absLog (vdisk d) ++ idxFrom (f.base + f.synced.length) es := by
    rw [h3.view_eq, hl3, hl2, hlw, hb2, hs2, h.view_append]
  unfold afterWrite
  simp only [hr3, Option.isSome_none, Bool.false_eq_true, ↓reduceIte]
  unfold AppendFrom
  rw [← hv]
  cases seals with
  | false => exact (h3.good g3 (sealNonempty_of_synced hne2)).ok _ _ _ _
  | true =>
    obtain ⟨q, hq, hg⟩ := rotPhase_spec h3 (by rw [g4]; exact Bool.or_true _) hne2 k3
    simp only [↓reduceIte, hq]
    exact hg.ok _ _ _ _

theorem tailSealedMem_vdisk (h : FRun d P t f) : tailSealedMem (vdisk d) = f.sealedS := by
  have hv := h.vdisk_tf
  unfold tailSealedMem
  simp only [vdisk_md, h.last, hv, h.base.tsl]
  rfl

/-- the append phase from an `FRun` state, whatever fails -/
theorem appendPhase_spec (h : FRun d P t f) (hes : es ≠ []) (seals : Bool) (hids : ∀ s ∈ P ++ [t], s.id ∉ ids)
    (k1 : Plan) (N' : Log) :
    AppendFrom d f es N' (appendPhase d es seals (ids.map .delete) k1) := by
  unfold appendPhase
  simp only [vdisk_md, h.last, tailSealedMem_vdisk h]
  cases hss : f.sealedS with
  | true => exact ⟨h.finv, rfl, Or.inr (Or.inr rfl), (fextraRun_iff h).2⟩
  | false =>
    simp only [Bool.false_eq_true, ↓reduceIte]
    -- the batch lies beyond the writer's offset, and write or fsync has failed
    have hwhole : ∀ a k,
        AppendFrom d f es N' (afterWrite (updT d t.id (setPend es seals), some a, k) seals (ids.map .delete)) := by
      intro a k
      obtain ⟨hw, hlw⟩ := h.putPend hss es seals
      exact afterWrite_fail h hids hw hlw (Or.inr (Or.inr rfl)) (fun _ => sealNonempty_of_pending hes) a k N'
    rcases runActs_write d t.id es seals [.fsync t.id] k1 with ⟨wf, k2, hr⟩ | ⟨k2, hr⟩
    · rw [hr]
      cases wf with
      | nothing =>
        rw [failEffect_nothing]
        exact afterWrite_fail (x := f.pending) (b := f.sealedP) h hids h rfl (Or.inl rfl) id _ k2 N'
      | garbage =>
        rw [failEffect_garbage]
        obtain ⟨hw, hlw⟩ := h.putPend hss [] false
        exact afterWrite_fail h hids hw hlw (Or.inr (Or.inl rfl)) (fun _ => sealNonempty_of_noseal hss rfl) _ k2 N'
      | whole =>
        rw [failEffect_whole]
        exact hwhole _ k2
    · rw [hr]
      rcases runActs_failsUnchanged (updT d t.id (setPend es seals)) (.fsync t.id) [] k2 rfl with ⟨k3, hr⟩ | ⟨k3, hr⟩
      · rw [hr]
        exact hwhole _ k3
      · rw [hr, runActs_nil]
        exact afterWrite_ok h hss hes hids k3 N'

end

/-! ### the call -/

/-- an outcome that is good from a disk standing for what readers see is good from any disk -/
theorem CallSpec.of_disk {V N N' : Log} {X : Prop} {r : Proc × Bool} (h : CallSpec V V N N' X r) (D : Log) :
    CallSpec V D N N' X r := by
  refine ⟨h.inv, h.vw, ?_, h.extra⟩
  rcases h.dlog with h1 | h1 | h1
  · exact Or.inl h1
  · exact Or.inr (Or.inl h1)
  · by_cases hr : r.2 = true
    · rw [if_pos hr] at h1 ⊢
      exact Or.inr (Or.inr h1)
    · have := h.vw
      rw [if_neg hr] at h1 this
      exact Or.inl (h1.trans this.symm)

section
variable {d : Disk} {P : List Seg} {t : Seg} {f : File} {first : Nat} {es : List Entry} {seals : Bool}

/-- StoreLogs in a running process whose tail is not replaced -/
theorem store_noreset_spec (h : FRun d P t f) (hok : OkV (view { disk := d }) (.store first es seals))
    (hno : ¬ ((absLog (vdisk d)).isEmpty ∧ t.base ≠ first)) (pl : Plan) :
    CallOK { disk := d } (.store first es seals) pl := by
  have ha := appendPhase_spec h hok.1 seals (ids := []) (fun _ _ => List.not_mem_nil) pl
    (specApply (absLog d) (.store first es seals))
  unfold AppendFrom at ha
  rw [← h.first_eq hok hno, ← specApply_store _ _ _ seals] at ha
  unfold CallOK CallFrom
  rw [runOp_store, resetActs_no (d := vdisk d) h.base.segs hno]
  exact ⟨ha.inv, ha.vw, ha.dlog, fun hx => ha.extra ((fextraRun_iff h).1 hx)⟩

/-- StoreLogs in a running process on an empty log whose first index is not the tail's base -/
theorem store_reset_spec (h : FRun d P t f) (hok : OkV (view { disk := d }) (.store first es seals))
    (hyes : (absLog (vdisk d)).isEmpty ∧ t.base ≠ first) (pl : Plan) :
    CallOK { disk := d } (.store first es seals) pl := by
  have hi : FInv { disk := d } := h.finv
  have hempty : absLog (vdisk d) = [] := List.isEmpty_iff.1 hyes.1
  obtain ⟨hP, _⟩ := h.empty hempty
  subst hP
  have hb := h.base
  unfold CallOK CallFrom
  rw [runOp_store, resetActs_yes (d := vdisk d) hb.segs hyes, view_run, hempty, specApply_store, List.nil_append]
  unfold storeFrom
  rw [vdisk_md, ← List.append_nil (newTailActs _ _ _)]
  rcases newTail_run h (P' := []) (b := first) (L' := [])
      (Rec.fresh (A := fun l => l = []) h.base.nodupF d.md.nextID h.base.fidlt h.base.hl first hok.2.1 rfl d.md.stable)
      [] pl with
    ⟨k, hr⟩ | ⟨k, hr, q1, q2, q3, q4⟩ | ⟨k1, hr, hr1, _, _⟩
  · -- the commit failed
    simp only [hr, isCreate, Bool.false_eq_true, ↓reduceIte]
    have := callSpec_same _ hi (idxFrom first es) (specApply (absLog d) (.store first es seals))
    rw [view_run, hempty] at this
    exact this
  · -- the Create failed: the process stops
    simp only [hr, isCreate, ↓reduceIte]
    exact ⟨q1, q2.trans hempty, Or.inl (q3.trans (q2.trans hempty).symm), fun _ => q4⟩
  · -- the new tail is there: the append goes to it
    simp only [hr, runActs_nil]
    have hj : ∀ s ∈ ([] : List Seg) ++ [newSeg d.md.nextID first], s.id ∉ [t.id] := by
      intro s hs
      rw [List.nil_append, List.mem_singleton] at hs
      rw [hs, List.mem_singleton]
      exact Nat.ne_of_gt (hb.idlt t (by simp))
    have ha := appendPhase_spec hr1 hok.1 seals hj k1 (specApply (absLog d) (.store first es seals))
    unfold AppendFrom at ha
    rw [hr1.view_eq, hr1.log_eq] at ha
    exact CallSpec.of_disk (CallSpec.mk ha.inv ha.vw ha.dlog (fun _ => ha.extra (sealNonempty_of_noseal rfl rfl))) _

end

/-- StoreLogs under any fault plan -/
theorem store_spec (p : Proc) (hi : FInv p) (first : Nat) (es : List Entry) (seals : Bool)
    (hok : OkV (view p) (.store first es seals)) (pl : Plan) : CallOK p (.store first es seals) pl := by
  obtain ⟨d, fr⟩ := p
  cases fr with
  | some segs0 => exact callOK_frozen hi rfl (fun _ _ h => by cases h) pl
  | none =>
    obtain ⟨P, t, f, h⟩ := FRun.of_finv (d := d) hi
    by_cases hc : (absLog (vdisk d)).isEmpty ∧ t.base ≠ first
    · exact store_reset_spec h hok hc pl
    · exact store_noreset_spec h hok hc pl

/-- non-vacuity: the state Open leaves on an empty directory meets the hypotheses, for a reset (first index 5) and
    for a failsUnchanged append (first index 1) -/
example : FInvS { disk := disk0 } ∧ OkV (view { disk := disk0 }) (.store 5 [7] true) ∧
    OkV (view { disk := disk0 }) (.store 1 [7] false) := by
  refine ⟨⟨by unfold FInv; decide, by decide⟩, ⟨by decide, by decide, Or.inl (by decide)⟩, ⟨by decide, by decide, Or.inl (by decide)⟩⟩

end RaftWal.Fault.A
