/-
  Proofs/CrashDisk.lean — file lookup by identifier after each I/O action and each kind of crash; which files a step keeps.
-/
import RaftWal.Proofs.CrashDefs
namespace RaftWal.Crash

def fids (d : Disk) : List Nat := d.files.map (·.id)

def File.wr (es : List Entry) (sl : Bool) (f : File) : File :=
  { f with pending := f.pending ++ es, sealedP := f.sealedP || sl }

def File.fs (f : File) : File :=
  { f with synced := f.synced ++ f.pending, pending := [], sealedS := f.sealedS || f.sealedP, sealedP := false, hsynced := true }

def File.lk (f : File) : File := { f with linked := true }

def File.unh (f : File) : File := { f with hsynced := false }

def File.fresh (id base : Nat) : File :=
  { id := id, base := base, synced := [], pending := [], sealedS := false, sealedP := false, linked := false, hsynced := false }

@[simp] theorem File.wr_id (es sl) (f : File) : (f.wr es sl).id = f.id := rfl

@[simp] theorem File.fs_id (f : File) : f.fs.id = f.id := rfl

@[simp] theorem File.lk_id (f : File) : f.lk.id = f.id := rfl

@[simp] theorem File.unh_id (f : File) : f.unh.id = f.id := rfl

def look (fs : List File) (j : Nat) : Option File := fs.find? (fun f => decide (f.id = j))

theorem file?_eq_look (d : Disk) (j : Nat) : d.file? j = look d.files j := rfl

theorem look_some {fs : List File} {j : Nat} {f : File} (h : look fs j = some f) : f ∈ fs ∧ f.id = j := by
  unfold look at h
  exact ⟨List.mem_of_find?_eq_some h, by simpa using List.find?_some h⟩

theorem look_none {fs : List File} {j : Nat} : look fs j = none ↔ j ∉ fs.map (·.id) := by
  unfold look
  simp only [List.find?_eq_none, decide_eq_true_eq, List.mem_map, not_exists, not_and]

theorem look_of_mem {fs : List File} (hn : (fs.map (·.id)).Nodup) {f : File} (hf : f ∈ fs) : look fs f.id = some f := by
  induction fs with
  | nil => simp at hf
  | cons a l ih =>
    simp only [List.map_cons, List.nodup_cons, List.mem_map, not_exists, not_and] at hn
    simp only [List.mem_cons] at hf
    unfold look
    simp only [List.find?_cons]
    rcases hf with rfl | hf
    · simp
    · have : ¬ a.id = f.id := fun e => hn.1 f hf e.symm
      simp only [this, decide_false]
      exact ih hn.2 hf

theorem look_map (fs : List File) (h : File → File) (hid : ∀ f, (h f).id = f.id) (j : Nat) :
    look (fs.map h) j = (look fs j).map h := by
  unfold look
  rw [List.find?_map]
  exact congrArg (Option.map h) (congrArg (List.find? · fs) (funext fun f => by simp [hid]))

theorem look_updFile (fs : List File) (id : Nat) (g : File → File) (hg : ∀ f, (g f).id = f.id) (j : Nat) :
    look (updFile fs id g) j = if j = id then (look fs j).map g else look fs j := by
  unfold updFile
  rw [look_map _ _ (by intro f; split <;> simp [hg])]
  cases h : look fs j with
  | none => simp
  | some f =>
    have := (look_some h).2
    subst this
    by_cases e : f.id = id <;> simp [e]

theorem look_filter_ne (fs : List File) (id j : Nat) :
    look (fs.filter (fun f => decide (f.id ≠ id))) j = if j = id then none else look fs j := by
  unfold look
  rw [List.find?_filter]
  split
  · next e => exact List.find?_eq_none.2 fun f _ => by simp [e]
  · next e =>
    refine congrArg (List.find? · fs) (funext fun f => ?_)
    by_cases h : f.id = j <;> simp [h, e]

theorem look_append_single (fs : List File) (nf : File) (j : Nat) :
    look (fs ++ [nf]) j = match look fs j with | some f => some f | none => if nf.id = j then some nf else none := by
  unfold look
  rw [List.find?_append]
  cases List.find? (fun f => decide (f.id = j)) fs with
  | none => by_cases e : nf.id = j <;> simp [e]
  | some f => simp

theorem look_filterMap (fs : List File) (hn : (fs.map (·.id)).Nodup) (h : File → Option File)
    (hid : ∀ f f', h f = some f' → f'.id = f.id) (j : Nat) :
    look (fs.filterMap h) j = (look fs j).bind h := by
  induction fs with
  | nil => rfl
  | cons a l ih =>
    rw [List.map_cons, List.nodup_cons] at hn
    have ih := ih hn.2
    unfold look at ih ⊢
    cases hh : h a with
    | none =>
      by_cases e : a.id = j
      · -- `a` is the file looked for and it goes: no other file has its identifier
        have : l.find? (fun f => decide (f.id = j)) = none := List.find?_eq_none.2 fun f hf hc =>
          hn.1 (List.mem_map.2 ⟨f, hf, (of_decide_eq_true hc).trans e.symm⟩)
        simp [hh, e, ih, this]
      · simp [hh, e, ih]
    | some a' =>
      have := hid _ _ hh
      by_cases e : a.id = j <;> simp [hh, this, e, ih]

@[simp] theorem apply_ack (d : Disk) : d.apply .ack = d := rfl

@[simp] theorem apply_commit_md (d : Disk) (m : Meta) : (d.apply (.commit m)).md = m := rfl

@[simp] theorem apply_commit_files (d : Disk) (m : Meta) : (d.apply (.commit m)).files = d.files := rfl

@[simp] theorem apply_commit_file? (d : Disk) (m : Meta) (j : Nat) : (d.apply (.commit m)).file? j = d.file? j := rfl

@[simp] theorem apply_write_md (d : Disk) (id es sl) : (d.apply (.write id es sl)).md = d.md := rfl

@[simp] theorem apply_fsync_md (d : Disk) (id) : (d.apply (.fsync id)).md = d.md := rfl

@[simp] theorem apply_delete_md (d : Disk) (id) : (d.apply (.delete id)).md = d.md := rfl

@[simp] theorem apply_create_md (d : Disk) (id b) : (d.apply (.create id b)).md = d.md := by
  simp only [Disk.apply]; split <;> rfl

theorem apply_write_file? (d : Disk) (id : Nat) (es : List Entry) (sl : Bool) (j : Nat) :
    (d.apply (.write id es sl)).file? j = if j = id then (d.file? j).map (File.wr es sl) else d.file? j := by
  simp only [file?_eq_look, Disk.apply]
  exact look_updFile d.files id (File.wr es sl) (fun _ => rfl) j

/-- does this fsync also fsync the directory -/
def dirSync (d : Disk) (id : Nat) : Bool := match d.file? id with | some f => !f.hsynced | none => false

theorem apply_fsync_files (d : Disk) (id : Nat) :
    (d.apply (.fsync id)).files = (updFile d.files id File.fs).map (fun f => if dirSync d id then f.lk else f) := by
  show (if dirSync d id then (updFile d.files id File.fs).map File.lk else updFile d.files id File.fs) = _
  cases dirSync d id with
  | false => exact (List.map_id' _).symm
  | true => rfl

theorem apply_fsync_file? (d : Disk) (id : Nat) (j : Nat) :
    (d.apply (.fsync id)).file? j =
      ((if j = id then (d.file? j).map File.fs else d.file? j).map (fun f => if dirSync d id then f.lk else f)) := by
  rw [file?_eq_look, apply_fsync_files, look_map _ _ (fun f => by split <;> rfl),
    look_updFile d.files id File.fs (fun _ => rfl) j]
  rfl

theorem apply_delete_file? (d : Disk) (id j : Nat) :
    (d.apply (.delete id)).file? j = if j = id then none else d.file? j := by
  simp only [file?_eq_look, Disk.apply]
  exact look_filter_ne d.files id j

theorem apply_create_file? (d : Disk) (id b : Nat) (h : d.file? id = none) (j : Nat) :
    (d.apply (.create id b)).file? j = if j = id then some (File.fresh id b) else d.file? j := by
  simp only [Disk.apply, h, Option.isSome_none, Bool.false_eq_true, ↓reduceIte, file?_eq_look]
  rw [look_append_single]
  by_cases e : j = id
  · subst e
    rw [file?_eq_look] at h
    simp [h, File.fresh]
  · have : ¬ id = j := fun h => e h.symm
    simp only [e, ↓reduceIte, this]
    cases look d.files j <;> rfl

@[simp] theorem fids_commit (d : Disk) (m : Meta) : fids (d.apply (.commit m)) = fids d := rfl

theorem updFile_ids (fs : List File) (id : Nat) (g : File → File) (hg : ∀ f, (g f).id = f.id) :
    (updFile fs id g).map (·.id) = fs.map (·.id) := by
  rw [updFile, List.map_map]
  exact List.map_congr_left fun f _ => by simp only [Function.comp]; split <;> simp [hg]

@[simp] theorem fids_write (d : Disk) (id es sl) : fids (d.apply (.write id es sl)) = fids d :=
  updFile_ids d.files id _ (fun _ => rfl)

@[simp] theorem fids_fsync (d : Disk) (id) : fids (d.apply (.fsync id)) = fids d := by
  rw [fids, fids, apply_fsync_files, List.map_map, ← updFile_ids d.files id File.fs (fun _ => rfl)]
  exact List.map_congr_left fun f _ => by simp only [Function.comp]; split <;> rfl

theorem fids_delete (d : Disk) (id) : fids (d.apply (.delete id)) = (fids d).filter (fun j => decide (j ≠ id)) := by
  simp only [fids, Disk.apply, List.filter_map]; rfl

theorem fids_create (d : Disk) (id b : Nat) (h : d.file? id = none) : fids (d.apply (.create id b)) = fids d ++ [id] := by
  simp [fids, Disk.apply, h]

theorem file?_none_iff (d : Disk) (j : Nat) : d.file? j = none ↔ j ∉ fids d := look_none

theorem file?_some_mem {d : Disk} {j : Nat} {f : File} (h : d.file? j = some f) : f ∈ d.files ∧ f.id = j := look_some h

theorem file?_mem_fids {d : Disk} {j : Nat} {f : File} (h : d.file? j = some f) : j ∈ fids d := by
  have := look_some h
  exact List.mem_map.2 ⟨f, this.1, this.2⟩

theorem file?_of_mem {d : Disk} (hn : (fids d).Nodup) {f : File} (hf : f ∈ d.files) : d.file? f.id = some f :=
  look_of_mem hn hf

@[simp] theorem crash_md (d : Disk) (c : CrashKind) : (d.crash c).md = d.md := by cases c <;> rfl

theorem afterPower_id {kp ku : Nat → Bool} {f f' : File} (h : f.afterPower kp ku = some f') : f'.id = f.id := by
  unfold File.afterPower at h
  split at h
  · cases h
  · cases h; rfl

theorem crash_proc_file? (d : Disk) (j : Nat) : (d.crash .proc).file? j = (d.file? j).map File.unh := by
  simp only [file?_eq_look, Disk.crash]
  exact look_map d.files File.unh (fun _ => rfl) j

theorem crash_power_file? (d : Disk) (hn : (fids d).Nodup) (kp ku : Nat → Bool) (j : Nat) :
    ((d.crash (.power kp ku)).file? j) = (d.file? j).bind (File.afterPower kp ku) := by
  simp only [file?_eq_look, Disk.crash]
  exact look_filterMap d.files hn _ (fun _ _ h => afterPower_id h) j

theorem fids_crash_proc (d : Disk) : fids (d.crash .proc) = fids d := by
  simp only [fids, Disk.crash, List.map_map]; rfl

theorem fids_crash_power (d : Disk) (kp ku : Nat → Bool) : (fids (d.crash (.power kp ku))).Sublist (fids d) := by
  simp only [fids, Disk.crash]
  induction d.files with
  | nil => simp
  | cons a l ih =>
    simp only [List.filterMap_cons, List.map_cons]
    cases h : a.afterPower kp ku with
    | none => exact ih.trans (List.sublist_cons_self _ _)
    | some a' =>
      simp only [List.map_cons, afterPower_id h]
      exact ih.cons_cons _

theorem fids_crash_sublist (d : Disk) (c : CrashKind) : (fids (d.crash c)).Sublist (fids d) := by
  cases c with
  | proc => rw [fids_crash_proc]; exact List.Sublist.refl _
  | power kp ku => exact fids_crash_power d kp ku

/-- a handle that has completed a Sync has made the directory entry durable -/
def HL (d : Disk) : Prop := ∀ j f, d.file? j = some f → f.hsynced = true → f.linked = true

theorem HL_iff {d : Disk} (hn : (fids d).Nodup) : HL d ↔ ∀ f ∈ d.files, f.hsynced = true → f.linked = true := by
  constructor
  · intro h f hf; exact h f.id f (file?_of_mem hn hf)
  · intro h j f hf; exact h f (file?_some_mem hf).1

/-- same file as far as the invariants are concerned (the handle flag is free, the link can only become durable) -/
structure FileSame (f f' : File) : Prop where
  base : f'.base = f.base
  synced : f'.synced = f.synced
  pending : f'.pending = f.pending
  ss : f'.sealedS = f.sealedS
  sp : f'.sealedP = f.sealedP
  lk : f.linked = true → f'.linked = true

theorem FileSame.refl (f : File) : FileSame f f := ⟨rfl, rfl, rfl, rfl, rfl, id⟩

theorem FileSame.content {f f' : File} (h : FileSame f f') : f'.content = f.content := by
  simp [File.content, h.synced, h.pending]

def Keeps (d d' : Disk) (j : Nat) : Prop := ∀ f, d.file? j = some f → ∃ f', d'.file? j = some f' ∧ FileSame f f'

theorem keeps_of_eq {d d' : Disk} {j : Nat} (h : d'.file? j = d.file? j) : Keeps d d' j :=
  fun f hf => ⟨f, h.trans hf, FileSame.refl f⟩

theorem keeps_write (d : Disk) (id es sl) {j : Nat} (h : j ≠ id) : Keeps d (d.apply (.write id es sl)) j :=
  keeps_of_eq (by rw [apply_write_file?]; simp [h])

theorem keeps_delete (d : Disk) (id) {j : Nat} (h : j ≠ id) : Keeps d (d.apply (.delete id)) j :=
  keeps_of_eq (by rw [apply_delete_file?]; simp [h])

theorem keeps_fsync (d : Disk) (id) {j : Nat} (h : j ≠ id) : Keeps d (d.apply (.fsync id)) j := by
  intro f hf
  rw [apply_fsync_file?]
  simp only [h, ↓reduceIte, hf, Option.map_some]
  refine ⟨_, rfl, ?_⟩
  split
  · exact ⟨rfl, rfl, rfl, rfl, rfl, fun _ => rfl⟩
  · exact FileSame.refl f

theorem apply_create_exists {d : Disk} {id : Nat} (b : Nat) (h : (d.file? id).isSome = true) : d.apply (.create id b) = d := by
  simp [Disk.apply, h]

theorem keeps_create (d : Disk) (id b : Nat) (j : Nat) : Keeps d (d.apply (.create id b)) j := by
  cases h : d.file? id with
  | some f0 => rw [apply_create_exists b (by simp [h])]; exact keeps_of_eq rfl
  | none =>
    intro f hf
    have : j ≠ id := by rintro rfl; rw [h] at hf; cases hf
    exact ⟨f, by rw [apply_create_file? d id b h]; simp [this, hf], FileSame.refl f⟩

theorem keeps_crash_proc (d : Disk) (j : Nat) : Keeps d (d.crash .proc) j := by
  intro f hf
  rw [crash_proc_file?, hf]
  exact ⟨_, rfl, ⟨rfl, rfl, rfl, rfl, rfl, id⟩⟩

theorem keeps_crash_power (d : Disk) (hn : (fids d).Nodup) (kp ku : Nat → Bool) {j : Nat} {f : File}
    (hf : d.file? j = some f) (hp : f.pending = []) (hsp : f.sealedP = false) (hl : f.linked = true) :
    ∃ f', (d.crash (.power kp ku)).file? j = some f' ∧ FileSame f f' := by
  rw [crash_power_file? d hn, hf]
  simp only [Option.bind_some, File.afterPower, hl, Bool.not_true, Bool.false_and, Bool.false_eq_true, ↓reduceIte]
  refine ⟨_, rfl, ⟨rfl, ?_, hp.symm, ?_, hsp.symm, fun _ => rfl⟩⟩
  · simp [hp]
  · simp [hsp]

theorem HL_apply {d : Disk} (h : HL d) (a : Act) : HL (d.apply a) := by
  intro j f hf hh
  cases a with
  | ack => exact h j f hf hh
  | commit m => exact h j f hf hh
  | write id es sl =>
    rw [apply_write_file?] at hf
    split at hf
    · obtain ⟨f0, h0, rfl⟩ := Option.map_eq_some_iff.1 hf; exact h j f0 h0 hh
    · exact h j f hf hh
  | delete id =>
    rw [apply_delete_file?] at hf
    split at hf
    · cases hf
    · exact h j f hf hh
  | create id b =>
    cases h0 : d.file? id with
    | some f0 => rw [apply_create_exists b (by simp [h0])] at hf; exact h j f hf hh
    | none =>
      rw [apply_create_file? d id b h0] at hf
      split at hf
      · cases hf; cases hh
      · exact h j f hf hh
  | fsync id =>
    rw [apply_fsync_file?] at hf
    obtain ⟨f1, h1, rfl⟩ := Option.map_eq_some_iff.1 hf
    cases hd : dirSync d id with
    | true => rfl
    | false =>
      -- no directory fsync: the handle had completed a Sync before, so the entry was durable already
      split at h1
      · next e =>
        obtain ⟨f0, h0, rfl⟩ := Option.map_eq_some_iff.1 h1
        subst e
        simp only [dirSync, h0, Bool.not_eq_false'] at hd
        exact h j f0 h0 hd
      · rw [hd] at hh; exact h j f1 h1 hh

theorem HL_crash (d : Disk) (hn : (fids d).Nodup) (c : CrashKind) : HL (d.crash c) := by
  intro j f hf hh
  cases c with
  | proc =>
    rw [crash_proc_file?] at hf
    obtain ⟨f0, _, rfl⟩ := Option.map_eq_some_iff.1 hf
    cases hh
  | power kp ku =>
    rw [crash_power_file? d hn] at hf
    obtain ⟨f0, _, h1⟩ := Option.bind_eq_some_iff.1 hf
    unfold File.afterPower at h1
    split at h1
    · cases h1
    · cases h1; rfl

@[simp] theorem applyAll_nil (d : Disk) : d.applyAll [] = d := rfl

@[simp] theorem applyAll_cons (d : Disk) (a : Act) (as : List Act) : d.applyAll (a :: as) = (d.apply a).applyAll as := rfl

theorem applyAll_append (d : Disk) (as bs : List Act) : d.applyAll (as ++ bs) = (d.applyAll as).applyAll bs := by
  simp [Disk.applyAll, List.foldl_append]

/-- every cut of `a :: as` is the start, or a cut of `as` after `a` -/
theorem cuts_cons {Q : Disk → Prop} {d : Disk} {a : Act} {as : List Act} (h0 : Q d)
    (h : ∀ k, Q ((d.apply a).applyAll (as.take k))) : ∀ k, Q (d.applyAll ((a :: as).take k))
  | 0 => h0
  | k + 1 => h k

theorem cuts_nil {Q : Disk → Prop} {d : Disk} (h0 : Q d) : ∀ k, Q (d.applyAll (([] : List Act).take k)) :=
  fun k => by rw [List.take_nil]; exact h0

theorem cuts_append {Q : Disk → Prop} {d : Disk} {as bs : List Act} (h1 : ∀ k, Q (d.applyAll (as.take k)))
    (h2 : ∀ k, Q ((d.applyAll as).applyAll (bs.take k))) : ∀ k, Q (d.applyAll ((as ++ bs).take k)) := by
  intro k
  by_cases hk : k ≤ as.length
  · rw [List.take_append_of_le_length hk]; exact h1 k
  · rw [List.take_append, List.take_of_length_le (Nat.le_of_not_le hk), applyAll_append]; exact h2 _

theorem fsync_file {d : Disk} (hl : HL d) {id : Nat} {f : File} (hf : d.file? id = some f) :
    ∃ f', (d.apply (.fsync id)).file? id = some f' ∧ f'.base = f.base ∧ f'.synced = f.synced ++ f.pending ∧
      f'.pending = [] ∧ f'.sealedS = (f.sealedS || f.sealedP) ∧ f'.sealedP = false ∧ f'.linked = true ∧
      f'.hsynced = true := by
  rw [apply_fsync_file?]
  simp only [↓reduceIte, hf, Option.map_some]
  refine ⟨_, rfl, ?_⟩
  cases hd : dirSync d id with
  | true => simp [File.lk, File.fs]
  | false =>
    simp only [dirSync, hf, Bool.not_eq_false'] at hd
    have := hl id f hf hd
    simp [File.fs, this]

theorem deletes_md (ids : List Nat) (d : Disk) : (d.applyAll (ids.map .delete)).md = d.md := by
  induction ids generalizing d with
  | nil => rfl
  | cons a l ih => simp [ih]

theorem deletes_file? (ids : List Nat) (d : Disk) (j : Nat) (hj : j ∉ ids) :
    (d.applyAll (ids.map .delete)).file? j = d.file? j := by
  induction ids generalizing d with
  | nil => rfl
  | cons a l ih =>
    simp only [List.mem_cons, not_or] at hj
    simp only [List.map_cons, applyAll_cons]
    rw [ih _ hj.2, apply_delete_file?]; simp [hj.1]

theorem deletes_fids (ids : List Nat) (d : Disk) (j : Nat) (hj : j ∈ fids (d.applyAll (ids.map .delete))) :
    j ∈ fids d ∧ j ∉ ids := by
  induction ids generalizing d with
  | nil => exact ⟨hj, by simp⟩
  | cons a l ih =>
    simp only [List.map_cons, applyAll_cons] at hj
    have := ih _ hj
    rw [fids_delete] at this
    simp only [List.mem_filter, decide_eq_true_eq] at this
    exact ⟨this.1.1, by simp [this.1.2, this.2]⟩

end RaftWal.Crash
