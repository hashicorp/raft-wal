/-
  Proofs/WalDelete.lean — simulation of `DeleteRange`: head truncation, tail truncation, and the
  decision between them.
-/
import RaftWal.Proofs.WalCore
namespace RaftWal

theorem forall_or_split_first {α : Type} (p : α → Prop) [DecidablePred p] (l : List α) :
    (∀ x ∈ l, p x) ∨ ∃ l1 x l2, l = l1 ++ x :: l2 ∧ (∀ y ∈ l1, p y) ∧ ¬ p x := by
  induction l with
  | nil => exact Or.inl fun _ h => nomatch h
  | cons a l ih =>
    by_cases ha : p a
    · have hcons : ∀ {q : List α}, (∀ y ∈ q, p y) → ∀ y ∈ a :: q, p y :=
        fun hq y hy => (List.mem_cons.mp hy).elim (fun e => e ▸ ha) (hq y)
      rcases ih with h | ⟨l1, x, l2, e, h1, h2⟩
      · exact Or.inl (hcons h)
      · exact Or.inr ⟨a :: l1, x, l2, by rw [e]; rfl, hcons h1, h2⟩
    · exact Or.inr ⟨[], a, l, rfl, (fun _ h => nomatch h), ha⟩

/-- the walk deletes every segment -/
theorem truncateHead_all (w : Wal) (newMin : Nat) {F : Nat} {es : List Log} (h : Rep w F es)
    (hwalk : Wal.truncateHead.walk newMin w.tailCommitIdx w.segs w.segs [] =
      (none, [], w.segs.map (·.1.id))) :
    ∃ w' b, w.truncateHead newMin = (w', none) ∧ w'.closed = w.closed ∧ (0 < es.length → b = F + es.length) ∧
      Rep w' b [] := by
  have hc := h.1
  have hnext : u64 (w.lastIndex + 1) = if es.length = 0 then 1 else F + es.length := by
    rw [lastIndex_eq hc h.2]
    split
    · rfl
    · rw [last_add_one (F_pos hc)]
      exact u64_of_lt (Nat.lt_of_le_of_lt hc.bound (by decide))
  unfold Wal.truncateHead
  simp only [hwalk, hnext]
  obtain ⟨w2, b, hcn, g2, g4, g5, g7⟩ :=
    createNext_empty { w with segs := [], ctr := { w.ctr with
        headTrunc := u64 (w.ctr.headTrunc + headRemoved w.firstIndex w.lastIndex newMin) } }
      (if es.length = 0 then 1 else F + es.length) rfl hc.cfgOK hc.fileIds (by split; exact (by decide); exact hc.bound)
  simp only [hcn]
  refine ⟨_, b, rfl, g2, fun hpos => ?_, g5.removeFiles _ ?_⟩
  · have := g4 (by rw [if_neg (Nat.ne_of_gt hpos)]; exact Nat.lt_of_lt_of_le hpos (Nat.le_add_left _ _))
    rw [if_neg (Nat.ne_of_gt hpos)] at this
    exact this
  · intro c rc hm hin
    obtain ⟨a, ha, hid⟩ := List.mem_map.mp hin
    obtain ⟨fa, _, hsa⟩ := hc.segOK a.1 a.2 ha
    exact Nat.ne_of_lt hsa.idlt (hid.trans (g7 c rc hm))

/-- the walk stops at `h` -/
theorem truncateHead_keep (w : Wal) (newMin : Nat) {F : Nat} {es : List Log} (hw : Rep w F es)
    {dl rest : List (SegS × Rdr)} {h : SegS} {rh : Rdr} (hs : w.segs = dl ++ (h, rh) :: rest)
    (hdl : ∀ c ∈ dl, c.1.max < newMin) (hF : F ≤ newMin) {fh : FileL} (hfh : fileOf w.files h.id = some fh)
    (hh : newMin < hi h fh)
    (hwalk : Wal.truncateHead.walk newMin w.tailCommitIdx w.segs w.segs [] =
      (some (h, rh), rest, dl.map (·.1.id))) :
    ∃ w', w.truncateHead newMin = (w', none) ∧ w'.closed = w.closed ∧ Rep w' newMin (es.drop (newMin - F)) := by
  obtain ⟨hc, ht⟩ := hw
  unfold Wal.truncateHead
  simp only [hwalk]
  rw [hs] at hc ht
  refine ⟨_, rfl, rfl, Rep.removeFiles
    (w := { w with segs := ({ h with min := newMin }, rh) :: rest, ctr := { w.ctr with
      headTrunc := u64 (w.ctr.headTrunc + headRemoved w.firstIndex w.lastIndex newMin) } })
    ⟨hc.dropHead newMin hdl hF hfh hh, ht.dropHead newMin⟩ _ ?_⟩
  intro c rc hm hin
  obtain ⟨a, ha, hid⟩ := List.mem_map.mp hin
  have hne : ∀ b ∈ (h, rh) :: rest, a.1.id ≠ b.1.id := fun b hb =>
    ((List.pairwise_append.mp hc.sorted).2.2 a ha b hb).2.2.2
  rcases List.mem_cons.mp hm with hm' | hm'
  · cases hm'
    exact hne (h, rh) List.mem_cons_self hid
  · exact hne (c, rc) (List.mem_cons_of_mem _ hm') hid

theorem truncateHead_rep (w : Wal) (newMin : Nat) {F : Nat} {es : List Log} (hw : Rep w F es)
    (hF : F ≤ newMin) (hE : newMin ≤ F + es.length) (hpos : 0 < es.length) :
    ∃ w', w.truncateHead newMin = (w', none) ∧ w'.closed = w.closed ∧ Rep w' newMin (es.drop (newMin - F)) := by
  obtain ⟨pre, t, r, ft, hs, hsl, hfl, hi0, hseg, hEq, hpre⟩ := shape hw.1 hw.2
  have htci := tailCommitIdx_eq hs hfl
  have hc := hw.1
  -- the kept head is the first sealed segment that reaches `newMin`, else the tail if it does
  rcases forall_or_split_first (fun c : SegS × Rdr => c.1.max < newMin) pre with hall | ⟨dl, x, rest, e, hdl, hx⟩
  · have hskip := walkHead_skip newMin w.tailCommitIdx pre (fun c hcm => ⟨(hpre c hcm).1, hall c hcm⟩)
      [(t, r)] [(t, r)] []
    rw [← hs, List.nil_append, walkHead_tail newMin _ r _ hsl] at hskip
    by_cases htc : newMin ≤ w.tailCommitIdx
    · rw [if_pos htc] at hskip
      exact truncateHead_keep w newMin hw hs hall hF hfl
        (hi_open hsl ft ▸ lt_of_le_commitIdx (Nat.le_trans (F_pos hc) hF) (htci ▸ htc)) hskip
    · -- everything is deleted: every index of the log is below `newMin`, so `newMin` is its end
      have hidx : ∀ idx, F ≤ idx → idx < F + es.length → idx < newMin := by
        intro idx h1 h2
        obtain ⟨c, rc, f, hm, hf, h3, h4⟩ := hc.cover idx h1 h2
        rw [hs] at hm
        rcases List.mem_append.mp hm with hm' | hm'
        · exact Nat.lt_of_le_of_lt ((lt_hi_sealed (hpre _ hm').1).mp h4) (hall _ hm')
        · cases List.mem_singleton.mp hm'
          cases hfl.symm.trans hf
          rw [hi_open hsl] at h4
          exact Nat.lt_of_le_of_lt (le_commitIdx (hseg.fbase ▸ Nat.le_trans hseg.basemin h3) h4)
            (htci ▸ Nat.lt_of_not_le htc)
      have hnm : newMin = F + es.length := Nat.le_antisymm hE (end_le_of_forall_lt hpos hidx)
      rw [if_neg htc] at hskip
      obtain ⟨w', b, g0, g1, g2, g3⟩ := truncateHead_all w newMin hw
        (hskip.trans (by rw [hs, List.map_append]; rfl))
      have hb : b = newMin := (g2 hpos).trans hnm.symm
      subst hb
      rw [List.drop_eq_nil_of_le (by rw [hnm, Nat.add_sub_cancel_left]; exact Nat.le_refl _)]
      exact ⟨w', g0, g1, g3⟩
  · obtain ⟨h, rh⟩ := x
    have hxs := (hpre (h, rh) (e ▸ List.mem_append_right _ List.mem_cons_self)).1
    have hs' : w.segs = dl ++ (h, rh) :: (rest ++ [(t, r)]) := by rw [hs, e, List.append_assoc]; rfl
    obtain ⟨fh, hfh, _⟩ := hc.segOK h rh (hs' ▸ List.mem_append_right _ List.mem_cons_self)
    have hskip := walkHead_skip newMin w.tailCommitIdx dl
      (fun c hcm => ⟨(hpre c (e ▸ List.mem_append_left _ hcm)).1, hdl c hcm⟩)
      ((h, rh) :: (rest ++ [(t, r)])) ((h, rh) :: (rest ++ [(t, r)])) []
    rw [← hs', List.nil_append, walkHead_sealed newMin _ rh _ _ _ hxs, if_pos (Nat.le_of_not_lt hx)] at hskip
    exact truncateHead_keep w newMin hw hs' hdl hF hfh
      ((lt_hi_sealed hxs).mpr (Nat.le_of_not_lt hx)) hskip

theorem truncateHead_empty (w : Wal) (newMin : Nat) {F : Nat} (h : Rep w F []) (h1 : 1 ≤ newMin) :
    ∃ w' b, w.truncateHead newMin = (w', none) ∧ w'.closed = w.closed ∧ Rep w' b [] := by
  obtain ⟨t, r, ft, hs, hsl, hfl, hi0, hseg, hfe, hmin, hbase⟩ := shape_empty h.1 h.2
  have htci : ¬ newMin ≤ w.tailCommitIdx := by
    rw [tailCommitIdx_eq (pre := []) hs hfl, commitIdx_eq, hfe]
    exact Nat.not_le.mpr h1
  have hwalk := walkHead_tail newMin w.tailCommitIdx r [] hsl
  rw [if_neg htci, ← hs] at hwalk
  obtain ⟨w', b, g0, g1, _, g3⟩ := truncateHead_all w newMin h (hwalk.trans (by rw [hs]; rfl))
  exact ⟨w', b, g0, g1, g3⟩

theorem SegS.seal_self (c : SegS) (h : c.sealed = true) (m : Nat) :
    ({ c with max := m } : SegS) = { c with sealed := true, indexStart := c.indexStart, max := m } := by
  cases c
  cases h
  rfl

theorem sealFor_core {w : Wal} {F : Nat} {es : List Log} {kept dropped : List (SegS × Rdr)} {c : SegS} {rc : Rdr}
    (hc : Core w.cfg w.nextID (kept ++ (c, rc) :: dropped) w.files F es)
    (hopen : c.sealed = false → ∃ ft, fileOf w.files c.id = some ft ∧ ft.indexStart = 0 ∧ 0 < ft.entries.length)
    (newMax : Nat) (hF : F ≤ newMax) (hlt : newMax < F + es.length) (hcb : c.base ≤ newMax)
    (hdr : ∀ d ∈ dropped, newMax < d.1.base) :
    ∃ (t' : SegS) (files' : List FileL), sealFor w c = (t', files', true) ∧ t'.id = c.id ∧ t'.sealed = true ∧
      Core w.cfg w.nextID (kept ++ [({ t' with max := newMax }, rc)]) files' F (es.take (newMax + 1 - F)) := by
  obtain ⟨f, hf, hsc⟩ := hc.segOK c rc (List.mem_append_right _ List.mem_cons_self)
  cases hcsl : c.sealed
  · obtain ⟨ft, hfl, hi0, hlen⟩ := hopen hcsl
    cases hfl.symm.trans hf
    have hfid : f.id = c.id := fileOf_some_id hf
    unfold sealFor
    simp only [hcsl, Wal.file?_eq, hf, hi0, Nat.lt_irrefl, Nat.ne_of_gt hlen, Bool.false_eq_true, if_false]
    refine ⟨_, _, rfl, rfl, rfl, ?_⟩
    exact hc.cutTail newMax _ hF hlt hcb hdr (updFile_ids hc.fileIds (hfid ▸ hsc.idlt))
      (fun id hid => by rw [fileOf_updFile, if_neg (hfid ▸ hid)]) hf
      (by rw [fileOf_updFile, if_pos hfid.symm, hf]; rfl) (by rfl) (by rfl) (by rfl) (frame_pos _ _)
      (Nat.ne_of_gt (frame_pos _ _))
  · have hso := hsc.sealedOK hcsl
    refine ⟨c, w.files, by simp only [sealFor, hcsl, if_true], rfl, hcsl, ?_⟩
    rw [SegS.seal_self c hcsl]
    exact hc.cutTail newMax c.indexStart hF hlt hcb hdr hc.fileIds (fun _ _ => rfl) hf hf rfl rfl rfl
      hso.2.2.1 hso.2.2.2

theorem truncateTail_rep (w : Wal) (newMax : Nat) {F : Nat} {es : List Log} (hw : Rep w F es)
    (hF : F ≤ newMax) (hlt : newMax < F + es.length) :
    ∃ w', w.truncateTail newMax = (w', none) ∧ w'.closed = w.closed ∧ Rep w' F (es.take (newMax + 1 - F)) := by
  obtain ⟨hc, ht⟩ := hw
  obtain ⟨pre, t, r, ft, hs, hsl, hfl, hi0, hseg, hEq, hpre⟩ := shape hc ht
  rw [truncateTail_eq, walkTail_spec]
  have hsplit := split_rev (fun c : SegS × Rdr => decide (newMax < c.1.base)) w.segs
  generalize htw : List.takeWhile (fun c : SegS × Rdr => decide (newMax < c.1.base)) w.segs.reverse = tw at hsplit ⊢
  have hdr : ∀ d ∈ tw.reverse, newMax < d.1.base := fun d hd =>
    of_decide_eq_true (takeWhile_all _ w.segs.reverse d (htw ▸ List.mem_reverse.mp hd))
  cases hdw : List.dropWhile (fun c : SegS × Rdr => decide (newMax < c.1.base)) w.segs.reverse with
  | nil =>
    -- impossible: the first segment starts at or below `newMax`
    exfalso
    rw [hdw] at hsplit
    obtain ⟨c0, hh, hF0⟩ := hc.headF
    have hm : c0 ∈ w.segs := List.mem_of_mem_head? hh
    obtain ⟨f0, _, hs0⟩ := hc.segOK c0.1 c0.2 hm
    have := hdr c0 (by rw [hsplit] at hm; exact hm)
    have hmin : c0.1.min ≤ newMax := by rw [hF0]; exact hF
    exact Nat.lt_irrefl _ (Nat.lt_of_lt_of_le this (Nat.le_trans hs0.basemin hmin))
  | cons cc before =>
    obtain ⟨c, rc⟩ := cc
    have hcb : c.base ≤ newMax :=
      Nat.le_of_not_lt (of_decide_eq_false (dropWhile_head_false (fun c : SegS × Rdr => decide (newMax < c.1.base)) _ _ _ hdw))
    rw [hdw] at hsplit
    have hsegs : w.segs = before.reverse ++ (c, rc) :: tw.reverse := by
      rw [hsplit, List.reverse_cons, List.append_assoc]
      rfl
    have hc' := hc
    rw [hsegs] at hc'
    have hsort := hc'.sorted
    rw [List.pairwise_append, List.pairwise_cons] at hsort
    obtain ⟨_, ⟨hs2, _⟩, hs4⟩ := hsort
    obtain ⟨t', files', hseal, htid, htsl, hcore⟩ := sealFor_core hc' (by
        intro hcsl
        -- an unsealed `c` is the tail, and the cut lies inside the log
        have hmem : (c, rc) ∈ pre ++ [(t, r)] := hs ▸ hsegs ▸ List.mem_append_right _ List.mem_cons_self
        rcases List.mem_append.mp hmem with hm | hm
        · exact absurd ((hpre _ hm).1) (hcsl ▸ Bool.false_ne_true)
        · cases List.mem_singleton.mp hm
          refine ⟨ft, hfl, hi0, Nat.pos_of_ne_zero fun h0 => ?_⟩
          have hend : t.base = F + es.length := by rw [← hEq, h0, Nat.add_zero, hseg.fbase]
          exact Nat.lt_irrefl _ (Nat.lt_of_le_of_lt hcb (hend ▸ hlt)))
      newMax hF hlt hcb hdr
    simp only [hseal, not_true_eq_false, if_false]
    obtain ⟨w2, hcn, g2, g3, g5⟩ := createNext_sealed
      { w with segs := before.reverse ++ [({ t' with max := newMax }, rc)], files := files' } 0 hcore
      ⟨_, _, List.getLast?_concat, htsl⟩
    simp only [hcn, bumpTail]
    have hrm := Rep.removeFiles
      (w := { w2 with ctr := { w2.ctr with
        tailTrunc := u64 (w2.ctr.tailTrunc + (if w.lastIndex > newMax then w.lastIndex - newMax else 0)) } })
      g3 ([] ++ tw.map (·.1.id)) (by
      intro x rx hm hin
      obtain ⟨d, hd, hid⟩ := List.mem_map.mp hin
      have hd' : d ∈ tw.reverse := List.mem_reverse.mpr hd
      obtain ⟨fd, _, hsd⟩ := hc'.segOK d.1 d.2 (List.mem_append_right _ (List.mem_cons_of_mem _ hd'))
      rcases g5 x rx hm with h | h
      · rcases List.mem_append.mp h with hx | hx
        · exact (hs4 (x, rx) hx d (List.mem_cons_of_mem _ hd')).2.2.2 hid.symm
        · cases List.mem_singleton.mp hx
          exact (hs2 d hd').2.2.2 (htid.symm.trans hid.symm)
      · exact Nat.ne_of_lt hsd.idlt (hid.trans h))
    exact ⟨_, rfl, g2, hrm⟩

/-- `La`: the last index of the (non-empty) log -/
theorem delHead_sim {w : Wal} {s : Spec.SLog} {F : Nat} (h : Rep w F s.entries) (hcl : s.closed = w.closed)
    (hsf : s.first = F) (hpos : 0 < s.entries.length) {mx La : Nat} (hLa : La + 1 = F + s.entries.length)
    (hmx : F ≤ mx) :
    SimRes (w.truncateHead (u64 (Nat.min mx La + 1)))
      ({ s with first := s.first + (mx + 1 - s.first), entries := s.entries.drop (mx + 1 - s.first) }, none) := by
  have hb : La + 1 < 2^64 := hLa ▸ Nat.lt_of_le_of_lt h.1.bound (by decide)
  rw [hsf]
  by_cases hle : mx ≤ La
  · have hmin : Nat.min mx La = mx := Nat.min_eq_left hle
    rw [hmin, u64_of_lt (Nat.lt_of_le_of_lt (Nat.succ_le_succ hle) hb)]
    obtain ⟨w', he, g3, g4⟩ := truncateHead_rep w (mx + 1) h (Nat.le_succ_of_le hmx)
      (hLa ▸ Nat.succ_le_succ hle : mx + 1 ≤ F + s.entries.length) hpos
    rw [he]
    exact ⟨rfl, mx + 1, g4.1, g4.2, hcl.trans g3.symm, fun _ => Nat.add_sub_of_le (Nat.le_succ_of_le hmx)⟩
  · have hmin : Nat.min mx La = La := Nat.min_eq_right (Nat.le_of_not_le hle)
    rw [hmin, u64_of_lt hb]
    obtain ⟨w', he, g3, g4⟩ := truncateHead_rep w (La + 1) h (hLa ▸ Nat.le_add_right F _) (Nat.le_of_eq hLa) hpos
    have e1 : s.entries.drop (La + 1 - F) = [] :=
      List.drop_eq_nil_of_le (by rw [hLa, Nat.add_sub_cancel_left]; exact Nat.le_refl _)
    have hend : F + s.entries.length ≤ mx + 1 := by rw [← hLa]; exact Nat.succ_le_succ (Nat.le_of_not_le hle)
    have e2 : s.entries.drop (mx + 1 - F) = [] := List.drop_eq_nil_of_le (Nat.le_sub_of_add_le' hend)
    rw [e1] at g4
    rw [he, e2]
    exact ⟨rfl, La + 1, g4.1, g4.2, hcl.trans g3.symm, fun h => absurd rfl h⟩

theorem delTail_sim {w : Wal} {s : Spec.SLog} {F : Nat} (h : Rep w F s.entries) (hcl : s.closed = w.closed)
    (hsf : s.first = F) {mn : Nat} (h1 : F < mn) (h2 : mn < F + s.entries.length) :
    SimRes (w.truncateTail (mn - 1)) ({ s with entries := s.entries.take (mn - s.first) }, none) := by
  obtain ⟨m, rfl⟩ : ∃ m, mn = m + 1 := ⟨mn - 1, (Nat.succ_pred_eq_of_pos (Nat.zero_lt_of_lt h1)).symm⟩
  rw [Nat.add_sub_cancel, hsf]
  obtain ⟨w', he, g3, g4⟩ := truncateTail_rep w m h (Nat.le_of_lt_succ h1) (Nat.lt_of_succ_lt h2)
  rw [he]
  exact ⟨rfl, F, g4.1, g4.2, hcl.trans g3.symm, fun _ => rfl⟩

theorem sim_del {w : Wal} {s : Spec.SLog} (h : Sim w s) (mn mx : Nat) :
    (w.step (.del mn mx)).2 = (s.step (.del mn mx)).2 ∧
      Sim (w.step (.del mn mx)).1 (s.step (.del mn mx)).1 := by
  rw [step_del_eq, sstep_del_eq]
  show SimRes (w.deleteRange mn mx) (s.delete mn mx)
  have hsim := h
  obtain ⟨F, hc, ht, hcl, hf⟩ := h
  cases hwc : w.closed
  · rw [deleteRange_open hwc, Spec.SLog.delete_open (hcl.trans hwc), firstIndex_eq hc ht, lastIndex_eq hc ht,
      Spec.SLog.firstIndex_eq hf, Spec.SLog.lastIndex_eq hf]
    by_cases hgt : mn > mx
    · rw [if_pos hgt, if_pos hgt]
      exact ⟨rfl, hsim⟩
    rw [if_neg hgt, if_neg hgt]
    by_cases hlen : s.entries.length = 0
    · -- empty log: the specification does nothing; the model re-creates its empty tail when `mn = 0`
      have hnil : s.entries = [] := List.eq_nil_of_length_eq_zero hlen
      have hemp : s.entries.isEmpty = true ∨ mx < 0 ∨ mn > 0 := Or.inl (by rw [hnil]; rfl)
      rw [if_pos hlen, if_pos hlen, if_pos hemp]
      by_cases hmn : mn > 0
      · rw [if_pos (Or.inr hmn)]
        exact ⟨rfl, hsim⟩
      · rw [if_neg (fun h => h.elim (Nat.not_lt_zero _) hmn), if_pos (Nat.le_of_not_lt hmn),
          show Nat.min mx 0 = 0 from Nat.min_eq_right (Nat.zero_le _)]
        obtain ⟨w', b, he, g3, g4⟩ := truncateHead_empty w 1 ⟨hnil ▸ hc, ht⟩ (Nat.le_refl _)
        rw [show u64 (0 + 1) = 1 from rfl, he]
        exact ⟨rfl, b, hnil ▸ g4.1, g4.2, hcl.trans g3.symm, fun hne => absurd hnil hne⟩
    · have hne : s.entries ≠ [] := fun h0 => hlen (h0 ▸ rfl)
      have hsf : s.first = F := hf hne
      have hpos : 0 < s.entries.length := Nat.pos_of_ne_zero hlen
      obtain ⟨La, hLa⟩ : ∃ La, La + 1 = F + s.entries.length :=
        ⟨F + s.entries.length - 1, last_add_one (F_pos hc)⟩
      have hLa' : F + s.entries.length - 1 = La := by rw [← hLa]; rfl
      have hemp : ¬ s.entries.isEmpty = true := fun h => hne (List.isEmpty_iff.mp h)
      simp only [if_neg hlen, hLa']
      by_cases hout : mx < F ∨ mn > La
      · rw [if_pos hout, if_pos (Or.inr hout)]
        exact ⟨rfl, hsim⟩
      have hout' : ¬ (s.entries.isEmpty = true ∨ mx < F ∨ mn > La) := fun h => h.elim hemp hout
      rw [if_neg hout, if_neg hout']
      by_cases hhead : mn ≤ F
      · rw [if_pos hhead, if_pos hhead]
        exact delHead_sim ⟨hc, ht⟩ hcl hsf hpos hLa (Nat.le_of_not_lt fun h => hout (Or.inl h))
      rw [if_neg hhead, if_neg hhead]
      by_cases htail : mx ≥ La
      · rw [if_pos htail, if_pos htail]
        exact delTail_sim ⟨hc, ht⟩ hcl hsf (Nat.lt_of_not_le hhead)
          (hLa ▸ Nat.lt_succ_of_le (Nat.le_of_not_lt fun h => hout (Or.inr h)))
      · rw [if_neg htail, if_neg htail]
        exact ⟨rfl, hsim⟩
  · rw [deleteRange_closed hwc, Spec.SLog.delete_of_closed (hcl.trans hwc)]
    exact ⟨rfl, hsim⟩

end RaftWal
