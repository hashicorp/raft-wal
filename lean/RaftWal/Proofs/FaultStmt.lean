/-
  Proofs/FaultStmt.lean — the statements of the fault theorems (C10 at the level of the durability protocol), as
  propositions.  They are proved in Proofs/FaultProps.lean.
-/
import RaftWal.Proofs.FaultDefs
import RaftWal.Proofs.CrashProps
namespace RaftWal.Fault
open RaftWal.Crash

/-- a state an Open leaves: the disk is `QuiescentS`, the process accepts writes -/
def Fresh (p : Proc) : Prop := QuiescentS p.disk ∧ p.frozen = none

/-! ### fresh states -/
def fresh_view_stmt : Prop := ∀ p, Fresh p → view p = absLog p.disk
def fresh_inv_stmt : Prop := ∀ p, Fresh p → FInvS p
def init_fresh_stmt : Prop := ∃ p, Fault.init = some p ∧ Fresh p ∧ view p = []
/-- without a fault, on a fresh state, a call does exactly what Model.Crash says it does, and returns nil -/
def no_fault_agrees_stmt : Prop :=
  ∀ p, Fresh p → ∀ op, op.ok p.disk → ∀ pl : Plan, pl.all (·.isNone) = true →
    (runOp p op pl).1.disk = p.disk.applyAll (prog p.disk op) ∧ (runOp p op pl).2 = true ∧
    (runOp p op pl).1.frozen = none

/-! ### one call under any fault plan -/
def finv_call_stmt : Prop :=
  ∀ p, FInvS p → ∀ op, OkV (view p) op → ∀ pl, FInvS (runOp p op pl).1

/-- what readers of the running process see changes exactly when the call returns nil, and then as specified -/
def call_view_stmt : Prop :=
  ∀ p, FInv p → ∀ op, OkV (view p) op → ∀ pl,
    view (runOp p op pl).1 = if (runOp p op pl).2 then specApply (view p) op else view p

/-- the log the disk stands for (what a restart would recover) after a call: what readers see; or, the call having
    failed, what they would see had it succeeded; or it moved along with the call from what it was -/
def call_disklog_stmt : Prop :=
  ∀ p, FInv p → ∀ op, OkV (view p) op → ∀ pl,
    absLog (runOp p op pl).1.disk = view (runOp p op pl).1 ∨
    ((runOp p op pl).2 = false ∧ absLog (runOp p op pl).1.disk = specApply (view p) op) ∨
    absLog (runOp p op pl).1.disk = (if (runOp p op pl).2 then specApply (absLog p.disk) op else absLog p.disk)

/-! ### restart  (first stated for `FInv`: refuted — `restart_total_refuted`, `restart_view_refuted` in FaultRestart) -/
def restart_total_stmt0 : Prop := ∀ p, FInv p → ∃ p', restart p = some p' ∧ Fresh p'
def restart_view_stmt0 : Prop := ∀ p, FInv p → ∀ p', restart p = some p' → view p' = absLog p.disk
def restart_total_stmt : Prop := ∀ p, FInvS p → ∃ p', restart p = some p' ∧ Fresh p'
def restart_view_stmt : Prop := ∀ p, FInvS p → ∀ p', restart p = some p' → view p' = absLog p.disk

/-! ### histories -/
def epoch_inv_stmt : Prop := ∀ p0 h p, Fresh p0 → Epoch p0 h p → FInvS p
/-- **(a), (b) in the running process**: readers see exactly the calls that returned nil, whatever failed in between -/
def epoch_view_stmt : Prop := ∀ p0 h p, Fresh p0 → Epoch p0 h p → view p = replay (view p0) h
/-- **(a), (c) after a clean restart**: Open succeeds, leaves a fresh process, and the log it recovers is the history with
    every call that returned nil applied and each call that returned an error applied in full or not at all -/
def epoch_restart_stmt : Prop :=
  ∀ p0 h p, Fresh p0 → Epoch p0 h p →
    ∃ p', restart p = some p' ∧ Fresh p' ∧ ∃ c, Resolves h c ∧ view p' = replay (view p0) c

end RaftWal.Fault
