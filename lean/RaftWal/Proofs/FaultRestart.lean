/-
  Proofs/FaultRestart.lean — the restart theorems, by reduction to the crash development: the disk of an `FInvS` process
  is a state of its recovery invariant `Rec`, from which Open succeeds, leaves a `QuiescentS` state and recovers exactly the
  log the disk stands for (`open_rec_total`).

  For `FInv` alone the restart statements (`restart_total_stmt0`, `restart_view_stmt0` of FaultStmt.lean) are false:
  witnesses `cexRun`, `cexStop`, `cexStop2` below.  `FInvS` is `FInv` plus the executable conjunct `fextraB` (FaultDefs.lean) that excludes them.
-/
import RaftWal.Proofs.FaultStates
import RaftWal.Proofs.FaultOpenLog
namespace RaftWal.Fault.D
open RaftWal.Crash RaftWal.Crash.D

/-! ### the disk of an `FInvS` process is a state of the recovery invariant -/

theorem rec_of_finvRun {d : Disk} (h : finvRunB d = true) (hx : fextraRunB d = true) :
    ∃ P t, Rec (fun _ => True) d P t := by
  obtain ⟨P, t, f, h⟩ := A.FRun.of_finv h
  exact ⟨P, t, h.toRec ((A.fextraRun_iff h).1 hx) trivial trivial⟩

/-- a stopped process: the tail of the committed segment list has no file yet; the files are those of the state before
    the commit, the committed list is what `fextraStopB` says it is -/
theorem rec_of_finvStop {d : Disk} {segs0 : List Seg} (h : finvStopB d segs0 = true) (hx : fextraStopB d = true) :
    ∃ P t, Rec (fun _ => True) d P t := by
  unfold finvStopB at h
  simp only [Bool.and_eq_true, decide_eq_true_eq] at h
  obtain ⟨⟨h1, h2⟩, h3⟩ := h
  obtain ⟨_, _, _, hF⟩ := A.FRun.of_finv h2
  cases hn : d.md.segs.getLast? with
  | none => rw [hn] at h3; cases h3
  | some n =>
    rw [hn] at h3
    simp only [Bool.and_eq_true, beq_iff_eq, Bool.not_eq_eq_eq_not, Bool.not_true, Option.isNone_iff_eq_none] at h3
    obtain ⟨⟨h31, h32⟩, h33⟩ := h3
    unfold fextraStopB at hx
    rw [hn] at hx
    simp only [Bool.and_eq_true, List.all_eq_true, fileOK_false_iff, nodupB_iff, decide_eq_true_eq] at hx
    obtain ⟨⟨⟨⟨⟨x1, x2⟩, x3⟩, x4⟩, x5⟩, x6⟩ := hx
    have hs := segs_split hn
    refine ⟨d.md.segs.dropLast, n, ⟨hs, x1, by rw [← hs]; exact x2, by rw [← hs]; exact x3, by rw [← hs]; exact x4,
      hF.base.nodupF, ?_, h32, Nat.le_of_eq x5.symm, x6, hF.base.hl⟩, ?_, ?_⟩
    · exact fun j hj => Nat.lt_of_lt_of_le (hF.base.fidlt j hj) (Nat.sub_le _ _)
    · intro f hf; rw [h33] at hf; cases hf
    · intro _; exact ⟨x5, trivial⟩

theorem finvS_rec {p : Proc} (h : FInvS p) : ∃ P t, Rec (fun _ => True) p.disk P t := by
  obtain ⟨d, fz⟩ := p
  cases fz with
  | none => exact rec_of_finvRun h.1 h.2
  | some segs0 => exact rec_of_finvStop h.1 h.2

/-! ### restart, for `FInvS` -/

/-- what a clean restart of an `FInvS` process does -/
theorem restart_spec (p : Proc) (hi : FInvS p) :
    ∃ p', restart p = some p' ∧ Fresh p' ∧ absLog p'.disk = absLog p.disk ∧
      p'.disk.md.stable = p.disk.md.stable := by
  obtain ⟨P, t, hr⟩ := finvS_rec hi
  obtain ⟨d', ho, hq, hl, hs⟩ := open_rec_total (hr.crash .proc)
  refine ⟨{ disk := d' }, ?_, ⟨hq, rfl⟩, ?_, ?_⟩
  · unfold restart; rw [ho]; rfl
  · rw [hl, absLog_crash_proc_D]
  · rw [hs, crash_md]

theorem restart_total : restart_total_stmt := by
  intro p hi
  obtain ⟨p', h1, h2, _⟩ := restart_spec p hi
  exact ⟨p', h1, h2⟩

theorem restart_view : restart_view_stmt := by
  intro p hi p' h
  obtain ⟨p'', h1, h2, h3, _⟩ := restart_spec p hi
  rw [h] at h1; cases h1
  rw [E.fresh_view p' h2, h3]

theorem restart_stable (p : Proc) (hi : FInvS p) (p' : Proc) (h : restart p = some p') :
    p'.disk.md.stable = p.disk.md.stable := by
  obtain ⟨p'', h1, _, _, h4⟩ := restart_spec p hi
  rw [h] at h1; cases h1
  exact h4

/-! ### the statements of FaultStmt.lean are false for `FInv` alone -/

/-- running process, the tail file empty but durably sealed (`cleanTail` hides the seal from `finvRunB`): Open
    completes the "rotation" and records the empty segment as sealed with `max = base - 1 < min` -/
def cexRun : Proc :=
  { disk := { md := { nextID := 1, segs := [newSeg 0 1], stable := [] },
              files := [{ id := 0, base := 1, synced := [], pending := [], sealedS := true, sealedP := false,
                          linked := true, hsynced := false }] } }

theorem cexRun_finv : FInv cexRun := by decide

theorem restart_total_refuted : ¬ restart_total_stmt0 := by
  intro h
  obtain ⟨p', h1, h2, _⟩ := h cexRun cexRun_finv
  have e : restart cexRun = some
      { disk := { md := { nextID := 2, segs := [{ id := 0, base := 1, min := 1, max := 0, sealed := true }, newSeg 1 1],
                          stable := [] },
                  files := [{ id := 0, base := 1, synced := [], pending := [], sealedS := true, sealedP := false,
                              linked := true, hsynced := true },
                            { id := 1, base := 1, synced := [], pending := [], sealedS := false, sealedP := false,
                              linked := false, hsynced := false }] } } := by decide
  rw [e] at h1; cases h1
  have := (quiescentSB_iff _).2 h2
  revert this; decide

/-- stopped process: `finvStopB` relates the committed segment list to the published one only through its last
    element.  Here the committed list names the old tail as sealed although its file still carries the batch a failed
    append left: Open succeeds, but the state is not quiescent and readers do not see the log the disk stands for -/
def cexStop : Proc :=
  { disk := { md := { nextID := 2, segs := [{ id := 0, base := 1, min := 1, max := 5, sealed := true }, newSeg 1 2],
                      stable := [] },
              files := [{ id := 0, base := 1, synced := [5], pending := [6], sealedS := false, sealedP := false,
                          linked := true, hsynced := true }] },
    frozen := some [newSeg 0 1] }

theorem cexStop_finv : FInv cexStop := by decide

def cexStop' : Proc :=
  { disk := { md := { nextID := 2, segs := [{ id := 0, base := 1, min := 1, max := 5, sealed := true }, newSeg 1 2],
                      stable := [] },
              files := [{ id := 0, base := 1, synced := [5], pending := [6], sealedS := false, sealedP := false,
                          linked := true, hsynced := false },
                        { id := 1, base := 2, synced := [], pending := [], sealedS := false, sealedP := false,
                          linked := false, hsynced := false }] } }

theorem cexStop_restart : restart cexStop = some cexStop' := by decide

theorem restart_total_refuted' : ¬ restart_total_stmt0 := by
  intro h
  obtain ⟨p', h1, h2, _⟩ := h cexStop cexStop_finv
  rw [cexStop_restart] at h1; cases h1
  have := (quiescentSB_iff _).2 h2
  revert this; decide

theorem restart_view_refuted : ¬ restart_view_stmt0 := by
  intro h
  have := h cexStop cexStop_finv cexStop' cexStop_restart
  revert this; decide

/-- with a committed list that names a sealed segment without a file, Open even fails -/
def cexStop2 : Proc :=
  { disk := { md := { nextID := 2, segs := [{ id := 7, base := 1, min := 1, max := 5, sealed := true }, newSeg 1 6],
                      stable := [] },
              files := [{ id := 0, base := 1, synced := [5], pending := [], sealedS := false, sealedP := false,
                          linked := true, hsynced := true }] },
    frozen := some [newSeg 0 1] }

theorem restart_fails_without_extra : FInv cexStop2 ∧ restart cexStop2 = none := by decide

/-- the counterexamples violate the extra conjunct -/
theorem cex_not_extra : fextraB cexRun = false ∧ fextraB cexStop = false ∧ fextraB cexStop2 = false := by decide

end RaftWal.Fault.D
