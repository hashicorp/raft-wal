/-
  Proofs/ConcWLive.lean — deadlock freedom from `MutexInv` and `WakeInv`, under the single-appender discipline
  (`can_move1`) and hence without it (`can_move`).
-/
import RaftWal.Proofs.ConcWSingle
namespace RaftWal.ConcW

theorem setW_ne {s s2 : Sys} {i : Nat} {w w' : Writer} (hw : s.writers[i]? = some w) (h2 : s2.writers = s.writers)
    (hne : w'.pc ≠ w.pc) : setW s2 i w' ≠ s := by
  intro e
  have h : (setW s2 i w').writers[i]? = s.writers[i]? := by rw [e]
  rw [setW_writers, h2, hw, List.getElem?_set_self (List.getElem?_eq_some_iff.mp hw).1] at h
  cases h
  exact hne rfl

theorem WStep.pc_ne {s : Sys} {w : Writer} {b : Bool} {pc' : WPc} (ht : WStep s w b pc') : pc' ≠ w.pc := by
  cases ht <;> intro e <;> simp_all

theorem WMove.stuck {s s' : Sys} {i : Nat} {w : Writer} (hm : WMove s i w s') (hw : s.writers[i]? = some w)
    (e : s' = s) : WBlocked s w.seals w.pc := by
  cases hm with
  | stay hb => exact hb
  | step ht => exact absurd e (setW_ne hw rfl ht.pc_ne)
  | queue hpc => exact absurd e (setW_ne hw rfl (hpc ▸ nofun))

theorem RStep.stuck {s s' : Sys} (ht : RStep s s') (e : s' = s) :
    s.rpc ≠ .locked ∧ ∀ x, s.rpc ≠ .closing x := by
  have e := congrArg Sys.rpc e
  cases ht with
  | stay h1 h2 => exact ⟨h1, h2⟩
  | recv hr | recvClosed hr | lock hr | leave hr | rotate hr | wake c hr => rw [hr] at e; cases e
  | panic hp => rcases hp with ⟨hr, _⟩ | hr | ⟨c, hr, _⟩ <;> rw [hr] at e <;> cases e

theorem CStep.stuck {s s' : Sys} (ht : CStep s s') (e : s' = s) :
    s.cpc ≠ .idle ∧ (s.cpc = .flagged → s.lock = true) ∧ s.cpc ≠ .locked := by
  have e := congrArg Sys.cpc e
  cases ht with
  | stay h1 h2 h3 => exact ⟨h1, h2, h3⟩
  | flag hcp | lock hcp | finish hcp => rw [hcp] at e; cases e

/-- deadlock freedom under the single-appender discipline.  Suppose nobody moves.  Then Close has set the flag, so the
    lock holder, whoever it is, would move: the lock is free.  So Close is not waiting for it: it has returned.  A
    writer in the middle of its call then wants the free lock, or waits on a channel that is closed or that the
    rotation goroutine is about to close. -/
theorem can_move1 (s : Sys) (h0 : MutexInv s) (h1 : WakeInv s)
    (hp : (∃ w ∈ s.writers, ∀ r, w.pc ≠ .done r) ∨ s.cpc = .flagged ∨ s.cpc = .locked) :
    ∃ t, step1 fixed s t ≠ s := by
  refine Classical.byContradiction fun hex => ?_
  have hs : ∀ t, step1 fixed s t = s := fun t => Decidable.of_not_not fun ht => hex ⟨t, ht⟩
  obtain ⟨hc1, hc2, hc3⟩ := h0.closer_cases.stuck (hs .closer)
  obtain ⟨hr1, hr2⟩ := (stepRotator_cases s).stuck (hs .rotator)
  -- a writer that the single-appender discipline does not hold back is blocked
  have hwb : ∀ w ∈ s.writers, (w.pc = .start → sealingInFlight s = false) → WBlocked s w.seals w.pc := by
    intro w hw hg
    obtain ⟨i, hi⟩ := List.mem_iff_getElem?.mp hw
    have e := hs (.writer i)
    rw [step1_writer hi, if_neg fun h => ?_] at e
    · exact (h0.writer_cases hi).stuck hi e
    · simp only [Bool.and_eq_true, beq_iff_eq] at h
      rw [hg h.1.2] at h
      exact Bool.false_ne_true h.2
  have hcl : s.closed = true := h0.closed_iff.mpr hc1
  have hl : s.lock = false := by
    refine Bool.eq_false_iff.mpr fun hl => ?_
    rcases h0.holder hl with ⟨w, hw, hh⟩ | hr | hcp
    · have hb := hwb w hw fun h => by rw [h] at hh; cases hh
      cases hpc : w.pc with
      | locked | check => rw [hpc] at hb; exact hb
      | use => rw [hpc] at hb; exact Bool.false_ne_true (hb.2.1.symm.trans hcl)
      | _ => rw [hpc] at hh; cases hh
    · exact hr1 hr
    · exact hc3 hcp
  have hd : s.cpc = .done := by
    cases hcp : s.cpc with
    | idle => exact absurd hcp hc1
    | flagged => exact absurd (hc2 hcp) (hl ▸ nofun)
    | locked => exact absurd hcp hc3
    | done => rfl
  -- some writer has not returned; if it is held back at `start`, the append in flight has not either
  obtain ⟨w, hw, hns, hnd⟩ : ∃ w ∈ s.writers, w.pc ≠ .start ∧ ∀ r, w.pc ≠ .done r := by
    rcases hp with ⟨w, hw, hnd⟩ | h | h
    · by_cases hst : w.pc = .start
      · cases hf : sealingInFlight s with
        | false => have hb := hwb w hw fun _ => hf; rw [hst] at hb; exact hb.elim
        | true =>
          obtain ⟨w', hw', hin⟩ := List.any_eq_true.mp hf
          exact ⟨w', hw', ((inflight_iff w').mp hin).2⟩
      · exact ⟨w, hw, hst, hnd⟩
    · rw [hd] at h; cases h
    · rw [hd] at h; cases h
  have hb := hwb w hw fun h => absurd h hns
  have hfree := h0.no_writer_holds (Or.inl hl) w hw
  cases hpc : w.pc with
  | start => exact hns hpc
  | wantLock | relock => rw [hpc] at hb; exact Bool.false_ne_true (hl.symm.trans hb)
  | locked | check | use => rw [hpc] at hfree; cases hfree
  | waiting ch =>
    rw [hpc] at hb
    rcases h1.waiting_ok w hw ch hpc with hcc | ha | hr
    · exact hb hcc
    · rw [h1.done_await hd] at ha; cases ha
    · exact hr2 _ hr
  | done r => exact hnd r hpc

theorem step_ne_of_step1_ne {s : Sys} {t : Tid} (h : step1 fixed s t ≠ s) : step fixed s t ≠ s := by
  rcases step1_cases s t with e | ⟨e, _⟩
  · exact absurd e h
  · exact e ▸ h

theorem can_move (s : Sys) (h0 : MutexInv s) (h1 : WakeInv s)
    (hp : (∃ w ∈ s.writers, ∀ r, w.pc ≠ .done r) ∨ s.cpc = .flagged ∨ s.cpc = .locked) :
    ∃ t, step fixed s t ≠ s :=
  (can_move1 s h0 h1 hp).imp fun _ => step_ne_of_step1_ne

end RaftWal.ConcW
