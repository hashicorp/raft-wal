/-
  Proofs/WalModel.lean — equations of the functions of Model/Wal.lean and Model/WalRun.lean that hold in
  every state: each call split into its closed and open case, the loops of the truncations in closed form,
  the later parts of `StoreLogs`, `truncateTail` and `Open` under names of their own.
-/
import RaftWal.Model.WalRun
namespace RaftWal

def optAns : Option Err → Ans
  | none => .ok
  | some e => e.ans

def sOptAns : Option Spec.SErr → Ans
  | none => .ok
  | some e => e.ans

theorem optAns_ok {e : Option Err} : optAns e = .ok ↔ e = none := by
  cases e with
  | none => simp [optAns]
  | some e => cases e <;> simp [optAns, Err.ans]

theorem sOptAns_ok {e : Option Spec.SErr} : sOptAns e = .ok ↔ e = none := by
  cases e with
  | none => simp [sOptAns]
  | some e => cases e <;> simp [sOptAns, Spec.SErr.ans]

theorem commitIdx_eq (f : FileL) :
    f.commitIdx = if 0 < f.entries.length then f.base + f.entries.length - 1 else 0 := rfl

theorem lastIndexOf_concat (pre : List (SegS × Rdr)) (t : SegS) (r : Rdr) (tci : Nat) :
    lastIndexOf (pre ++ [(t, r)]) tci = if tci > 0 then tci else if pre = [] then 0 else t.base - 1 := by
  unfold lastIndexOf
  rw [List.reverse_append, List.reverse_singleton, List.singleton_append]
  split
  · rfl
  · cases hp : pre.reverse with
    | nil => rw [if_pos (List.reverse_eq_nil_iff.mp hp)]
    | cons x xs =>
      rw [if_neg (fun h => by rw [h] at hp; cases hp)]
      show (if t.base = 0 then 0 else t.base - 1) = _
      split
      · rename_i h0
        rw [h0]
      · rfl

theorem getLogRaw_congr {w w' : Wal} (h1 : w'.segs = w.segs) (h2 : w'.files = w.files) (idx : Nat) :
    w'.getLogRaw idx = w.getLogRaw idx := by
  unfold Wal.getLogRaw Wal.tailSeg Wal.file?
  rw [h1, h2]

theorem getLog_open (w : Wal) (idx : Nat) (hw : w.closed = false) :
    ∃ w', w.getLog idx = (w', w.getLogRaw idx) ∧ w'.cfg = w.cfg ∧ w'.nextID = w.nextID ∧ w'.segs = w.segs ∧
      w'.files = w.files ∧ w'.closed = w.closed := by
  unfold Wal.getLog
  rw [if_neg (hw ▸ Bool.false_ne_true)]
  have e : Wal.getLogRaw { w with ctr := { w.ctr with entriesR := w.ctr.entriesR + 1 } } idx = w.getLogRaw idx :=
    getLogRaw_congr rfl rfl idx
  simp only [e]
  cases w.getLogRaw idx <;> exact ⟨_, rfl, rfl, rfl, rfl, rfl, rfl⟩

/-- what `StoreLogs` does once the base of an empty log has been settled; `lastIdx` is the last
    index as read before that -/
def storeTail (w : Wal) (lastIdx : Nat) (logs : List Log) : Wal × Option Err :=
  if ¬ Wal.storeLogs.chk lastIdx logs then (w, some .other)
  else match w.tailSeg with
    | none => (w, some .other)
    | some (t, _) => match w.file? t.id with
      | none => (w, some .other)
      | some f => match appendFile f t.sizeLimit logs with
        | .error e => (w, some e)
        | .ok f' =>
          let nBytes := (logs.map encLen).sum
          let w := { w with files := updFile w.files f'
                          , ctr := { w.ctr with appends := w.ctr.appends + 1, entriesW := w.ctr.entriesW + logs.length
                                              , bytesW := w.ctr.bytesW + nBytes } }
          let w := if f'.indexStart > 0 then w.rotate f'.indexStart else w
          (w, none)

theorem storeLogs_eq (w : Wal) (first : Log) (rest : List Log) :
    w.storeLogs (first :: rest) =
      if w.closed then (w, some .closed) else
      match (if w.lastIndex = 0 ∧ first.index ≠ (w.tailSeg.map (·.1.base)).getD 0 then w.resetBase first.index else some w) with
      | none => (w, some .other)
      | some w' => storeTail w' w.lastIndex (first :: rest) := by
  unfold Wal.storeLogs storeTail
  rfl

theorem step_store_eq (w : Wal) (logs : List Log) :
    w.step (.store logs) = ((w.storeLogs logs).1, optAns (w.storeLogs logs).2) := by
  simp only [Wal.step]
  cases (w.storeLogs logs).2 <;> rfl

theorem sstep_store_eq (s : Spec.SLog) (logs : List Log) :
    s.step (.store logs) = ((s.store logs).1, sOptAns (s.store logs).2) := by
  simp only [Spec.SLog.step]
  cases (s.store logs).2 <;> rfl

theorem lastIndexOf_single (x : SegS × Rdr) (tci : Nat) : lastIndexOf [x] tci = tci := by
  unfold lastIndexOf
  split
  · rfl
  · rename_i h
    exact (Nat.eq_zero_of_not_pos h).symm

theorem walkHead_sealed (newMin tci : Nat) {s : SegS} (r : Rdr) (rest remaining : List (SegS × Rdr))
    (del : List Nat) (hs : s.sealed = true) :
    Wal.truncateHead.walk newMin tci ((s, r) :: rest) remaining del =
      if s.max ≥ newMin then (some (s, r), rest, del)
      else Wal.truncateHead.walk newMin tci rest remaining.tail (del ++ [s.id]) := by
  rw [Wal.truncateHead.walk]
  simp only [hs, not_true_eq_false, false_and, true_and, false_or]

theorem walkHead_tail (newMin tci : Nat) {t : SegS} (r : Rdr) (del : List Nat) (hs : t.sealed = false) :
    Wal.truncateHead.walk newMin tci [(t, r)] [(t, r)] del =
      if tci ≥ newMin then (some (t, r), [], del) else (none, [], del ++ [t.id]) := by
  unfold Wal.truncateHead.walk
  simp only [hs, lastIndexOf_single, Bool.false_eq_true, not_false_eq_true, true_and, false_and, or_false]
  rfl

theorem walkHead_skip (newMin tci : Nat) (dl : List (SegS × Rdr))
    (hdl : ∀ c ∈ dl, c.1.sealed = true ∧ c.1.max < newMin) (rest rem : List (SegS × Rdr)) (del : List Nat) :
    Wal.truncateHead.walk newMin tci (dl ++ rest) (dl ++ rem) del =
      Wal.truncateHead.walk newMin tci rest rem (del ++ dl.map (·.1.id)) := by
  induction dl generalizing del with
  | nil => rw [List.map_nil, List.append_nil]; rfl
  | cons a l ih =>
    have ha := hdl a List.mem_cons_self
    rw [List.cons_append, List.cons_append, walkHead_sealed newMin tci a.2 _ _ del ha.1, if_neg (Nat.not_le.mpr ha.2),
      List.tail_cons, ih (fun c hc => hdl c (List.mem_cons_of_mem _ hc)), List.append_assoc]
    rfl

theorem walkTail_spec (newMax : Nat) : ∀ (l : List (SegS × Rdr)) (del : List Nat),
    Wal.truncateTail.walk newMax l del =
      (l.dropWhile (fun c => decide (newMax < c.1.base)),
       del ++ (l.takeWhile (fun c => decide (newMax < c.1.base))).map (·.1.id)) := by
  intro l
  induction l with
  | nil => intro del; simp [Wal.truncateTail.walk]
  | cons a l ih =>
    intro del
    obtain ⟨a1, a2⟩ := a
    unfold Wal.truncateTail.walk
    by_cases h : a1.base ≤ newMax
    · simp [h, Nat.not_lt.mpr h]
    · simp [h, Nat.lt_of_not_le h, ih]

theorem dropWhile_head_false {α : Type} (p : α → Bool) (l : List α) (a : α) (b : List α)
    (h : l.dropWhile p = a :: b) : p a = false := by
  have := List.head?_dropWhile_not p l
  rw [h] at this
  exact this

theorem takeWhile_all {α : Type} (p : α → Bool) : ∀ (l : List α) (a : α), a ∈ l.takeWhile p → p a = true := by
  intro l
  induction l with
  | nil => intro a h; cases h
  | cons x xs ih =>
    intro a h
    rw [List.takeWhile_cons] at h
    split at h
    · rcases List.mem_cons.mp h with rfl | h'
      · assumption
      · exact ih a h'
    · cases h

/-- the force-seal step of `truncateTail` -/
def sealFor (w : Wal) (t : SegS) : SegS × List FileL × Bool :=
  if t.sealed then (t, w.files, true)
  else match w.file? t.id with
    | none => (t, w.files, false)
    | some f =>
      if f.indexStart > 0 then ({ t with sealed := true, indexStart := f.indexStart }, w.files, true)
      else if f.entries.length = 0 then (t, w.files, false)
      else
        let hdr := if f.wsize = 0 then fileHeaderLen else 0
        let is := f.wsize + (hdr + frameHeaderLen)
        let f' := { f with indexStart := is, wsize := f.wsize + (hdr + indexFrameSize f.entries.length + frameHeaderLen) }
        ({ t with sealed := true, indexStart := is }, updFile w.files f', true)

/-- `w0`: the state the call started in (its last index gives the count); `w`: the state whose counter advances -/
def bumpTail (w0 w : Wal) (newMax : Nat) : Wal :=
  { w with ctr := { w.ctr with tailTrunc := u64 (w.ctr.tailTrunc + (if w0.lastIndex > newMax then w0.lastIndex - newMax else 0)) } }

theorem truncateTail_eq (w : Wal) (newMax : Nat) :
    w.truncateTail newMax =
      match Wal.truncateTail.walk newMax w.segs.reverse [] with
      | (keptRev, del) =>
        match keptRev with
        | [] =>
          match Wal.createNext { w with segs := [] } 0 with
          | none => (bumpTail w w newMax, some .other)
          | some w2 => ((bumpTail w w2 newMax).removeFiles del, none)
        | (t, r) :: before =>
          match sealFor w t with
          | (t', files, ok) =>
            if ¬ ok then (w, some .other)
            else
              match Wal.createNext { w with segs := (before.reverse ++ [({ t' with max := newMax }, r)]), files := files } 0 with
              | none => (bumpTail w w newMax, some .other)
              | some w2 => ((bumpTail w w2 newMax).removeFiles del, none) := by
  unfold Wal.truncateTail sealFor bumpTail
  rfl

theorem step_del_eq (w : Wal) (mn mx : Nat) :
    w.step (.del mn mx) = ((w.deleteRange mn mx).1, optAns (w.deleteRange mn mx).2) := by
  simp only [Wal.step]
  cases (w.deleteRange mn mx).2 <;> rfl

theorem sstep_del_eq (s : Spec.SLog) (mn mx : Nat) :
    s.step (.del mn mx) = ((s.delete mn mx).1, sOptAns (s.delete mn mx).2) := by
  simp only [Spec.SLog.step]
  cases (s.delete mn mx).2 <;> rfl

theorem deleteRange_open {w : Wal} (hw : w.closed = false) (mn mx : Nat) :
    w.deleteRange mn mx =
      if mn > mx then (w, none)
      else if mx < w.firstIndex ∨ mn > w.lastIndex then (w, none)
      else if mn ≤ w.firstIndex then w.truncateHead (u64 ((Nat.min mx w.lastIndex) + 1))
      else if mx ≥ w.lastIndex then w.truncateTail (mn - 1)
      else (w, some .other) := by
  unfold Wal.deleteRange
  rw [if_neg (by rw [hw]; exact Bool.false_ne_true)]

/-- the forward walk splits the map into a deleted prefix and the rest, whatever the stop condition -/
theorem walkHead_gen (newMin tci : Nat) : ∀ (segs remaining : List (SegS × Rdr)) (del : List Nat),
    (∃ dl h rh rest, segs = dl ++ (h, rh) :: rest ∧
        Wal.truncateHead.walk newMin tci segs remaining del = (some (h, rh), rest, del ++ dl.map (·.1.id))) ∨
    Wal.truncateHead.walk newMin tci segs remaining del = (none, [], del ++ segs.map (·.1.id)) := by
  intro segs
  induction segs with
  | nil => intro remaining del; right; simp [Wal.truncateHead.walk]
  | cons a l ih =>
    intro remaining del
    obtain ⟨a1, a2⟩ := a
    unfold Wal.truncateHead.walk
    split
    · left; exact ⟨[], a1, a2, l, rfl, by simp⟩
    · rcases ih remaining.tail (del ++ [a1.id]) with ⟨dl, h, rh, rest, e1, e2⟩ | e3
      · left
        refine ⟨(a1, a2) :: dl, h, rh, rest, by rw [e1]; rfl, ?_⟩
        rw [e2]; simp
      · right
        rw [e3]; simp

theorem split_rev {α : Type} (p : α → Bool) (l : List α) :
    l = (l.reverse.dropWhile p).reverse ++ (l.reverse.takeWhile p).reverse := by
  have := congrArg List.reverse (List.takeWhile_append_dropWhile (p := p) (l := l.reverse))
  rw [List.reverse_append, List.reverse_reverse] at this
  exact this.symm

theorem deleteRange_closed {w : Wal} (hc : w.closed = true) (mn mx : Nat) : w.deleteRange mn mx = (w, some .closed) := by
  unfold Wal.deleteRange
  rw [if_pos hc]

/-- re-creating a missing tail file -/
def addTail (w : Wal) (rt : Bool) : Wal :=
  match w.tailSeg with
  | some (s, _) =>
    if rt ∧ ¬ w.files.any (fun f => f.id = s.id ∧ f.base = s.base) then
      { w with files := w.files ++ [({ id := s.id, base := s.base, codec := s.codec, entries := [], wsize := 0, indexStart := 0 } : FileL)] }
    else w
  | none => w

/-- unlinking every file that the meta store does not name -/
def sweep (w : Wal) : Wal := { w with files := w.files.filter (fun f => w.segs.any (fun s => s.1.id = f.id)) }

theorem reopen_eq (w : Wal) :
    w.reopen =
      match Wal.reopen.build w w.segs [] with
      | none => none
      | some (segs, rt) =>
        (if rt then some (addTail { w with segs := segs, closed := false } rt)
          else (addTail { w with segs := segs, closed := false } rt).createNext 0).map sweep := by
  unfold Wal.reopen addTail sweep
  rfl

end RaftWal
