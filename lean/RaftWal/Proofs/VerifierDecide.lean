/-
  Proofs/VerifierDecide.lean — the conditions on which the verifier's verdicts and bookkeeping hinge, translated from
  verifier/verifier.go and verifier/store.go on every run (Generated/VerifierDecide.lean), are the conditions of
  Model/Verifier.lean, for all arguments.  The model writes them inline, so each left side repeats the model's guard
  (`deleteRange_cases`, `verify_inflight`, `verify_range`, `uvs_follower` in VerifierOps.lean show it governing the branch).

  The simp set names every boolean connective the translator emits (`&&`, `||`, `!`), not only those of today's source,
  so a rewrite of the Go condition that keeps the decision still checks.
-/
import RaftWal.Generated.VerifierDecide
import RaftWal.Model.Verifier
namespace RaftWal.Verifier

/-- the guard under which `Node.deleteRange` resets the running sum (next to the `resetOnDelete` flag) is the code's -/
theorem delete_resets_eq_source (n : Node) (mx : Nat) :
    (n.sumStartIdx ≠ 0 ∧ mx ≥ n.sumStartIdx) ↔ Generated.verifierDeleteResetsSum n.sumStartIdx mx = true := by
  unfold Generated.verifierDeleteResetsSum
  simp only [Bool.or_eq_true, Bool.and_eq_true, decide_eq_true_eq, Bool.not_eq_true', decide_eq_false_iff_not]
  all_goals omega

/-- the guard of the first branch of `Node.verify` (in-flight blame) is the code's -/
theorem inflight_blame_eq_source (r : Report) :
    (r.written ≠ 0 ∧ r.written ≠ r.expected) ↔
      Generated.verifyBlamesInFlight r.written.toNat r.expected.toNat = true := by
  unfold Generated.verifyBlamesInFlight
  have h0 : r.written ≠ 0 ↔ r.written.toNat ≠ 0 := by
    constructor
    · intro h hc; exact h (UInt64.toNat_inj.mp (by simpa using hc))
    · intro h hc; exact h (by rw [hc]; rfl)
  have h1 : r.written ≠ r.expected ↔ r.written.toNat ≠ r.expected.toNat := by
    constructor
    · intro h hc; exact h (UInt64.toNat_inj.mp hc)
    · intro h hc; exact h (by rw [hc])
  simp only [Bool.or_eq_true, Bool.and_eq_true, decide_eq_true_eq, Bool.not_eq_true', decide_eq_false_iff_not, h0, h1]
  all_goals omega

/-- the guard of the ErrRangeMismatch branch of `Node.verify` is the code's -/
theorem range_mismatch_eq_source (n : Node) (r : Report) :
    (n.store.firstIndex > r.start) ↔ Generated.verifyRangeMismatch n.store.firstIndex r.start = true := by
  unfold Generated.verifyRangeMismatch
  simp only [Bool.or_eq_true, Bool.and_eq_true, decide_eq_true_eq, Bool.not_eq_true', decide_eq_false_iff_not]
  all_goals omega

/-- the guard under which `Node.take` names a skipped range is the code's -/
theorem skipped_range_eq_source (n : Node) (r : Report) :
    (n.lastCP > 0 ∧ n.lastCP ≠ r.start) ↔ Generated.verifierNamesSkippedRange n.lastCP r.start = true := by
  unfold Generated.verifierNamesSkippedRange
  simp only [Bool.or_eq_true, Bool.and_eq_true, decide_eq_true_eq, Bool.not_eq_true', decide_eq_false_iff_not]
  all_goals omega

/-- the guard under which `updateVerifyState` voids the follower's written sum is the code's -/
theorem written_void_eq_source (cpStart startIdx : Nat) :
    (cpStart ≠ startIdx) ↔ Generated.followerSumNotComparable cpStart startIdx = true := by
  unfold Generated.followerSumNotComparable
  simp only [Bool.or_eq_true, Bool.and_eq_true, decide_eq_true_eq, Bool.not_eq_true', decide_eq_false_iff_not]
  all_goals omega

end RaftWal.Verifier
