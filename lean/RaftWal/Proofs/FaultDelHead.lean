/-
  Proofs/FaultDelHead.lean — a head truncation under any fault plan.  Where some segment is kept, the clean disk
  afterwards is the clean disk before with the call of Model.Crash applied, whatever the failing deletions left, so
  that the crash development's theorem about that call gives the invariant and the log; where every segment goes, the
  new tail replaces everything, as in the base-index reset of StoreLogs.
-/
import RaftWal.Proofs.FaultRunActs

namespace RaftWal.Fault.B
open RaftWal.Crash RaftWal.Fault.A

/-! ### the logs of a state given as `FRun` -/

theorem FRun.view_eq_cl {d : Disk} (h : FRun d) : absLog (vdisk d) = absLog (cl d) := by
  obtain ⟨P, t, f, hr⟩ := h.unpack
  exact hr.log_cl.symm

theorem FRun.log_eq_cl {d : Disk} (h : FRun d) {t : Seg} {f : File} (ht : d.md.segs.getLast? = some t)
    (hf : d.file? t.id = some f) : absLog d = absLog (cl d) ++ idxFrom (f.base + f.synced.length) f.pending := by
  obtain ⟨P, t', f', hr⟩ := h.unpack
  have e : t' = t := Option.some.inj (hr.last.symm.trans ht)
  subst e
  have e : f' = f := Option.some.inj (hr.tf.symm.trans hf)
  subst e
  rw [hr.log_eq_view, hr.log_cl]

theorem FR.lastIndex_eq {d : Disk} {P : List Seg} {t : Seg} {f : File} (h : FR d P t f) :
    lastIndex (vdisk d) = lastIndex (cl d) := by
  unfold lastIndex; rw [h.run.view_eq_cl]

/-! ### the actions of a head truncation -/

/-- the test of the truncation, as the process evaluates it -/
abbrev gone (d : Disk) (n : Nat) : Seg → Bool := goneB (lastIndex (vdisk d)) n

theorem delHeadProg_keep {v : Disk} {n : Nat} {hd : Seg} {rest : List Seg}
    (hk : v.md.segs.dropWhile (goneB (lastIndex v) n) = hd :: rest) :
    delHeadProg v n = .commit { v.md with segs := { hd with min := n } :: rest } ::
      ((segIds (v.md.segs.takeWhile (goneB (lastIndex v) n))).map .delete ++ [.ack]) := by
  rw [delHeadProg_eq, hk, map_delete_eq]
  rfl

theorem delHeadProg_all {v : Disk} {n : Nat} (hk : v.md.segs.dropWhile (goneB (lastIndex v) n) = []) :
    delHeadProg v n = .commit ⟨v.md.nextID + 1, [newSeg v.md.nextID (lastIndex v + 1)], v.md.stable⟩ ::
      .create v.md.nextID (lastIndex v + 1) :: ((segIds v.md.segs).map .delete ++ [.ack]) := by
  have ht := List.takeWhile_append_dropWhile (p := goneB (lastIndex v) n) (l := v.md.segs)
  rw [hk, List.append_nil] at ht
  rw [delHeadProg_eq, hk, map_delete_eq, ht]
  rfl

theorem filter_ack (ids : List Nat) : (ids.map Act.delete ++ [Act.ack]).filter (· != .ack) = ids.map Act.delete := by
  rw [List.filter_append, List.filter_eq_self.2, List.filter_cons_of_neg (by decide), List.filter_nil, List.append_nil]
  intro a ha
  obtain ⟨j, _, rfl⟩ := List.mem_map.1 ha
  rfl

theorem runOp_delHead (d : Disk) (n : Nat) (pl : Plan) :
    runOp { disk := d } (.delHead n) pl = finish d (runActs d ((delHeadProg (vdisk d) n).filter (· != .ack)) pl) := by
  rfl

theorem disk_ext {a b : Disk} (hm : a.md = b.md) (hf : a.files = b.files) : a = b := by
  cases a; cases b; simp only at hm hf; subst hm hf; rfl

/-- the deletions of Model.Crash, all at once -/
theorem deletes_apply (ids : List Nat) (d : Disk) :
    d.applyAll (ids.map .delete) = { d with files := d.files.filter (fun f => decide (f.id ∉ ids)) } := by
  induction ids generalizing d with
  | nil =>
    rw [List.filter_eq_self.2 (fun _ _ => by simp)]
    rfl
  | cons a l ih =>
    rw [List.map_cons, applyAll_cons, ih]
    simp only [Disk.apply, List.filter_filter]
    congr 1
    apply List.filter_congr
    intro f _
    by_cases h1 : f.id = a <;> by_cases h2 : f.id ∈ l <;> simp [h1, h2]

section
variable {d : Disk} {P : List Seg} {t : Seg} {f : File} {n : Nat}

theorem delHead_ok_cl (h : A.FRun d P t f) (hok : OkV (view { disk := d }) (.delHead n)) : (Op.delHead n).ok (cl d) := by
  rw [view_run, ← h.log_cl] at hok
  exact hok

/-- Model.Crash's call on the clean disk takes the decisions the process takes -/
theorem delHead_prog_cl (h : A.FRun d P t f) : prog (cl d) (.delHead n) = delHeadProg (vdisk d) n := by
  show delHeadProg (cl d) n = _
  unfold delHeadProg
  rw [h.toFR.lastIndex_eq, cl_md, vdisk_md]

/-- what the call makes of what readers see, through the clean disk -/
theorem delHead_spec_cl (h : A.FRun d P t f) (hok : (Op.delHead n).ok (cl d)) :
    specApply (absLog (vdisk d)) (.delHead n) = absLog ((cl d).applyAll (delHeadProg (vdisk d) n)) := by
  rw [← h.log_cl, ← delHead_prog_cl h]
  exact (call_refines_corrected (cl d) h.qsS _ hok).2.symm

/-! ### every segment goes -/

theorem nextID_fresh (h : A.FRun d P t f) : d.md.nextID ∉ segIds d.md.segs := by
  intro hc
  obtain ⟨s, hs, e⟩ := List.mem_map.1 hc
  exact Nat.lt_irrefl _ (e ▸ h.base.idlt s (h.base.segs ▸ hs))

/-- a tail replaces every segment, then any files but its own go: readers see the empty log, which the disk stands for -/
theorem good_fresh {d' : Disk} {i b : Nat} (h : A.FRun d' [] (newSeg i b) (File.fresh i b)) (q : Nat → Bool)
    (hq : q i = true) : Good { disk := { d' with files := d'.files.filter (fun f => q f.id) } } [] := by
  have h' := (h.filter q (by simp [newSeg, hq])).1
  have := h'.good rfl (sealNonempty_of_noseal rfl rfl)
  rw [h'.view_eq] at this
  exact this

theorem delHead_all_view_nil (h : A.FRun d P t f) (hok : (Op.delHead n).ok (cl d))
    (hk : (vdisk d).md.segs.dropWhile (gone d n) = []) : specApply (absLog (vdisk d)) (.delHead n) = [] := by
  have hr := reset_run h.clean.1.base (lastIndex (vdisk d) + 1) (Nat.le_add_left 1 _)
  rw [cl_md] at hr
  have hg := good_fresh hr (fun j => decide (j ∉ segIds d.md.segs)) (decide_eq_true (nextID_fresh h))
  rw [delHead_spec_cl h hok, delHeadProg_all hk, applyAll_cons, applyAll_cons, applyAll_append, deletes_apply]
  exact hg.2.2.1

/-! ### some segment is kept -/

theorem named_congr {K K' : List Seg} (h : segIds K' = segIds K) (j : Nat) : named K' j = named K j := by
  rw [Bool.eq_iff_iff, named_iff, named_iff, h]

theorem updFile_filter_id (fs : List File) (id : Nat) (h : File → File) (hid : ∀ f, (h f).id = f.id)
    (g : Nat → Bool) :
    (updFile fs id h).filter (fun f => g f.id) = updFile (fs.filter (fun f => g f.id)) id h := by
  unfold updFile
  rw [List.filter_map]
  congr 1
  apply List.filter_congr
  intro a _
  show g (if a.id = id then h a else a).id = g a.id
  split
  · rw [hid]
  · rfl

/-- which files survive: those the kept segments name, whatever the failing deletions left -/
theorem keep_filter_eq {D K K' : List Seg} (hids : segIds K' = segIds K) (hn : (segIds (D ++ K)).Nodup)
    (g : Nat → Bool) (hg : ∀ j, j ∉ segIds D → g j = true) (j : Nat) :
    (named K' j && g j) = (decide (j ∉ segIds D) && named (D ++ K) j) := by
  rw [named_congr hids]
  have hdis : j ∈ segIds K → j ∉ segIds D := by
    intro h1 h2
    simp only [segIds, List.map_append] at hn
    exact (List.nodup_append.1 hn).2.2 j h2 j h1 rfl
  have happ : j ∈ segIds (D ++ K) ↔ j ∈ segIds D ∨ j ∈ segIds K := by simp [segIds]
  rw [Bool.eq_iff_iff]
  simp only [Bool.and_eq_true, named_iff, decide_eq_true_eq, happ]
  constructor
  · rintro ⟨h1, _⟩
    exact ⟨hdis h1, Or.inr h1⟩
  · rintro ⟨h1, h2 | h2⟩
    · exact absurd h2 h1
    · exact ⟨h2, hg j h1⟩

/-- the disk after a head truncation that keeps `hd :: rest` went through; `g`: what the deletions left -/
abbrev keepDisk (d : Disk) (n : Nat) (hd : Seg) (rest : List Seg) (g : Nat → Bool) : Disk :=
  { md := { d.md with segs := { hd with min := n } :: rest }, files := d.files.filter (fun f => g f.id) }

variable {hd : Seg} {rest : List Seg} {g : Nat → Bool}

/-- the tail is among the kept segments, whose last has its identifier -/
theorem kept_last (h : A.FRun d P t f) (hk : d.md.segs.dropWhile (gone d n) = hd :: rest) :
    t.id ∉ segIds (d.md.segs.takeWhile (gone d n)) ∧
    ∃ t1, (({ hd with min := n } : Seg) :: rest).getLast? = some t1 ∧ t1.id = t.id := by
  have hsp := List.takeWhile_append_dropWhile (p := gone d n) (l := d.md.segs)
  rw [hk] at hsp
  have hl : (hd :: rest).getLast? = some t := by
    have := h.last
    rw [← hsp, List.getLast?_append, List.getLast?_cons] at this
    rw [List.getLast?_cons]
    exact this
  constructor
  · intro hc
    have hn := h.base.nodupS
    rw [← h.base.segs, ← hsp, List.map_append] at hn
    exact (List.nodup_append.1 hn).2.2 t.id hc t.id (List.mem_map.2 ⟨t, List.mem_of_getLast? hl, rfl⟩) rfl
  · refine ⟨_, List.getLast?_cons, ?_⟩
    rw [List.getLast?_cons] at hl
    cases hl
    cases rest.getLast? <;> rfl

/-- the clean disk afterwards is the clean disk before with Model.Crash's call applied -/
theorem delHead_kept_cl (h : A.FRun d P t f) (hk : d.md.segs.dropWhile (gone d n) = hd :: rest)
    (hg : ∀ j, j ∉ segIds (d.md.segs.takeWhile (gone d n)) → g j = true) :
    cl (keepDisk d n hd rest g) = (cl d).applyAll (delHeadProg (vdisk d) n) := by
  obtain ⟨_, t1, hl1, hid1⟩ := kept_last h hk
  have hS : d.md.segs = d.md.segs.takeWhile (gone d n) ++ hd :: rest := by
    rw [← hk, List.takeWhile_append_dropWhile]
  have hn := h.base.nodupS
  rw [← h.base.segs, hS] at hn
  have hf := keep_filter_eq (D := d.md.segs.takeWhile (gone d n)) (K := hd :: rest)
    (K' := ({ hd with min := n } : Seg) :: rest) rfl hn g hg
  rw [← hS] at hf
  rw [delHeadProg_keep (v := vdisk d) hk, applyAll_cons, applyAll_append, deletes_apply]
  apply disk_ext
  · exact cl_md _
  · show _ = List.filter (fun f => decide (f.id ∉ segIds (d.md.segs.takeWhile (gone d n)))) (cl d).files
    rw [cl_files (d := keepDisk d n hd rest g) hl1, hid1, cl_files h.last,
      updFile_filter_id _ t.id cleanF cleanF_id (fun j => decide (j ∉ segIds (d.md.segs.takeWhile (gone d n)))),
      List.filter_filter, List.filter_filter]
    congr 1
    exact List.filter_congr (fun x _ => hf x.id)

/-- the invariant after a head truncation that keeps some segment and went through -/
theorem delHead_kept_run (h : A.FRun d P t f) (hok : (Op.delHead n).ok (cl d))
    (hk : d.md.segs.dropWhile (gone d n) = hd :: rest)
    (hg : ∀ j, j ∉ segIds (d.md.segs.takeWhile (gone d n)) → g j = true) :
    FRun (keepDisk d n hd rest g) ∧
    ∃ t1, (keepDisk d n hd rest g).md.segs.getLast? = some t1 ∧ (keepDisk d n hd rest g).file? t1.id = some f := by
  obtain ⟨hnot, t1, hl1, hid1⟩ := kept_last h hk
  have hr := h.toFR.run
  have htf : (keepDisk d n hd rest g).file? t1.id = some f := by
    rw [file?_eq_look]
    dsimp only
    rw [look_filter_id, hid1, hg t.id hnot, if_pos rfl]
    exact h.tf
  have hsub : ∀ j, named (({ hd with min := n } : Seg) :: rest) j = true → named d.md.segs j = true := by
    intro j hj
    rw [named_congr (K' := ({ hd with min := n } : Seg) :: rest) (K := hd :: rest) rfl, named_iff] at hj
    rw [named_iff, ← List.takeWhile_append_dropWhile (p := gone d n) (l := d.md.segs), hk, segIds, List.map_append]
    exact List.mem_append_right _ hj
  refine ⟨⟨?_, hr.nodupF.sublist (List.Sublist.map _ List.filter_sublist), fun x hx => hr.fidlt x (List.mem_filter.1 hx).1,
    fun x hx => hr.hl x (List.mem_filter.1 hx).1, ?_, t1, f, hl1, htf, h.ft.ss⟩, t1, hl1, htf⟩
  · rw [delHead_kept_cl h hk hg, ← delHead_prog_cl h]
    exact (call_refines_corrected (cl d) h.qsS _ hok).1
  · intro x hx
    rcases hr.pclean x (List.mem_filter.1 hx).1 with ⟨t2, ht2, e2⟩ | hnn | hc
    · rw [h.last] at ht2; cases ht2
      exact Or.inl ⟨t1, hl1, hid1.trans e2⟩
    · refine Or.inr (Or.inl ?_)
      cases hv : named (({ hd with min := n } : Seg) :: rest) x.id with
      | false => rfl
      | true => rw [hsub _ hv] at hnn; cases hnn
    · exact Or.inr (Or.inr hc)

theorem delHead_kept_spec (h : A.FRun d P t f) (hok : OkV (view { disk := d }) (.delHead n))
    (hk : d.md.segs.dropWhile (gone d n) = hd :: rest)
    (hg : ∀ j, j ∉ segIds (d.md.segs.takeWhile (gone d n)) → g j = true) :
    CallFrom { disk := d } (.delHead n) ({ disk := keepDisk d n hd rest g }, true) := by
  have hokc := delHead_ok_cl h hok
  obtain ⟨hrun, t1, hl1, htf⟩ := delHead_kept_run h hokc hk hg
  have hcl : absLog (cl (keepDisk d n hd rest g)) = specApply (absLog (vdisk d)) (.delHead n) := by
    rw [delHead_kept_cl h hk hg, delHead_spec_cl h hokc]
  refine ⟨(finvRunB_iff _).2 hrun, hrun.view_eq_cl.trans hcl, Or.inr (Or.inr ?_), ?_⟩
  · -- what a failed call left beyond the writer's offset lies beyond the new first index too
    show absLog (keepDisk d n hd rest g) = specApply (absLog d) (.delHead n)
    rw [hrun.log_eq_cl hl1 htf, hcl, h.log_eq_view, specApply_delHead, specApply_delHead, List.filter_append]
    congr 1
    symm
    apply List.filter_eq_self.2
    intro q hq
    have hnext : lastIndex (cl d) + 1 = f.base + f.synced.length := h.clean.1.toQO.next hokc.1
    exact decide_eq_true (Nat.le_trans (hnext ▸ hokc.2.2) (mem_idxFrom hq).1)
  · intro hx
    show fextraRunB (keepDisk d n hd rest g) = true
    rw [fextraRunB_eq hl1 htf, ← fextraRunB_eq h.last h.tf]
    exact hx

end

/-! ### the call -/

section
variable {d : Disk} {P : List Seg} {t : Seg} {f : File} {n : Nat}

theorem delHead_kept_call (h : A.FRun d P t f) (hok : OkV (view { disk := d }) (.delHead n)) {hd : Seg} {rest : List Seg}
    (hk : d.md.segs.dropWhile (gone d n) = hd :: rest) {m : Meta}
    (hm : m = { d.md with segs := { hd with min := n } :: rest }) (pl : Plan) :
    CallFrom { disk := d } (.delHead n)
      (finish d (runActs d (.commit m :: (segIds (d.md.segs.takeWhile (gone d n))).map .delete) pl)) := by
  rcases runActs_failsUnchanged d (.commit m) ((segIds (d.md.segs.takeWhile (gone d n))).map .delete) pl rfl with
    ⟨k, hr⟩ | ⟨k, hr⟩
  · -- the commit failed
    simp only [hr, finish, isCreate, Bool.false_eq_true, ↓reduceIte]
    exact callSpec_same { disk := d } h.finv _ _
  · obtain ⟨g, k1, hg, hr'⟩ := runActs_deletes (segIds (d.md.segs.takeWhile (gone d n))) (d.apply (.commit m)) k
    simp only [hr, hr', finish]
    subst hm
    exact delHead_kept_spec h hok hk hg

end

theorem delHead_spec (p : Proc) (hi : FInv p) (n : Nat) (hok : OkV (view p) (.delHead n)) (pl : Plan) :
    CallOK p (.delHead n) pl := by
  obtain ⟨d, fr⟩ := p
  cases fr with
  | some segs0 => exact callOK_frozen hi rfl (fun _ _ h => by cases h) pl
  | none =>
    obtain ⟨P, t, f, h⟩ := A.FRun.of_finv (d := d) hi
    unfold CallOK CallFrom
    rw [runOp_delHead]
    cases hk : (vdisk d).md.segs.dropWhile (gone d n) with
    | nil =>
      rw [delHeadProg_all hk, List.filter_cons_of_pos rfl, List.filter_cons_of_pos rfl, filter_ack]
      -- the commit of a tail that replaces every segment, its creation, the deletion of every file there was
      refine C.newTail_call_spec (P' := []) h rfl rfl (Or.inr rfl) (fextraRun_iff h).1
        (Rec.fresh h.base.nodupF d.md.nextID h.base.fidlt h.base.hl _ (Nat.le_add_left 1 _)
          (delHead_all_view_nil h (delHead_ok_cl h hok) hk).symm d.md.stable) ?_ pl
      intro s hs hj
      rw [List.mem_singleton.1 hs] at hj
      exact nextID_fresh h hj
    | cons hd rest =>
      rw [delHeadProg_keep hk, List.filter_cons_of_pos rfl, filter_ack]
      exact delHead_kept_call h hok hk rfl pl

end RaftWal.Fault.B
