/-
  Proofs/WalInv2Dir.lean — the directory invariant behind C13 (`DirD`), the "ids are fresh" relation
  (`Ext`), and how the elementary state changes (`createNext`, `removeFiles`, `updFile`, dropping
  segments from the map) act on them.  Nothing here depends on the simulation relation: these facts
  hold for *every* WAL state.
-/
import RaftWal.Model.WalRunX
namespace RaftWal

def skey (s : SegS × Rdr) : Nat × Nat := (s.1.id, s.1.base)
def fkey (f : FileL) : Nat × Nat := (f.id, f.base)

def Wal.keys (w : Wal) : List (Nat × Nat) := w.segs.map skey

def keep (del : List Nat) (K : List (Nat × Nat)) : List (Nat × Nat) := K.filter (fun k => !del.contains k.1)

/-- the directory, once the files with ids in `del` (a pending unlink) are gone, lists exactly the live
    segments, in the same order; ids are pairwise distinct; everything is below `n` (= `nextID`) -/
structure DirD (n : Nat) (K : List (Nat × Nat)) (files : List FileL) (del : List Nat) : Prop where
  eq : keep del (files.map fkey) = K
  nodup : (K.map (·.1)).Nodup
  klt : ∀ k ∈ K, k.1 < n
  flt : ∀ f ∈ files, f.id < n
  dlt : ∀ d ∈ del, d < n

/-- the invariant between calls: nothing pending -/
def DirEq (w : Wal) : Prop := DirD w.nextID w.keys w.files []

/-- `nextID` never decreases and every pair of the new map is an old pair or has a fresh id -/
def Ext (n : Nat) (K : List (Nat × Nat)) (n' : Nat) (K' : List (Nat × Nat)) : Prop :=
  n ≤ n' ∧ ∀ k ∈ K', k ∈ K ∨ n ≤ k.1

def WExt (w w' : Wal) : Prop := Ext w.nextID w.keys w'.nextID w'.keys

theorem Ext.refl (n : Nat) (K : List (Nat × Nat)) : Ext n K n K := ⟨Nat.le_refl _, fun _ h => Or.inl h⟩

theorem Ext.trans {n n' n'' : Nat} {K K' K'' : List (Nat × Nat)} (h1 : Ext n K n' K') (h2 : Ext n' K' n'' K'') :
    Ext n K n'' K'' := by
  refine ⟨Nat.le_trans h1.1 h2.1, ?_⟩
  intro k hk
  rcases h2.2 k hk with h | h
  · exact h1.2 k h
  · exact Or.inr (Nat.le_trans h1.1 h)

theorem Ext.sub {n : Nat} {K K' : List (Nat × Nat)} (h : ∀ k ∈ K', k ∈ K) : Ext n K n K' :=
  ⟨Nat.le_refl _, fun k hk => Or.inl (h k hk)⟩

theorem WExt.refl (w : Wal) : WExt w w := Ext.refl _ _
theorem WExt.trans {a b c : Wal} (h1 : WExt a b) (h2 : WExt b c) : WExt a c := Ext.trans h1 h2

theorem keep_nil (K : List (Nat × Nat)) : keep [] K = K := by
  simp [keep]

theorem keep_append (del : List Nat) (A B : List (Nat × Nat)) : keep del (A ++ B) = keep del A ++ keep del B := by
  simp [keep]

theorem keep_keep (d1 d2 : List Nat) (K : List (Nat × Nat)) : keep d2 (keep d1 K) = keep (d1 ++ d2) K := by
  simp only [keep, List.filter_filter]
  congr 1
  funext k
  simp [Bool.and_comm]

theorem keep_all {del : List Nat} {K : List (Nat × Nat)} (h : ∀ k ∈ K, k.1 ∉ del) : keep del K = K := by
  simp only [keep, List.filter_eq_self]
  intro k hk
  simpa using h k hk

theorem keep_none {del : List Nat} {K : List (Nat × Nat)} (h : ∀ k ∈ K, k.1 ∈ del) : keep del K = [] := by
  simp only [keep, List.filter_eq_nil_iff]
  intro k hk
  simpa using h k hk

theorem keep_files (del : List Nat) (files : List FileL) :
    keep del (files.map fkey) = (files.filter (fun f => !del.contains f.id)).map fkey := by
  simp only [keep, List.filter_map]
  rfl

theorem keep_middle {A B C : List (Nat × Nat)} {D : List Nat} (hn : ((A ++ B ++ C).map (·.1)).Nodup)
    (hD : ∀ x, x ∈ D ↔ x ∈ B.map (·.1)) : keep D (A ++ B ++ C) = A ++ C := by
  simp only [List.map_append, List.nodup_append, List.mem_map, List.mem_append] at hn
  obtain ⟨⟨hA, hB, hAB⟩, hC, hABC⟩ := hn
  rw [keep_append, keep_append]
  have e1 : keep D A = A := by
    apply keep_all
    intro k hk hin
    rw [hD] at hin
    obtain ⟨b, hb, hbe⟩ := List.mem_map.mp hin
    exact hAB k.1 ⟨k, hk, rfl⟩ k.1 ⟨b, hb, hbe⟩ rfl
  have e2 : keep D B = [] := by
    apply keep_none
    intro k hk
    rw [hD]
    exact List.mem_map.mpr ⟨k, hk, rfl⟩
  have e3 : keep D C = C := by
    apply keep_all
    intro k hk hin
    rw [hD] at hin
    obtain ⟨b, hb, hbe⟩ := List.mem_map.mp hin
    exact hABC k.1 (Or.inr ⟨b, hb, hbe⟩) k.1 ⟨k, hk, rfl⟩ rfl
  rw [e1, e2, e3]; simp

theorem DirD.of_eq {n : Nat} {K K' : List (Nat × Nat)} {files : List FileL} {del : List Nat}
    (h : DirD n K files del) (hk : K' = K) : DirD n K' files del := by
  subst hk; exact h

/-- dropping a middle part `B` of the segment map, its ids joining the pending unlink -/
theorem DirD.drop {n : Nat} {A B C : List (Nat × Nat)} {files : List FileL} {del D : List Nat}
    (h : DirD n (A ++ B ++ C) files del) (hD : ∀ x, x ∈ D ↔ x ∈ B.map (·.1)) :
    DirD n (A ++ C) files (del ++ D) := by
  refine ⟨?_, ?_, ?_, h.flt, ?_⟩
  · rw [← keep_keep, h.eq]
    exact keep_middle h.nodup hD
  · have := h.nodup
    simp only [List.map_append, List.nodup_append, List.mem_map, List.mem_append] at this ⊢
    obtain ⟨⟨hA, hB, hAB⟩, hC, hABC⟩ := this
    exact ⟨hA, hC, fun a ha b hb => hABC a (Or.inl ha) b hb⟩
  · intro k hk
    apply h.klt
    rcases List.mem_append.mp hk with h' | h'
    · simp [h']
    · simp [h']
  · intro d hd
    rcases List.mem_append.mp hd with h' | h'
    · exact h.dlt d h'
    · rw [hD] at h'
      obtain ⟨b, hb, rfl⟩ := List.mem_map.mp h'
      exact h.klt b (by simp [hb])

/-- a fresh tail: one more segment and its file, both with id `n` -/
theorem DirD.push {n : Nat} {K : List (Nat × Nat)} {files : List FileL} {del : List Nat}
    (h : DirD n K files del) (f : FileL) (hf : f.id = n) :
    DirD (n + 1) (K ++ [(n, f.base)]) (files ++ [f]) del := by
  refine ⟨?_, ?_, ?_, ?_, fun d hd => Nat.lt_succ_of_lt (h.dlt d hd)⟩
  · rw [List.map_append, keep_append, h.eq, keep_all, List.map_cons, List.map_nil, fkey, hf]
    intro k hk hin
    rw [List.mem_singleton.mp hk] at hin
    exact Nat.lt_irrefl n (hf ▸ h.dlt _ hin)
  · rw [List.map_append, List.nodup_append]
    refine ⟨h.nodup, List.pairwise_singleton _ _, fun a ha b hb => ?_⟩
    obtain ⟨k, hk, rfl⟩ := List.mem_map.mp ha
    rw [List.mem_singleton.mp hb]
    exact Nat.ne_of_lt (h.klt k hk)
  · intro k hk
    rcases List.mem_append.mp hk with h' | h'
    · exact Nat.lt_succ_of_lt (h.klt k h')
    · rw [List.mem_singleton.mp h']
      exact Nat.lt_succ_self n
  · intro g hg
    rcases List.mem_append.mp hg with h' | h'
    · exact Nat.lt_succ_of_lt (h.flt g h')
    · rw [List.mem_singleton.mp h', hf]
      exact Nat.lt_succ_self n

theorem DirD.unlink {n : Nat} {K : List (Nat × Nat)} {files : List FileL} {del : List Nat}
    (h : DirD n K files del) : DirD n K (files.filter (fun f => !del.contains f.id)) [] := by
  refine ⟨?_, h.nodup, h.klt, ?_, by simp⟩
  · rw [keep_nil, ← keep_files]; exact h.eq
  · intro f hf
    exact h.flt f (List.mem_filter.mp hf).1

theorem removeFiles_files (w : Wal) (ids : List Nat) :
    (w.removeFiles ids).files = w.files.filter (fun f => !ids.contains f.id) := by
  simp only [Wal.removeFiles]
  congr 1
  funext f
  cases List.contains ids f.id <;> rfl

theorem updFile_keys {files : List FileL} {f' : FileL} (h : ∀ g ∈ files, g.id = f'.id → g.base = f'.base) :
    (updFile files f').map fkey = files.map fkey := by
  simp only [updFile, List.map_map]
  apply List.map_congr_left
  intro g hg
  simp only [Function.comp]
  split
  · rename_i hid
    simp [fkey, hid, h g hg hid]
  · rfl

theorem pair_unique {K : List (Nat × Nat)} (hn : (K.map (·.1)).Nodup) {a b b' : Nat}
    (h1 : (a, b) ∈ K) (h2 : (a, b') ∈ K) : b = b' := by
  induction K with
  | nil => simp at h1
  | cons k K ih =>
    simp only [List.map_cons, List.nodup_cons, List.mem_map, not_exists, not_and] at hn
    rcases List.mem_cons.mp h1 with e1 | e1 <;> rcases List.mem_cons.mp h2 with e2 | e2
    · rw [← e2] at e1; exact (Prod.mk.inj e1).2
    · exact absurd (by rw [← e1]) (hn.1 (a, b') e2)
    · exact absurd (by rw [← e2]) (hn.1 (a, b) e1)
    · exact ih hn.2 e1 e2

theorem DirD.upd {n : Nat} {K : List (Nat × Nat)} {files : List FileL}
    (h : DirD n K files []) {f f' : FileL} (hf : f ∈ files) (hid : f'.id = f.id) (hb : f'.base = f.base) :
    DirD n K (updFile files f') [] := by
  have e : files.map fkey = K := (keep_nil _).symm.trans h.eq
  have hkeys : (updFile files f').map fkey = files.map fkey := by
    apply updFile_keys
    intro g hg hgid
    have h1 : (f.id, g.base) ∈ K := by
      rw [← e, ← hid, ← hgid]
      exact List.mem_map_of_mem hg
    have h2 : (f.id, f.base) ∈ K := by
      rw [← e]
      exact List.mem_map_of_mem hf
    rw [hb]
    exact pair_unique h.nodup h1 h2
  refine ⟨by rw [hkeys]; exact h.eq, h.nodup, h.klt, ?_, nofun⟩
  intro g hg
  obtain ⟨a, ha, rfl⟩ := List.mem_map.mp hg
  split
  · rw [hid]
    exact h.flt f hf
  · exact h.flt a ha

theorem of_ite_none_eq_some {α : Type _} {c : Prop} [Decidable c] {x y : α}
    (h : (if c then none else some x) = some y) : x = y := by
  by_cases hc : c
  · rw [if_pos hc] at h
    cases h
  · rw [if_neg hc] at h
    exact Option.some.inj h

theorem createNext_shape {w w' : Wal} {nb : Nat} (h : w.createNext nb = some w') :
    ∃ b, w' = { w with
      nextID := w.nextID + 1
      segs := w.segs ++ [(w.newSeg w.nextID b, .writer b)]
      files := w.files ++ [{ id := w.nextID, base := b, codec := w.cfg.newSegCodec, entries := [], wsize := 0, indexStart := 0 }] } :=
  ⟨_, (of_ite_none_eq_some h).symm⟩

theorem createNext_frame {w w' : Wal} {nb : Nat} (h : w.createNext nb = some w') :
    w'.stable = w.stable ∧ w'.ctr = w.ctr ∧ w'.closed = w.closed ∧ w'.cfg = w.cfg := by
  obtain ⟨b, rfl⟩ := createNext_shape h
  exact ⟨rfl, rfl, rfl, rfl⟩

theorem keys_push (w : Wal) (n id b : Nat) (r : Rdr) (fs : List FileL) :
    Wal.keys { w with nextID := n, segs := w.segs ++ [(w.newSeg id b, r)], files := fs } = w.keys ++ [(id, b)] := by
  simp [Wal.keys, skey, Wal.newSeg]

theorem createNext_ext {w w' : Wal} {nb : Nat} (h : w.createNext nb = some w') : WExt w w' := by
  obtain ⟨b, rfl⟩ := createNext_shape h
  refine ⟨Nat.le_succ _, fun k hk => ?_⟩
  rw [keys_push] at hk
  rcases List.mem_append.mp hk with h' | h'
  · exact Or.inl h'
  · rw [List.mem_singleton.mp h']
    exact Or.inr (Nat.le_refl _)

theorem createNext_dir {w w' : Wal} {nb : Nat} {del : List Nat} (h : w.createNext nb = some w')
    (hd : DirD w.nextID w.keys w.files del) : DirD w'.nextID w'.keys w'.files del := by
  obtain ⟨b, rfl⟩ := createNext_shape h
  rw [keys_push]
  exact hd.push { id := w.nextID, base := b, codec := w.cfg.newSegCodec, entries := [], wsize := 0, indexStart := 0 } rfl

/-- the directory holds exactly the files of the live segments: same (id, base) pairs, ids pairwise distinct and
    all below `nextID` -/
def DirExact (w : Wal) : Prop :=
  (w.files.map (fun f => (f.id, f.base))).Perm (w.segs.map (fun s => (s.1.id, s.1.base))) ∧
  (w.segs.map (fun s => s.1.id)).Nodup ∧ (∀ s ∈ w.segs, s.1.id < w.nextID)

theorem DirEq.exact {w : Wal} (h : DirEq w) : DirExact w := by
  have e := h.eq
  rw [keep_nil] at e
  refine ⟨?_, ?_, ?_⟩
  · have : w.files.map (fun f => (f.id, f.base)) = w.segs.map (fun s => (s.1.id, s.1.base)) := e
    rw [this]
  · have := h.nodup
    simpa [Wal.keys, skey, Function.comp_def] using this
  · intro s hs
    exact h.klt (skey s) (List.mem_map.mpr ⟨s, hs, rfl⟩)

end RaftWal
